import Grass.Color
import Grass.Generated.CssColorsRef
import GrassProofs.Lemmas.ColorNum
import GrassProofs.Lemmas.ColorConv
import GrassProofs.Lemmas.ColorRoundTrip
import GrassProofs.Lemmas.ColorHwb
/-
  C15 — Colours keep channels in range and agree across spellings and colour spaces.

  Everything is about the model of the code as it stands in /repo (`mix false`, `lightness false`);
  the variants found on the pinned tree (`asFound = true`: D14 rounded `lightness()`, D21 unrounded
  `mix()`) appear only in the `C15_asFound_…` witnesses at the end.

  P̂ (Grass/Color.lean): `Color.inRange` (integer channels in [0,255], alpha in [0,1]), `Color.wf` (the
  invariant that implies it and is preserved by every function), `sameColor` (equal under grass's
  `==` and printed identically in compressed mode).
-/
namespace Grass.Color
open Grass.Generated

/-! ## The named-colour table is the CSS table -/

/-- grass's `name_to_rgba` (regenerated from color/name.rs on every run) and the committed CSS
    reference table contain exactly the same (name, rgba) entries, and no name occurs twice. -/
theorem C15_named_table_eq_css :
    nameToRgba.all (fun e => cssColorsRef.contains e) = true ∧
    cssColorsRef.all (fun e => nameToRgba.contains e) = true ∧
    nameToRgba.length = cssColorsRef.length ∧
    (nameToRgba.map (·.1)).eraseDups.length = nameToRgba.length := by
  decide +kernel

example : lookupName [114, 101, 100] = some (255, 0, 0, 255) := by decide +kernel  -- "red"

/-- The reverse table used by the serializer is consistent with the forward table: every
    `rgb ↦ name` entry names a colour whose value is that rgb (opaque), and every opaque named
    colour's rgb has a reverse entry — so a colour written by name is printed by a name (possibly the
    other of a synonym pair such as aqua/cyan, gray/grey, fuchsia/magenta) of the same colour. -/
theorem C15_named_reverse_consistent :
    rgbaToName.all (fun e => lookupName e.2 == some (e.1.1, e.1.2.1, e.1.2.2, 255)) = true ∧
    nameToRgba.all (fun e => e.2.2.2.2 != 255 ||
      match lookupRgb (e.2.1, e.2.2.1, e.2.2.2.1) with
      | some n => lookupName n == some e.2
      | none => false) = true := by
  decide +kernel

example : lookupRgb (0, 255, 255) = some [97, 113, 117, 97] := by decide +kernel  -- aqua (cyan is its synonym)

/-! ## Channels stay in range -/

/-- the stored channels and raw alpha of a result, for the `example`s -/
def chansOf : Except Err Color → Option (Rat × Rat × Rat × Rat)
  | .ok c => some (c.r, c.g, c.b, c.a)
  | .error _ => none

theorem wf_inRange {c : Color} (h : c.wf = true) : c.inRange = true := by
  simp only [Color.wf, Bool.and_eq_true, Bool.or_eq_true, decide_eq_true_eq, beq_iff_eq] at h
  obtain ⟨⟨⟨hr, hg⟩, hb⟩, ha⟩ := h
  have key : 0 ≤ c.alpha ∧ c.alpha ≤ 1 := by
    unfold Color.alpha
    rcases ha with ⟨a0, a1⟩ | a255
    · split <;> grind
    · simp only [a255]; decide +kernel
  simp [Color.inRange, hr, hg, hb, key.1, key.2]

theorem wf_alpha {c : Color} (h : c.wf = true) : 0 ≤ c.alpha ∧ c.alpha ≤ 1 := by
  have := wf_inRange h
  simp only [Color.inRange, Bool.and_eq_true, decide_eq_true_eq] at this
  exact ⟨this.1.2, this.2⟩

theorem wf_mk {r g b a : Rat} {h : Option Hsl} {f : Fmt} (hr : chanOk r = true) (hg : chanOk g = true)
    (hb : chanOk b = true) (a0 : 0 ≤ a) (a1 : a ≤ 1) :
    ({ r := r, g := g, b := b, a := a, hsl := h, fmt := f } : Color).wf = true := by
  simp [Color.wf, hr, hg, hb, a0, a1]

/-- `from_rgba` / `from_rgba_fn` with integer channels (every caller passes rounded channels). -/
theorem fromRgba_wf {r g b : Rat} (a : Rat) (hr : isInt r = true) (hg : isInt g = true) (hb : isInt b = true) :
    (fromRgba r g b a).wf = true ∧ (fromRgbaFn r g b a).wf = true := by
  have ⟨a0, a1⟩ := clamp_bounds a 0 1 (by decide +kernel)
  exact ⟨wf_mk (chanOk_clamp hr) (chanOk_clamp hg) (chanOk_clamp hb) a0 a1,
         wf_mk (chanOk_clamp hr) (chanOk_clamp hg) (chanOk_clamp hb) a0 a1⟩

/-- rgb()/rgba() with numeric arguments: whatever the arguments, a produced colour is in range. -/
theorem C15_channels_in_range_rgb (r g b : Rat × String) (a : Option (Rat × String)) (c : Color)
    (h : fnRgb r g b a = .ok c) : c.wf = true ∧ c.inRange = true := by
  suffices c.wf = true from ⟨this, wf_inRange this⟩
  unfold fnRgb at h
  split at h
  · split at h
    · cases h; exact (fromRgba_wf _ (fuzzyRound_isInt _) (fuzzyRound_isInt _) (fuzzyRound_isInt _)).2
    · split at h
      · cases h; exact (fromRgba_wf _ (fuzzyRound_isInt _) (fuzzyRound_isInt _) (fuzzyRound_isInt _)).2
      · cases h
  all_goals cases h

example : chansOf (fnRgb (300, "") (-5, "") (255/2, "") (some (50, "pct"))) = some (255, 0, 128, 1/2) := by
  decide +kernel

theorem fromHsla_wf (hue sat light alpha : Rat) (a0 : 0 ≤ alpha) (a1 : alpha ≤ 1) :
    (fromHsla hue sat light alpha).wf = true ∧ (fromHslaFn hue sat light alpha).wf = true := by
  have ⟨h0, h1⟩ := sassMod_bounds hue
  have hb := hslToRgbExact_bounds (hue := sassMod hue 360) (sat := sat) (light := light) h0 h1
  simp only [fromHslaFn, fromHsla]
  generalize hslToRgbExact (sassMod hue 360) sat light = t at hb ⊢
  obtain ⟨r, g, b⟩ := t
  simp only [] at hb ⊢
  obtain ⟨⟨r0, r1⟩, ⟨g0, g1⟩, ⟨b0, b1⟩⟩ := hb
  exact ⟨wf_mk (chanOk_fuzzyRound r0 r1) (chanOk_fuzzyRound g0 g1) (chanOk_fuzzyRound b0 b1) a0 a1,
         wf_mk (chanOk_fuzzyRound r0 r1) (chanOk_fuzzyRound g0 g1) (chanOk_fuzzyRound b0 b1) a0 a1⟩

theorem pctOrUnitless_bounds {x : Rat} {u : String} {max v : Rat} (hm : 0 ≤ max)
    (h : pctOrUnitless x u max = .ok v) : 0 ≤ v ∧ v ≤ max := by
  unfold pctOrUnitless at h
  split at h
  · cases h; exact clamp_bounds _ _ _ hm
  · split at h
    · cases h; exact clamp_bounds _ _ _ hm
    · cases h

/-- hsl()/hsla() with numeric arguments — any hue, saturation and lightness, also far outside their
    ranges: a produced colour is in range. -/
theorem C15_channels_in_range_hsl (h s l : Rat × String) (a : Option (Rat × String)) (c : Color)
    (hc : fnHsl h s l a = .ok c) : c.wf = true ∧ c.inRange = true := by
  suffices c.wf = true from ⟨this, wf_inRange this⟩
  unfold fnHsl at hc
  split at hc
  · cases hc
  · simp only [] at hc
    split at hc
    · cases hc
    · rename_i alpha ha
      cases hc
      have ⟨a0, a1⟩ := pctOrUnitless_bounds (by decide +kernel) ha
      exact (fromHsla_wf _ _ _ _ a0 a1).2

example : chansOf (fnHsl (-30, "deg") (120, "pct") (50, "pct") none) = some (255, 0, 128, 1) := by
  decide +kernel

theorem fromHwb_wf (hue white black alpha : Rat) (w0 : 0 ≤ white) (b0 : 0 ≤ black) :
    (fromHwb hue white black alpha).wf = true := by
  have hb := hwbToRgbExact_bounds (hue := hue) w0 b0
  unfold fromHwb
  generalize hwbToRgbExact hue white black = t at hb ⊢
  obtain ⟨r, g, b⟩ := t
  simp only [] at hb ⊢
  obtain ⟨⟨r0, r1⟩, ⟨g0, g1⟩, ⟨b0', b1⟩⟩ := hb
  have ⟨a0, a1⟩ := clamp_bounds alpha 0 1 (by decide +kernel)
  exact wf_mk (chanOk_fuzzyRound r0 r1) (chanOk_fuzzyRound g0 g1) (chanOk_fuzzyRound b0' b1) a0 a1

theorem assertBounds_ok {x lo hi : Rat} {u : Unit} (h : assertBounds x lo hi = .ok u) : lo ≤ x ∧ x ≤ hi := by
  unfold assertBounds at h
  split at h
  · rename_i hx; exact ⟨hx.2, hx.1⟩
  · cases h

/-- color.hwb() with numeric arguments: a produced colour is in range. -/
theorem C15_channels_in_range_hwb (h w b : Rat × String) (a : Option (Rat × String)) (c : Color)
    (hc : fnHwb h w b a = .ok c) : c.wf = true ∧ c.inRange = true := by
  suffices c.wf = true from ⟨this, wf_inRange this⟩
  unfold fnHwb at hc
  split at hc
  · cases hc
  · split at hc
    · cases hc
    · split at hc
      · rename_i hw hb
        simp only [] at hc
        split at hc
        · cases hc
        · cases hc
          exact fromHwb_wf _ _ _ _ (assertBounds_ok hw).1 (assertBounds_ok hb).1
      all_goals cases hc

example : chansOf (fnHwb (120, "") (80, "pct") (60, "pct") none) = some (146, 146, 146, 1) := by
  decide +kernel

theorem natCast_le_255 {n : Nat} (h : n ≤ 255) : (n : Rat) ≤ 255 := by
  have := (Rat.natCast_le_natCast (a := n) (b := 255)).mpr h
  simpa using this

theorem chanOk_natCast {n : Nat} (h : n ≤ 255) : chanOk (n : Rat) = true := by
  simp [chanOk, isInt_natCast, Rat.natCast_nonneg, natCast_le_255 h]

theorem unit_of_nat {n : Nat} (h : n ≤ 255) : 0 ≤ (n : Rat) / 255 ∧ (n : Rat) / 255 ≤ 1 := by
  have a := natCast_le_255 h
  have b : (0 : Rat) ≤ (n : Rat) := Rat.natCast_nonneg
  constructor <;> grind

/-- a byte of two hex digits is a channel and, divided by 255, an alpha -/
theorem hexByte {d e : Nat} (hd : d < 16) (he : e < 16) :
    chanOk ((d * 16 + e : Nat) : Rat) = true ∧
    0 ≤ ((d * 16 + e : Nat) : Rat) / 255 ∧ ((d * 16 + e : Nat) : Rat) / 255 ≤ 1 :=
  ⟨chanOk_natCast (by omega), unit_of_nat (by omega)⟩

/-- hex literals (3, 4, 6 or 8 digits): the parsed colour is in range. -/
theorem C15_channels_in_range_hex (ds : List Nat) (t : String) (c : Color) (hd : ∀ d ∈ ds, d < 16)
    (h : ofHexDigits ds t = some c) : c.wf = true ∧ c.inRange = true := by
  suffices c.wf = true from ⟨this, wf_inRange this⟩
  have one : (0 : Rat) ≤ 1 ∧ (1 : Rat) ≤ 1 := by decide +kernel
  unfold ofHexDigits at h
  split at h <;> cases h <;> simp only [List.forall_mem_cons] at hd
  · obtain ⟨h1, h2, h3, -⟩ := hd
    exact wf_mk (hexByte h1 h1).1 (hexByte h2 h2).1 (hexByte h3 h3).1 one.1 one.2
  · obtain ⟨h1, h2, h3, h4, -⟩ := hd
    exact wf_mk (hexByte h1 h1).1 (hexByte h2 h2).1 (hexByte h3 h3).1 (hexByte h4 h4).2.1 (hexByte h4 h4).2.2
  · obtain ⟨h1, h2, h3, h4, h5, h6, -⟩ := hd
    exact wf_mk (hexByte h1 h2).1 (hexByte h3 h4).1 (hexByte h5 h6).1 one.1 one.2
  · obtain ⟨h1, h2, h3, h4, h5, h6, h7, h8, -⟩ := hd
    exact wf_mk (hexByte h1 h2).1 (hexByte h3 h4).1 (hexByte h5 h6).1 (hexByte h7 h8).2.1 (hexByte h7 h8).2.2

example : (ofHexDigits [10, 11, 12, 8] "#abc8").map (fun c => (c.r, c.g, c.b, c.a)) = some (170, 187, 204, 136/255) := by
  decide +kernel

theorem named_table_values_ok :
    nameToRgba.all (fun e => decide (e.2.1 ≤ 255) && decide (e.2.2.1 ≤ 255) && decide (e.2.2.2.1 ≤ 255)
      && (e.2.2.2.2 == 0 || e.2.2.2.2 == 255)) = true := by
  decide +kernel

/-- named colours: the colour the parser builds is in range (raw alpha 255 reads back as 1). -/
theorem C15_channels_in_range_named (codes : List Nat) (t : String) (c : Color)
    (h : ofNameCodes codes t = some c) : c.wf = true ∧ c.inRange = true := by
  suffices c.wf = true from ⟨this, wf_inRange this⟩
  unfold ofNameCodes at h
  split at h
  · rename_i r g b a hl
    cases h
    unfold lookupName at hl
    cases hf : nameToRgba.find? (fun e => e.1 == codes.map lowerCode) with
    | none => simp [hf] at hl
    | some e =>
      simp [hf] at hl
      have hm := List.mem_of_find?_eq_some hf
      have ok := List.all_eq_true.mp named_table_values_ok e hm
      rw [hl] at ok
      simp only [Bool.and_eq_true, decide_eq_true_eq, Bool.or_eq_true, beq_iff_eq] at ok
      obtain ⟨⟨⟨hr, hg⟩, hb⟩, ha⟩ := ok
      have cr := chanOk_natCast hr; have cg := chanOk_natCast hg; have cb := chanOk_natCast hb
      rcases ha with ha | ha <;> subst ha
      · exact wf_mk cr cg cb (by simp) (by simp; decide +kernel)
      · simp [newNamed, Color.wf, cr, cg, cb]
  · cases h

example : (ofNameCodes [82, 101, 68] "ReD").map (fun c => (c.r, c.g, c.b, c.a)) = some (255, 0, 0, 255) := by
  decide +kernel

/-! ## Functions keep colours in range -/

/-- mix(): in range whatever the operands and the weight. -/
theorem C15_channels_in_range_mix (c1 c2 : Color) (w : Rat) :
    (mix false c1 c2 w).wf = true ∧ (mix false c1 c2 w).inRange = true := by
  suffices (mix false c1 c2 w).wf = true from ⟨this, wf_inRange this⟩
  unfold mix
  generalize mixPre c1 c2 w = t
  obtain ⟨r, g, b, a⟩ := t
  simp only [Bool.false_eq_true, if_false]
  exact (fromRgba_wf _ (fuzzyRound_isInt _) (fuzzyRound_isInt _) (fuzzyRound_isInt _)).1

theorem C15_channels_in_range_invert (c : Color) (w : Rat) (h : c.wf = true) :
    (invert false c w).wf = true ∧ (invert false c w).inRange = true := by
  suffices (invert false c w).wf = true from ⟨this, wf_inRange this⟩
  unfold invert
  split
  · exact h
  · exact (C15_channels_in_range_mix _ _ _).1

theorem asHsla_alpha (c : Color) : c.asHsla.2.2.2 = c.alpha := by
  unfold Color.asHsla
  split
  · rfl
  · generalize rgbToHsl (c.red / 255) (c.green / 255) (c.blue / 255) = t
    obtain ⟨h, s, l⟩ := t
    rfl

/-- adjust-hue, lighten, darken, saturate, desaturate, complement: in range for any amount. -/
theorem C15_channels_in_range_hsl_functions (c : Color) (x : Rat) (h : c.wf = true) :
    (adjustHue c x).wf = true ∧ (lighten c x).wf = true ∧ (darken c x).wf = true ∧
    (saturate c x).wf = true ∧ (desaturate c x).wf = true ∧ (complement c).wf = true := by
  have ⟨a0, a1⟩ := wf_alpha h
  have e := asHsla_alpha c
  unfold adjustHue lighten darken saturate desaturate complement
  generalize c.asHsla = t at e
  obtain ⟨hh, s, l, a⟩ := t
  simp only [] at e ⊢
  subst e
  exact ⟨(fromHsla_wf _ _ _ _ a0 a1).1, (fromHsla_wf _ _ _ _ a0 a1).1, (fromHsla_wf _ _ _ _ a0 a1).1,
    (fromHsla_wf _ _ _ _ a0 a1).1, (fromHsla_wf _ _ _ _ a0 a1).1, (fromHsla_wf _ _ _ _ a0 a1).1⟩

/-- rgba($color, $alpha), opacify/fade-in, transparentize/fade-out: in range for any amount. -/
theorem C15_channels_in_range_alpha_functions (c : Color) (x : Rat) :
    (withAlpha c x).wf = true ∧ (fadeIn c x).wf = true ∧ (fadeOut c x).wf = true :=
  ⟨(fromRgba_wf _ (roundQ_isInt _) (roundQ_isInt _) (roundQ_isInt _)).1,
   (fromRgba_wf _ (roundQ_isInt _) (roundQ_isInt _) (roundQ_isInt _)).1,
   (fromRgba_wf _ (roundQ_isInt _) (roundQ_isInt _) (roundQ_isInt _)).1⟩

example : (lighten (newRgba 18 52 87 1 .infer) (1/10)).wf = true := by decide +kernel

/-! ## Same colour through different spellings -/

theorem visitColor_compressed_congr {c d : Color} (hr : c.r = d.r) (hg : c.g = d.g) (hb : c.b = d.b)
    (ha : c.alpha = d.alpha) : visitColor true c = visitColor true d := by
  simp only [visitColor, writeRgb, Color.red, Color.green, Color.blue, hr, hg, hb, ha, if_true]

/-- Colours with the same stored channels and the same alpha (raw alphas equal, or both the “opaque”
    raw values ≥ 1 that names and literals use) are equal under grass's `==` and print identically
    in compressed mode — whatever spelling (`fmt`) they came from. -/
theorem C15_spellings_equal_and_print_same {c d : Color} (hr : c.r = d.r) (hg : c.g = d.g) (hb : c.b = d.b)
    (ha : c.alpha = d.alpha) (hraw : (1 ≤ c.a ∧ 1 ≤ d.a) ∨ c.a = d.a) : sameColor c d = true := by
  unfold sameColor
  rw [visitColor_compressed_congr hr hg hb ha]
  simp only [Color.eq, Color.chanEq, hr, hg, hb, fuzzyEq_self, beq_self_eq_true, Bool.and_true]
  rcases hraw with ⟨h1, h2⟩ | h
  · simp [h1, h2]
  · simp [h, fuzzyEq_self]

theorem alpha_of_le_one {c : Color} (h : c.a ≤ 1) : c.alpha = c.a := by
  unfold Color.alpha; split <;> grind

theorem chanOk_255_sub {x : Rat} (h : chanOk x = true) : chanOk (255 - x) = true := by
  have ⟨hi, h0, h1⟩ := chanOk_bounds h
  have e := eq_intCast_of_isInt hi
  have : isInt (255 - x) = true := by
    rw [e]
    have : (255 : Rat) - ((x.num : Int) : Rat) = ((255 - x.num : Int) : Rat) := by
      simp [Rat.intCast_sub]
    rw [this]; exact isInt_intCast _
  simp [chanOk, this]
  constructor <;> grind

theorem wf_chan {c : Color} (h : c.wf = true) : chanOk c.r = true ∧ chanOk c.g = true ∧ chanOk c.b = true := by
  simp only [Color.wf, Bool.and_eq_true] at h
  exact ⟨h.1.1.1, h.1.1.2, h.1.2⟩

theorem wf_red {c : Color} (h : c.wf = true) : c.red = c.r ∧ c.green = c.g ∧ c.blue = c.b := by
  have ⟨a, b, d⟩ := wf_chan h
  exact ⟨roundQ_of_isInt (chanOk_bounds a).1, roundQ_of_isInt (chanOk_bounds b).1, roundQ_of_isInt (chanOk_bounds d).1⟩

theorem fromRgba_own {c : Color} (hw : c.wf = true) (a : Rat) :
    (fromRgba c.red c.green c.blue a).r = c.r ∧ (fromRgba c.red c.green c.blue a).g = c.g ∧
    (fromRgba c.red c.green c.blue a).b = c.b ∧ (fromRgba c.red c.green c.blue a).a = clamp a 0 1 := by
  have ⟨cr, cg, cb⟩ := wf_chan hw
  have ⟨er, eg, eb⟩ := wf_red hw
  simp only [fromRgba, newRgba, er, eg, eb, clamp_chanOk cr, clamp_chanOk cg, clamp_chanOk cb, and_self]

theorem sameColor_of_chan {c d : Color} (hw : c.wf = true) (hr : d.r = c.r) (hg : d.g = c.g) (hb : d.b = c.b)
    (ha : d.a = c.alpha) : sameColor d c = true := by
  have ⟨a0, a1⟩ := wf_alpha hw
  have da : d.alpha = c.alpha := by rw [alpha_of_le_one (by rw [ha]; exact a1), ha]
  apply C15_spellings_equal_and_print_same hr hg hb da
  simp only [Color.wf, Bool.and_eq_true, Bool.or_eq_true, decide_eq_true_eq, beq_iff_eq] at hw
  rcases hw.2 with ⟨b0, b1⟩ | b255
  · right; rw [ha, alpha_of_le_one b1]
  · left
    have : c.alpha = 1 := by unfold Color.alpha; simp only [b255]; decide +kernel
    rw [ha, this, b255]; decide +kernel

/-! ## mix with weight 100% / 0% returns an operand -/

theorem mix_weight_end {nw ad : Rat} (h : nw = 1 ∨ nw = -1) :
    (if fuzzyEq (nw * ad) (-1) = true then nw else (nw + ad) / (1 + nw * ad)) = nw := by
  split
  · rfl
  · rename_i hne
    have : 1 + nw * ad ≠ 0 := by
      intro h0
      apply hne
      have : nw * ad = -1 := by grind
      rw [this]; exact fuzzyEq_self _
    rcases h with rfl | rfl <;> grind

theorem mixPre_one (c1 c2 : Color) : mixPre c1 c2 1 = (c1.red, c1.green, c1.blue, c1.alpha) := by
  have hc : clamp 1 0 100 = 1 := by decide +kernel
  simp only [mixPre, hc, mix_weight_end (nw := 1 * 2 - 1) (.inl (by decide +kernel)), Prod.mk.injEq]
  refine ⟨?_, ?_, ?_, ?_⟩ <;> grind

theorem mixPre_zero (c1 c2 : Color) : mixPre c1 c2 0 = (c2.red, c2.green, c2.blue, c2.alpha) := by
  have hc : clamp 0 0 100 = 0 := by decide +kernel
  simp only [mixPre, hc, mix_weight_end (nw := 0 * 2 - 1) (.inr (by decide +kernel)), Prod.mk.injEq]
  refine ⟨?_, ?_, ?_, ?_⟩ <;> grind

theorem mix_of_pre {c1 c2 c : Color} {w : Rat} (hw : c.wf = true)
    (h : mixPre c1 c2 w = (c.red, c.green, c.blue, c.alpha)) :
    let d := mix false c1 c2 w
    d.r = c.r ∧ d.g = c.g ∧ d.b = c.b ∧ d.a = c.alpha := by
  have ⟨cr, cg, cb⟩ := wf_chan hw
  have ⟨er, eg, eb⟩ := wf_red hw
  have ⟨a0, a1⟩ := wf_alpha hw
  simp only [mix, h, er, eg, eb, Bool.false_eq_true, if_false, fromRgba, newRgba,
    fuzzyRound_of_isInt (chanOk_bounds cr).1, fuzzyRound_of_isInt (chanOk_bounds cg).1,
    fuzzyRound_of_isInt (chanOk_bounds cb).1, clamp_chanOk cr, clamp_chanOk cg, clamp_chanOk cb, clamp_id a0 a1]
  refine ⟨?_, ?_, ?_, ?_⟩ <;> first | trivial | rfl

/-- mix($a, $b, 100%) is `$a` and mix($a, $b, 0%) is `$b` (same colour: `==` and compressed print),
    for all colours, also with different alphas. -/
theorem C15_mix_weight_0_100 (c1 c2 : Color) (h1 : c1.wf = true) (h2 : c2.wf = true) :
    sameColor (mix false c1 c2 1) c1 = true ∧ sameColor (mix false c1 c2 0) c2 = true := by
  have ⟨a, b, c, d⟩ := mix_of_pre h1 (mixPre_one c1 c2)
  have ⟨a', b', c', d'⟩ := mix_of_pre h2 (mixPre_zero c1 c2)
  exact ⟨sameColor_of_chan h1 a b c d, sameColor_of_chan h2 a' b' c' d'⟩

example : sameColor (mix false (newRgba 10 20 30 (1/2) .infer) (newNamed 255 0 0 255 "red") 1) (newRgba 10 20 30 (1/2) .infer) = true := by
  decide +kernel

/-! ## invert twice -/

theorem inverseOf_spec {c : Color} (h : c.wf = true) :
    (inverseOf c).wf = true ∧ (inverseOf c).r = 255 - c.r ∧ (inverseOf c).g = 255 - c.g ∧
    (inverseOf c).b = 255 - c.b ∧ (inverseOf c).alpha = c.alpha := by
  have ⟨cr, cg, cb⟩ := wf_chan h
  have ⟨er, eg, eb⟩ := wf_red h
  have ⟨a0, a1⟩ := wf_alpha h
  simp only [inverseOf, newRgba, er, eg, eb]
  exact ⟨wf_mk (chanOk_255_sub cr) (chanOk_255_sub cg) (chanOk_255_sub cb) a0 a1, trivial, trivial, trivial,
    alpha_of_le_one (c := newRgba _ _ _ _ _) a1⟩

theorem invert_full (c : Color) (h : c.wf = true) :
    let d := invert false c 1
    d.r = 255 - c.r ∧ d.g = 255 - c.g ∧ d.b = 255 - c.b ∧ d.a = c.alpha := by
  have ⟨iw, i1, i2, i3, ia⟩ := inverseOf_spec h
  have hz : fuzzyEq 1 0 = false := by decide +kernel
  obtain ⟨k1, k2, k3, k4⟩ := mix_of_pre (c2 := c) iw (mixPre_one _ _)
  simp only [invert, hz, Bool.false_eq_true, if_false]
  exact ⟨k1.trans i1, k2.trans i2, k3.trans i3, k4.trans ia⟩

/-- invert(invert($c)) is `$c` for every colour grass can build. -/
theorem C15_invert_invert (c : Color) (h : c.wf = true) :
    sameColor (invert false (invert false c 1) 1) c = true := by
  have ⟨a, b, d, e⟩ := invert_full c h
  have hw := (C15_channels_in_range_invert c 1 h).1
  have ⟨a', b', d', e'⟩ := invert_full _ hw
  have ⟨a0, a1⟩ := wf_alpha h
  apply sameColor_of_chan h
  · rw [a', a]; grind
  · rw [b', b]; grind
  · rw [d', d]; grind
  · rw [e', alpha_of_le_one (by rw [e]; exact a1), e]

example : sameColor (invert false (invert false (newNamed 18 52 87 255 "x") 1) 1) (newNamed 18 52 87 255 "x") = true := by
  decide +kernel

/-! ## opacify / transparentize clamp -/

/-- opacify/transparentize keep the channels and clamp the alpha into [0,1]. -/
theorem C15_opacify_transparentize_clamp (c : Color) (x : Rat) (h : c.wf = true) :
    (fadeIn c x).alpha = clamp (c.alpha + x) 0 1 ∧ (fadeOut c x).alpha = clamp (c.alpha - x) 0 1 ∧
    (fadeIn c 1).alpha = 1 ∧ (fadeOut c 1).alpha = 0 ∧
    (fadeIn c x).r = c.r ∧ (fadeIn c x).g = c.g ∧ (fadeIn c x).b = c.b ∧
    (fadeOut c x).r = c.r ∧ (fadeOut c x).g = c.g ∧ (fadeOut c x).b = c.b := by
  have ⟨a0, a1⟩ := wf_alpha h
  have A : ∀ y : Rat, (fromRgba c.red c.green c.blue y).alpha = clamp y 0 1 := fun y =>
    alpha_of_le_one (c := fromRgba c.red c.green c.blue y) (clamp_bounds y 0 1 (by decide +kernel)).2
  have one : clamp (c.alpha + 1) 0 1 = 1 := by
    rcases clamp_cases (c.alpha + 1) 0 1 (by decide +kernel) with ⟨e, _, _⟩ | ⟨e, _⟩ | ⟨e, _⟩ <;> grind
  have zero : clamp (c.alpha - 1) 0 1 = 0 := by
    rcases clamp_cases (c.alpha - 1) 0 1 (by decide +kernel) with ⟨e, _, _⟩ | ⟨e, _⟩ | ⟨e, _⟩ <;> grind
  have ⟨i1, i2, i3, _⟩ := fromRgba_own h (c.alpha + x)
  have ⟨o1, o2, o3, _⟩ := fromRgba_own h (c.alpha - x)
  exact ⟨A _, A _, (A _).trans one, (A _).trans zero, i1, i2, i3, o1, o2, o3⟩

/-! ## rgb → hsl → rgb -/

theorem sep_of_nat (r g b : Nat) : Sep ((r : Rat) / 255) ((g : Rat) / 255) ((b : Rat) / 255) := by
  intro u v hu hv
  rcases hu with rfl | rfl | rfl <;> rcases hv with rfl | rfl | rfl <;> exact sep_natCast _ _

/-- **Round trip, symbolic, all 2^24 colours**: converting an 8-bit RGB colour to HSL (`as_hsla`, with
    its fuzzy comparisons) and back (`from_hsla`, before the final rounding) returns exactly the
    original channels.  Proved over the six orderings of max/min in `Rat`
    (Lemmas/ColorRoundTrip.lean: `roundtripE` for all rationals in [0,1], `rgbToHsl_eq_E` for k/255). -/
theorem C15_rgb_hsl_rgb_roundtrip (r g b : Nat) (hr : r ≤ 255) (hg : g ≤ 255) (hb : b ≤ 255) :
    hslToRgbExact (rgbToHsl ((r : Rat) / 255) ((g : Rat) / 255) ((b : Rat) / 255)).1
      (rgbToHsl ((r : Rat) / 255) ((g : Rat) / 255) ((b : Rat) / 255)).2.1
      (rgbToHsl ((r : Rat) / 255) ((g : Rat) / 255) ((b : Rat) / 255)).2.2 = ((r : Rat), (g : Rat), (b : Rat)) := by
  have ⟨r0, r1⟩ := unit_of_nat hr
  have ⟨g0, g1⟩ := unit_of_nat hg
  have ⟨b0, b1⟩ := unit_of_nat hb
  rw [rgbToHsl_eq_E (sep_of_nat r g b) r1 g0, roundtripE r0 r1 g0 g1 b0 b1]
  simp only [Prod.mk.injEq]
  refine ⟨?_, ?_, ?_⟩ <;> grind

example : rgbToHsl (18/255) (52/255) (87/255) = (4840/23, 23/35, 7/34) := by decide +kernel

theorem chanOk_nat {x : Rat} (h : chanOk x = true) : ∃ n : Nat, n ≤ 255 ∧ x = (n : Rat) := by
  have ⟨hi, h0, h1⟩ := chanOk_bounds h
  have e := eq_intCast_of_isInt hi
  have n0 : 0 ≤ x.num := by
    have : (0 : Rat) ≤ ((x.num : Int) : Rat) := by rw [← e]; exact h0
    exact Rat.intCast_nonneg.mp this
  have n1 : x.num ≤ 255 := by
    have : ((x.num : Int) : Rat) ≤ ((255 : Int) : Rat) := by rw [← e]; simpa using h1
    exact Rat.intCast_le_intCast.mp this
  refine ⟨x.num.toNat, by omega, ?_⟩
  have t1 : ((x.num.toNat : Nat) : Int) = x.num := Int.toNat_of_nonneg n0
  have t2 : ((x.num.toNat : Nat) : Rat) = ((x.num : Int) : Rat) := by rw [← Rat.intCast_natCast, t1]
  rw [t2]; exact e

theorem rgbToHsl_hue_bounds (x y z : Rat) : 0 ≤ (rgbToHsl x y z).1 ∧ (rgbToHsl x y z).1 < 360 := by
  simp only [rgbToHsl]
  exact sassMod_bounds _

/-- the stored HSL of a colour, when present, is what the colour was built from (`from_hsla`) -/
def hslConsistent (c : Color) : Prop :=
  match c.hsl with
  | none => True
  | some h => 0 ≤ h.hue ∧ h.hue < 360 ∧ 0 ≤ h.sat ∧ h.sat ≤ 1 ∧ 0 ≤ h.lum ∧ h.lum ≤ 1 ∧
      c.r = fuzzyRound (hslToRgbExact h.hue h.sat h.lum).1 ∧
      c.g = fuzzyRound (hslToRgbExact h.hue h.sat h.lum).2.1 ∧
      c.b = fuzzyRound (hslToRgbExact h.hue h.sat h.lum).2.2

theorem fromHsla_fields (h s l a : Rat) :
    (fromHsla h s l a).r = fuzzyRound (hslToRgbExact (sassMod h 360) s l).1 ∧
    (fromHsla h s l a).g = fuzzyRound (hslToRgbExact (sassMod h 360) s l).2.1 ∧
    (fromHsla h s l a).b = fuzzyRound (hslToRgbExact (sassMod h 360) s l).2.2 ∧
    (fromHsla h s l a).a = a ∧
    (fromHsla h s l a).hsl = some { hue := sassMod h 360, sat := clamp s 0 1, lum := clamp l 0 1 } := by
  simp only [fromHsla]
  generalize hslToRgbExact (sassMod h 360) s l = t
  obtain ⟨r, g, b⟩ := t
  refine ⟨?_, ?_, ?_, ?_, ?_⟩ <;> first | trivial | rfl

theorem hslToRgbExact_clamp (h s l : Rat) :
    hslToRgbExact h (clamp s 0 1) (clamp l 0 1) = hslToRgbExact h s l := by
  have cs : clamp (clamp s 0 1) 0 1 = clamp s 0 1 := by
    have ⟨a, b⟩ := clamp_bounds s 0 1 (by decide +kernel); exact clamp_id a b
  have cl : clamp (clamp l 0 1) 0 1 = clamp l 0 1 := by
    have ⟨a, b⟩ := clamp_bounds l 0 1 (by decide +kernel); exact clamp_id a b
  simp only [hslToRgbExact, cs, cl]

theorem fromHsla_consistent (h s l a : Rat) : hslConsistent (fromHsla h s l a) := by
  have ⟨f1, f2, f3, _, f5⟩ := fromHsla_fields h s l a
  have ⟨h0, h1⟩ := sassMod_bounds h
  have ⟨s0, s1⟩ := clamp_bounds s 0 1 (by decide +kernel)
  have ⟨l0, l1⟩ := clamp_bounds l 0 1 (by decide +kernel)
  unfold hslConsistent
  rw [f5]
  simp only [hslToRgbExact_clamp]
  exact ⟨h0, h1, s0, s1, l0, l1, f1, f2, f3⟩

theorem hslConsistent_constructors (r g b a : Rat) (f : Fmt) (n1 n2 n3 n4 : Nat) (t : String) :
    hslConsistent (newRgba r g b a f) ∧ hslConsistent (newNamed n1 n2 n3 n4 t) ∧ hslConsistent (fromRgba r g b a) ∧
    hslConsistent (fromRgbaFn r g b a) ∧ hslConsistent (fromHwb r g b a) ∧ hslConsistent (fromHsla r g b a) ∧
    hslConsistent (fromHslaFn r g b a) := by
  refine ⟨trivial, trivial, trivial, trivial, ?_, fromHsla_consistent _ _ _ _, ?_⟩
  · unfold fromHwb
    generalize hwbToRgbExact r g b = t
    obtain ⟨x, y, z⟩ := t
    trivial
  · have := fromHsla_consistent r g b a
    unfold hslConsistent at this ⊢
    unfold fromHslaFn
    exact this

theorem wf_nat {c : Color} (h : c.wf = true) :
    ∃ r g b : Nat, r ≤ 255 ∧ g ≤ 255 ∧ b ≤ 255 ∧ c.r = (r : Rat) ∧ c.g = (g : Rat) ∧ c.b = (b : Rat) := by
  have ⟨cr, cg, cb⟩ := wf_chan h
  obtain ⟨nr, hr, er⟩ := chanOk_nat cr
  obtain ⟨ng, hg, eg⟩ := chanOk_nat cg
  obtain ⟨nb, hb, eb⟩ := chanOk_nat cb
  exact ⟨nr, ng, nb, hr, hg, hb, er, eg, eb⟩

theorem asHsla_of_some {c : Color} {h : Hsl} (e : c.hsl = some h) : c.asHsla = (h.hue, h.sat, h.lum, c.alpha) := by
  unfold Color.asHsla; rw [e]

theorem asHsla_of_none {c : Color} (e : c.hsl = none) :
    c.asHsla = ((rgbToHsl (c.red / 255) (c.green / 255) (c.blue / 255)).1,
      (rgbToHsl (c.red / 255) (c.green / 255) (c.blue / 255)).2.1,
      (rgbToHsl (c.red / 255) (c.green / 255) (c.blue / 255)).2.2, c.alpha) := by
  unfold Color.asHsla; rw [e]

/-- hsl → rgb of `as_hsla(c)` rounds to the channels of `c` — by the round trip for colours that store
    only RGB, by construction for colours that keep the HSL they were built from. -/
theorem asHsla_exact (c : Color) (hw : c.wf = true) (hc : hslConsistent c) :
    fuzzyRound (hslToRgbExact (sassMod c.asHsla.1 360) c.asHsla.2.1 c.asHsla.2.2.1).1 = c.r ∧
    fuzzyRound (hslToRgbExact (sassMod c.asHsla.1 360) c.asHsla.2.1 c.asHsla.2.2.1).2.1 = c.g ∧
    fuzzyRound (hslToRgbExact (sassMod c.asHsla.1 360) c.asHsla.2.1 c.asHsla.2.2.1).2.2 = c.b := by
  cases hh : c.hsl with
  | some h =>
    unfold hslConsistent at hc
    rw [hh] at hc
    obtain ⟨h0, h1, _, _, _, _, k1, k2, k3⟩ := hc
    rw [asHsla_of_some hh, sassMod_id h0 h1]
    exact ⟨k1.symm, k2.symm, k3.symm⟩
  | none =>
    obtain ⟨nr, ng, nb, hr, hg, hb, er, eg, eb⟩ := wf_nat hw
    have ⟨e1, e2, e3⟩ := wf_red hw
    have hb' := rgbToHsl_hue_bounds ((nr : Rat) / 255) ((ng : Rat) / 255) ((nb : Rat) / 255)
    rw [asHsla_of_none hh, e1, e2, e3, er, eg, eb]
    simp only []
    rw [sassMod_id hb'.1 hb'.2, C15_rgb_hsl_rgb_roundtrip nr ng nb hr hg hb]
    simp only [fuzzyRound_of_isInt (isInt_natCast _), and_self]

theorem rebuild (c : Color) (hw : c.wf = true) (hc : hslConsistent c) :
    (fromHsla c.asHsla.1 c.asHsla.2.1 c.asHsla.2.2.1 c.asHsla.2.2.2).r = c.r ∧
    (fromHsla c.asHsla.1 c.asHsla.2.1 c.asHsla.2.2.1 c.asHsla.2.2.2).g = c.g ∧
    (fromHsla c.asHsla.1 c.asHsla.2.1 c.asHsla.2.2.1 c.asHsla.2.2.2).b = c.b ∧
    (fromHsla c.asHsla.1 c.asHsla.2.1 c.asHsla.2.2.1 c.asHsla.2.2.2).a = c.alpha := by
  have ⟨f1, f2, f3, f4, _⟩ := fromHsla_fields c.asHsla.1 c.asHsla.2.1 c.asHsla.2.2.1 c.asHsla.2.2.2
  have ⟨k1, k2, k3⟩ := asHsla_exact c hw hc
  rw [f1, f2, f3, f4, asHsla_alpha c]
  exact ⟨k1, k2, k3, rfl⟩

/-- the same statement at the level of colours: `from_hsla(as_hsla(c))` is the same colour as `c` -/
theorem C15_rgb_hsl_rgb_roundtrip_color (c : Color) (hw : c.wf = true) (hc : hslConsistent c) :
    sameColor (fromHsla c.asHsla.1 c.asHsla.2.1 c.asHsla.2.2.1 c.asHsla.2.2.2) c = true := by
  have ⟨a, b, d, e⟩ := rebuild c hw hc
  exact sameColor_of_chan hw a b d e

example : hslConsistent (newRgba 18 52 87 1 .infer) := trivial

/-! ## lighten/darken/saturate/desaturate/adjust-hue by 0, complement twice -/

theorem hslFns_eq (c : Color) (x : Rat) :
    lighten c x = fromHsla c.asHsla.1 c.asHsla.2.1 (c.asHsla.2.2.1 + x) c.asHsla.2.2.2 ∧
    darken c x = fromHsla c.asHsla.1 c.asHsla.2.1 (c.asHsla.2.2.1 - x) c.asHsla.2.2.2 ∧
    saturate c x = fromHsla c.asHsla.1 (clamp (c.asHsla.2.1 + x) 0 1) c.asHsla.2.2.1 c.asHsla.2.2.2 ∧
    desaturate c x = fromHsla c.asHsla.1 (clamp (c.asHsla.2.1 - x) 0 1) c.asHsla.2.2.1 c.asHsla.2.2.2 ∧
    adjustHue c x = fromHsla (c.asHsla.1 + x) c.asHsla.2.1 c.asHsla.2.2.1 c.asHsla.2.2.2 ∧
    complement c = fromHsla (c.asHsla.1 + 180) c.asHsla.2.1 c.asHsla.2.2.1 c.asHsla.2.2.2 := by
  unfold lighten darken saturate desaturate adjustHue complement
  generalize c.asHsla = t
  obtain ⟨h, s, l, a⟩ := t
  exact ⟨rfl, rfl, rfl, rfl, rfl, rfl⟩

theorem fromHsla_clamp_light (h s l a : Rat) : fromHsla h s (clamp l 0 1) a = fromHsla h s l a := by
  have cl := clamp_idem l 0 1 (by decide +kernel)
  simp only [fromHsla, hslToRgbExact, cl]

theorem fromHsla_clamp_sat (h s l a : Rat) : fromHsla h (clamp s 0 1) l a = fromHsla h s l a := by
  have cs := clamp_idem s 0 1 (by decide +kernel)
  simp only [fromHsla, hslToRgbExact, cs]

theorem fromRgba_clamp_alpha (r g b a : Rat) : fromRgba r g b (clamp a 0 1) = fromRgba r g b a := by
  simp only [fromRgba, clamp_idem a 0 1 (by decide +kernel)]

theorem add_zero' (x : Rat) : x + 0 = x := by grind

theorem fromHsla_chan_congr {h h' s s' l l' a : Rat}
    (e : hslToRgbExact (sassMod h 360) s l = hslToRgbExact (sassMod h' 360) s' l') :
    (fromHsla h s l a).r = (fromHsla h' s' l' a).r ∧ (fromHsla h s l a).g = (fromHsla h' s' l' a).g ∧
    (fromHsla h s l a).b = (fromHsla h' s' l' a).b ∧ (fromHsla h s l a).a = (fromHsla h' s' l' a).a := by
  have ⟨f1, f2, f3, f4, _⟩ := fromHsla_fields h s l a
  have ⟨g1, g2, g3, g4, _⟩ := fromHsla_fields h' s' l' a
  rw [f1, f2, f3, f4, g1, g2, g3, g4, e]
  exact ⟨rfl, rfl, rfl, rfl⟩

/-- lighten, darken, saturate, desaturate and adjust-hue by 0 return the same colour. -/
theorem C15_hsl_functions_by_zero (c : Color) (hw : c.wf = true) (hc : hslConsistent c) :
    sameColor (lighten c 0) c = true ∧ sameColor (darken c 0) c = true ∧ sameColor (saturate c 0) c = true ∧
    sameColor (desaturate c 0) c = true ∧ sameColor (adjustHue c 0) c = true := by
  have ⟨e1, e2, e3, e4, e5, _⟩ := hslFns_eq c 0
  have R := C15_rgb_hsl_rgb_roundtrip_color c hw hc
  have z : ∀ x : Rat, x - 0 = x := fun x => by grind
  rw [e1, e2, e3, e4, e5]
  simp only [add_zero', z, fromHsla_clamp_sat]
  exact ⟨R, R, R, R, R⟩

example : sameColor (lighten (newRgba 18 52 87 1 .infer) 0) (newRgba 18 52 87 1 .infer) = true := by decide +kernel

theorem sassMod_shift (h : Rat) : sassMod (sassMod (h + 180) 360 + 180) 360 = sassMod h 360 := by
  have e : sassMod (h + 180) 360 + 180 = h + 360 * (((1 - ((h + 180) / 360).floor : Int)) : Rat) := by
    unfold sassMod
    simp [Rat.intCast_sub]
    grind
  rw [e, sassMod_add_int]

/-- complement(complement($c)) is `$c`: the intermediate colour keeps its exact HSL, so the two
    half-turns cancel and what remains is the rgb → hsl → rgb round trip. -/
theorem C15_complement_complement (c : Color) (hw : c.wf = true) (hc : hslConsistent c) :
    sameColor (complement (complement c)) c = true := by
  have ⟨a0, a1⟩ := wf_alpha hw
  have hal := asHsla_alpha c
  have ⟨_, _, _, _, _, e6⟩ := hslFns_eq c 0
  have ⟨_, _, _, f4, f5⟩ := fromHsla_fields (c.asHsla.1 + 180) c.asHsla.2.1 c.asHsla.2.2.1 c.asHsla.2.2.2
  -- as_hsla of the complement is its stored HSL
  have das : (complement c).asHsla = (sassMod (c.asHsla.1 + 180) 360, clamp c.asHsla.2.1 0 1, clamp c.asHsla.2.2.1 0 1, c.alpha) := by
    have al : (complement c).alpha = c.alpha := by
      rw [e6]; rw [alpha_of_le_one (by rw [f4, hal]; exact a1), f4, hal]
    have hs : (complement c).hsl = some ⟨sassMod (c.asHsla.1 + 180) 360, clamp c.asHsla.2.1 0 1, clamp c.asHsla.2.2.1 0 1⟩ := by
      rw [e6]; exact f5
    rw [asHsla_of_some hs, al]
  have ⟨_, _, _, _, _, e6'⟩ := hslFns_eq (complement c) 0
  rw [e6', das]
  simp only []
  have ⟨a, b, d, e⟩ := rebuild c hw hc
  have cg := fromHsla_chan_congr (h := sassMod (c.asHsla.1 + 180) 360 + 180) (h' := c.asHsla.1)
    (s := clamp c.asHsla.2.1 0 1) (s' := c.asHsla.2.1) (l := clamp c.asHsla.2.2.1 0 1) (l' := c.asHsla.2.2.1)
    (a := c.alpha) (by rw [sassMod_shift, hslToRgbExact_clamp])
  obtain ⟨s1, s2, s3, s4⟩ := cg
  rw [hal] at a b d e
  exact sameColor_of_chan hw (s1.trans a) (s2.trans b) (s3.trans d) (s4.trans e)

example : sameColor (complement (complement (newRgba 18 52 87 1 .infer))) (newRgba 18 52 87 1 .infer) = true := by
  decide +kernel

/-! ## Hex forms, names, rgb() -/

/-- #rgb = #rrggbb, #rgba = #rrggbbaa, #rgbf = #rgb: same colour (`==` and compressed print). -/
theorem C15_hex_forms_agree (d1 d2 d3 d4 : Nat) (t t' : String) (c c' : Color) :
    (ofHexDigits [d1, d2, d3] t = some c → ofHexDigits [d1, d1, d2, d2, d3, d3] t' = some c' → sameColor c c' = true) ∧
    (ofHexDigits [d1, d2, d3, d4] t = some c → ofHexDigits [d1, d1, d2, d2, d3, d3, d4, d4] t' = some c' → sameColor c c' = true) ∧
    (ofHexDigits [d1, d2, d3, 15] t = some c → ofHexDigits [d1, d2, d3] t' = some c' → sameColor c c' = true) ∧
    (ofHexDigits [d1, d1, d2, d2, d3, d3, 15, 15] t = some c → ofHexDigits [d1, d2, d3] t' = some c' → sameColor c c' = true) := by
  refine ⟨?_, ?_, ?_, ?_⟩
  all_goals
    intro h1 h2
    simp only [ofHexDigits, Option.some.injEq] at h1 h2
    subst h1 h2
    apply C15_spellings_equal_and_print_same <;> simp [newRgba, Color.alpha] <;> decide +kernel

example : (ofHexDigits [10, 11, 12] "#abc").isSome ∧ (ofHexDigits [10, 10, 11, 11, 12, 12] "#aabbcc").isSome := by decide

/-- A named colour, the hex literal of its table value and rgb() of the same channels are the same
    colour; with `C15_named_table_eq_css` the value is the CSS one. -/
theorem C15_name_hex_rgb_agree (r g b : Nat) (hr : r ≤ 255) (hg : g ≤ 255) (hb : b ≤ 255) (t t' : String) (c : Color)
    (h : fnRgb ((r : Rat), "") ((g : Rat), "") ((b : Rat), "") none = .ok c) :
    sameColor (newNamed r g b 255 t) (newRgba r g b 1 (.literal t')) = true ∧
    sameColor (newRgba r g b 1 (.literal t')) c = true := by
  constructor
  · apply C15_spellings_equal_and_print_same <;> simp [newNamed, newRgba, Color.alpha] <;> decide +kernel
  · have cr := chanOk_natCast hr; have cg := chanOk_natCast hg; have cb := chanOk_natCast hb
    have e : c = fromRgbaFn (r : Rat) (g : Rat) (b : Rat) 1 := by
      simp [fnRgb, pctOrUnitless, clamp_chanOk cr, clamp_chanOk cg, clamp_chanOk cb,
        fuzzyRound_of_isInt (isInt_natCast _)] at h
      exact h.symm
    subst e
    have one : clamp 1 0 1 = 1 := by decide +kernel
    apply C15_spellings_equal_and_print_same <;>
      simp [fromRgbaFn, newRgba, Color.alpha, clamp_chanOk cr, clamp_chanOk cg, clamp_chanOk cb, one]

example : (fnRgb (255, "") (0, "") (0, "") none).toOption.isSome = true := by decide +kernel

/-! ## Round trips through the accessors: hsl(hue, saturation, lightness) and hwb(hue, whiteness, blackness) -/

theorem accessors_eq (r g b : Nat) :
    let c := newRgba (r : Rat) (g : Rat) (b : Rat) 1 .infer
    let x := (r : Rat) / 255; let y := (g : Rat) / 255; let z := (b : Rat) / 255
    c.hue = hueE x y z ∧ c.saturation / 100 = (rgbToHslE x y z).2.1 ∧ c.lightness false / 100 = (rgbToHslE x y z).2.2 ∧
    c.whiteness * 100 = min3 x y z * 100 ∧ c.blackness * 100 = (1 - max3 x y z) * 100 := by
  intro c x y z
  have er : c.red = (r : Rat) := roundQ_of_isInt (isInt_natCast r)
  have eg : c.green = (g : Rat) := roundQ_of_isInt (isInt_natCast g)
  have eb : c.blue = (b : Rat) := roundQ_of_isInt (isInt_natCast b)
  have hn : c.hsl = none := rfl
  have hs := sep_of_nat r g b
  have F := minmax_facts x y z
  have ⟨w1, w2⟩ := nmin_assoc_div (r : Rat) (g : Rat) (b : Rat)
  simp only [Color.hue, Color.saturation, Color.lightness, Color.whiteness, Color.blackness, hn, er, eg, eb,
    hueE, rgbToHslE, w1, w2, Bool.false_eq_true, if_false]
  show _ ∧ _ ∧ _ ∧ _ ∧ _
  generalize hmn : min3 x y z = mn at F ⊢
  generalize hmx : max3 x y z = mx at F ⊢
  obtain ⟨f1, f2, f3, f4, f5, f6, f7, f8⟩ := F
  have e1 : fuzzyEq mn mx = decide (mn = mx) := fuzzyEq_sep (hs mn mx (by grind) (by grind))
  have e2 : fuzzyEq mx x = decide (mx = x) := fuzzyEq_sep (hs mx x (by grind) (by grind))
  have e3 : fuzzyEq mx y = decide (mx = y) := fuzzyEq_sep (hs mx y (by grind) (by grind))
  simp only [x, y, z] at e1 e2 e3 hmn hmx
  simp only [e1, e2, e3, decide_eq_true_eq]
  -- what is left is the accessors' scaling to percent
  have percent : ∀ s : Rat, s * 100 / 100 = s := fun s => by grind
  refine ⟨rfl, ?_, percent _, trivial, trivial⟩
  split
  · decide +kernel
  · exact percent _

theorem scaled_back (n : Nat) : (n : Rat) / 255 * 255 = (n : Rat) := by grind

/-- **rgb → hwb → rgb, symbolic, all 2^24 colours**: color.hwb(hue(c), whiteness(c), blackness(c)) of an
    8-bit RGB colour is that colour (`==` and compressed print). -/
theorem C15_rgb_hwb_rgb_roundtrip (r g b : Nat) (hr : r ≤ 255) (hg : g ≤ 255) (hb : b ≤ 255) :
    let c := newRgba (r : Rat) (g : Rat) (b : Rat) 1 .infer
    sameColor (fromHwb c.hue (c.whiteness * 100) (c.blackness * 100) 1) c = true := by
  intro c
  have ⟨r0, r1⟩ := unit_of_nat hr
  have ⟨g0, g1⟩ := unit_of_nat hg
  have ⟨b0, b1⟩ := unit_of_nat hb
  obtain ⟨e1, _, _, e4, e5⟩ := accessors_eq r g b
  try simp only [] at e1 e4 e5
  have rt := hwb_roundtripE (z := (b : Rat) / 255) r0 r1 g0 g1
  have one : clamp 1 0 1 = 1 := by decide +kernel
  have key : hwbToRgbExact c.hue (c.whiteness * 100) (c.blackness * 100) = ((r : Rat), (g : Rat), (b : Rat)) := by
    show hwbToRgbExact (newRgba (r : Rat) (g : Rat) (b : Rat) 1 .infer).hue _ _ = _
    rw [e1, e4, e5, rt]; simp only [scaled_back]
  have F : fromHwb c.hue (c.whiteness * 100) (c.blackness * 100) 1 = c := by
    simp only [fromHwb, key, one, fuzzyRound_of_isInt (isInt_natCast _)]
    rfl
  rw [F]
  exact C15_spellings_equal_and_print_same rfl rfl rfl rfl (Or.inr rfl)

example : (fromHwb (newRgba 18 52 87 1 .infer).hue ((newRgba 18 52 87 1 .infer).whiteness * 100)
    ((newRgba 18 52 87 1 .infer).blackness * 100) 1).b = 87 := by decide +kernel

/-- **hsl(hue(c), saturation(c), lightness(c)), symbolic, all 2^24 colours**: the accessor formulas
    (color/mod.rs:227–297, textually different from `as_hsla`) round-trip every 8-bit RGB colour. -/
theorem C15_hsl_accessors_roundtrip (r g b : Nat) (hr : r ≤ 255) (hg : g ≤ 255) (hb : b ≤ 255) :
    let c := newRgba (r : Rat) (g : Rat) (b : Rat) 1 .infer
    sameColor (fromHslaFn (sassMod c.hue 360) (c.saturation / 100) (c.lightness false / 100) 1) c = true := by
  intro c
  have ⟨r0, r1⟩ := unit_of_nat hr
  have ⟨g0, g1⟩ := unit_of_nat hg
  have ⟨b0, b1⟩ := unit_of_nat hb
  obtain ⟨e1, e2, e3, _, _⟩ := accessors_eq r g b
  try simp only [] at e1 e2 e3
  have rt := roundtripE_acc r0 r1 g0 g1 b0 b1
  have hb' : 0 ≤ hueE ((r : Rat) / 255) ((g : Rat) / 255) ((b : Rat) / 255) ∧
      hueE ((r : Rat) / 255) ((g : Rat) / 255) ((b : Rat) / 255) < 360 := by
    simp only [hueE]; exact sassMod_bounds _
  have ⟨f1, f2, f3, f4, _⟩ := fromHsla_fields (sassMod c.hue 360) (c.saturation / 100) (c.lightness false / 100) 1
  have key : hslToRgbExact (sassMod (sassMod c.hue 360) 360) (c.saturation / 100) (c.lightness false / 100) =
      ((r : Rat), (g : Rat), (b : Rat)) := by
    show hslToRgbExact (sassMod (sassMod (newRgba (r : Rat) (g : Rat) (b : Rat) 1 .infer).hue 360) 360) _ _ = _
    rw [e1, e2, e3, sassMod_id hb'.1 hb'.2, sassMod_id hb'.1 hb'.2, rt]; simp only [scaled_back]
  rw [key] at f1 f2 f3
  simp only [fuzzyRound_of_isInt (isInt_natCast _)] at f1 f2 f3
  exact C15_spellings_equal_and_print_same f1 f2 f3
    (by show Color.alpha (fromHslaFn _ _ _ _) = Color.alpha c
        have : (fromHslaFn (sassMod c.hue 360) (c.saturation / 100) (c.lightness false / 100) 1).a = 1 := f4
        simp only [Color.alpha, this]; rfl)
    (Or.inr f4)

/-! ## change-color / adjust-color / scale-color keep colours in range -/

/-- what `check_num` (other.rs:33) guarantees for an argument that is later used with `max = 1`:
    change-color accepts [0,1], adjust-color and scale-color [-1,1] (after the division by 100 where it applies) -/
def argOk (u : Upd) (v : Option Rat) : Prop :=
  ∀ x, v = some x → (if u = .change then 0 ≤ x else -1 ≤ x) ∧ x ≤ 1

/-- the same for a component with maximum `max` and as much as `update_value` needs: change-color
    [0,max], scale-color [−1,1]; nothing for adjust-color, which clamps whatever it gets -/
def ArgIn (u : Upd) (max x : Rat) : Prop :=
  match u with
  | .change => 0 ≤ x ∧ x ≤ max
  | .adjust => True
  | .scale => -1 ≤ x ∧ x ≤ 1

theorem argIn_of_argOk {u : Upd} {v : Option Rat} (h : argOk u v) : ∀ x, v = some x → ArgIn u 1 x := by
  intro x hx
  have := h x hx
  cases u with
  | change => show 0 ≤ x ∧ x ≤ 1; simpa using this
  | adjust => trivial
  | scale => show -1 ≤ x ∧ x ≤ 1; simpa using this

/-- adjust-color: the new value of one component (`max` is 255 for channels, 1 for the others) -/
def adjusted (cur : Rat) (v : Option Rat) (max : Rat) : Rat :=
  match v with | some x => clamp (x + cur) 0 max | none => cur
/-- scale-color: the new value of one component, `x` already divided by 100 -/
def scaled (cur : Rat) (v : Option Rat) (max : Rat) : Rat :=
  match v with | some x => cur + (if x > 0 then max - cur else cur) * x | none => cur

theorem updateValue_none (cur max : Rat) (u : Upd) : updateValue cur none max u = cur := rfl
theorem updateValue_change (cur x max : Rat) : updateValue cur (some x) max .change = x := rfl
theorem updateValue_adjust (cur x max : Rat) : updateValue cur (some x) max .adjust = clamp (x + cur) 0 max := rfl
theorem updateValue_scale (cur x max : Rat) :
    updateValue cur (some x) max .scale = cur + (if x > 0 then max - cur else cur) * x := rfl

theorem updateValue_eq (cur : Rat) (v : Option Rat) (max : Rat) :
    updateValue cur v max .change = v.getD cur ∧ updateValue cur v max .adjust = adjusted cur v max ∧
    updateValue cur v max .scale = scaled cur v max := by
  cases v <;> exact ⟨rfl, rfl, rfl⟩

theorem scaled_facts {cur max x : Rat} (h0 : 0 ≤ cur) (h1 : cur ≤ max) (x0 : -1 ≤ x) (x1 : x ≤ 1) :
    (0 < x → scaled cur (some x) max - cur = x * (max - cur)) ∧
    (x ≤ 0 → cur - scaled cur (some x) max = (-x) * (cur - 0)) ∧
    0 ≤ scaled cur (some x) max ∧ scaled cur (some x) max ≤ max := by
  simp only [scaled]
  refine ⟨?_, ?_, ?_, ?_⟩
  · intro h; rw [if_pos h]; grind
  · intro h; rw [if_neg (by grind)]; grind
  · split
    · have := Rat.mul_nonneg (a := max - cur) (b := x) (by grind) (by grind); grind
    · have := Rat.mul_le_mul_of_nonneg_left (a := -1) (b := x) (c := cur) x0 h0; grind
  · split
    · have := Rat.mul_le_mul_of_nonneg_left (a := x) (b := 1) (c := max - cur) x1 (by grind); grind
    · have := Rat.mul_le_mul_of_nonneg_left (a := x) (b := 0) (c := cur) (by grind) h0; grind

theorem updateValue_bounds {cur max : Rat} {v : Option Rat} {u : Upd} (h0 : 0 ≤ cur) (h1 : cur ≤ max)
    (hv : ∀ x, v = some x → ArgIn u max x) : 0 ≤ updateValue cur v max u ∧ updateValue cur v max u ≤ max := by
  cases v with
  | none => exact ⟨h0, h1⟩
  | some x =>
    have hx := hv x rfl
    cases u with
    | change => exact hx
    | adjust => exact clamp_bounds _ 0 max (by grind)
    | scale => exact (scaled_facts h0 h1 hx.1 hx.2).2.2

theorem whiteness_blackness_unit {c : Color} (h : c.wf = true) :
    (0 ≤ c.whiteness ∧ c.whiteness ≤ 1) ∧ (0 ≤ c.blackness ∧ c.blackness ≤ 1) := by
  have ⟨cr, cg, cb⟩ := wf_chan h
  have ⟨er, eg, eb⟩ := wf_red h
  have R := (chanOk_bounds cr).2
  have G := (chanOk_bounds cg).2
  have B := (chanOk_bounds cb).2
  rw [← er] at R; rw [← eg] at G; rw [← eb] at B
  have mn : 0 ≤ nmin (nmin c.red c.green) c.blue ∧ nmin (nmin c.red c.green) c.blue ≤ 255 :=
    nmin_ind (P := fun x => 0 ≤ x ∧ x ≤ 255) (nmin_ind (P := fun x => 0 ≤ x ∧ x ≤ 255) R G) B
  have mx : 0 ≤ nmax (nmax c.red c.green) c.blue ∧ nmax (nmax c.red c.green) c.blue ≤ 255 :=
    nmax_ind (P := fun x => 0 ≤ x ∧ x ≤ 255) (nmax_ind (P := fun x => 0 ≤ x ∧ x ≤ 255) R G) B
  unfold Color.whiteness Color.blackness
  constructor <;> constructor <;> grind

/-- what the constructors need of a plan: non-negative whiteness and blackness for `from_hwb`, an
    alpha in [0,1] for `from_hsla` (the other constructors clamp) -/
def Plan.ok : Plan → Prop
  | .hwb _ w b _ => 0 ≤ w ∧ 0 ≤ b
  | .hsl _ _ _ a => 0 ≤ a ∧ a ≤ 1
  | _ => True

theorem execPlan_wf {c : Color} {q : Plan} (hc : c.wf = true) (hq : q.ok) : (execPlan c q).wf = true := by
  cases q with
  | rgb r g b a => exact (fromRgba_wf _ (fuzzyRound_isInt _) (fuzzyRound_isInt _) (fuzzyRound_isInt _)).1
  | hwb h w b a => exact fromHwb_wf _ _ _ _ hq.1 hq.2
  | hsl h s l a => exact (fromHsla_wf _ _ _ _ hq.1 hq.2).1
  | alpha a => exact (C15_channels_in_range_alpha_functions c a).1
  | same => exact hc

theorem ite_eq_cases {α : Type} {c : Prop} [Decidable c] {a b x : α} (h : (if c then a else b) = x) :
    a = x ∨ b = x := by
  by_cases hc : c
  · rw [if_pos hc] at h; exact Or.inl h
  · rw [if_neg hc] at h; exact Or.inr h

theorem updatePlan_ok {u : Upd} {c : Color} {p : UpdArgs} {q : Plan} (hc : c.wf = true)
    (ha : argOk u p.alpha) (hw : argOk u p.whiteness) (hb : argOk u p.blackness)
    (h : updatePlan u c p = .ok q) : q.ok := by
  have ⟨a0, a1⟩ := wf_alpha hc
  have ⟨⟨w0, w1⟩, ⟨k0, k1⟩⟩ := whiteness_blackness_unit hc
  have A := updateValue_bounds a0 a1 (argIn_of_argOk ha)
  have W := (updateValue_bounds w0 w1 (argIn_of_argOk hw)).1
  have K := (updateValue_bounds k0 k1 (argIn_of_argOk hb)).1
  -- which branch is taken does not matter: walk down the chain of tests without deciding them
  unfold updatePlan at h
  rcases ite_eq_cases h with h | h
  · cases h
  rcases ite_eq_cases h with h | h
  · cases h
  rcases ite_eq_cases h with h | h
  · cases h; trivial
  rcases ite_eq_cases h with h | h
  · cases h; exact ⟨by grind, by grind⟩
  rcases ite_eq_cases h with h | h
  · rw [← asHsla_alpha c] at A
    generalize c.asHsla = t at h A
    obtain ⟨hh, s, l, a⟩ := t
    cases h
    exact A
  rcases ite_eq_cases h with h | h <;> (cases h; trivial)

/-- change-color / adjust-color / scale-color: with arguments in the ranges `check_num` enforces, the
    produced colour is in range (all four branches: RGB, HWB, HSL, alpha only). -/
theorem C15_channels_in_range_update (u : Upd) (c d : Color) (p : UpdArgs) (hc : c.wf = true)
    (ha : argOk u p.alpha) (hw : argOk u p.whiteness) (hb : argOk u p.blackness)
    (h : updateComponents u c p = .ok d) : d.wf = true ∧ d.inRange = true := by
  suffices d.wf = true from ⟨this, wf_inRange this⟩
  unfold updateComponents at h
  cases hq : updatePlan u c p with
  | error e => rw [hq] at h; cases h
  | ok q =>
    rw [hq] at h
    cases h
    exact execPlan_wf hc (updatePlan_ok hc ha hw hb hq)

/-! ## change-color / adjust-color / scale-color compose as documented -/

def UpdArgs.onlyRgb (p : UpdArgs) : Prop :=
  p.hue = none ∧ p.saturation = none ∧ p.lightness = none ∧ p.whiteness = none ∧ p.blackness = none
def UpdArgs.onlyHsl (p : UpdArgs) : Prop :=
  p.red = none ∧ p.green = none ∧ p.blue = none ∧ p.whiteness = none ∧ p.blackness = none
def UpdArgs.onlyHwb (p : UpdArgs) : Prop :=
  p.red = none ∧ p.green = none ∧ p.blue = none ∧ p.saturation = none ∧ p.lightness = none
def UpdArgs.onlyAlpha (p : UpdArgs) : Prop :=
  p.red = none ∧ p.green = none ∧ p.blue = none ∧ p.hue = none ∧ p.saturation = none ∧ p.lightness = none ∧
  p.whiteness = none ∧ p.blackness = none

/-! Which constructor `update_components` calls, by argument group (other.rs:193–226). -/

theorem update_rgb_group (u : Upd) (c : Color) {p : UpdArgs} (ho : p.onlyRgb)
    (hs : (p.red.isSome || p.green.isSome || p.blue.isSome) = true) :
    updateComponents u c p = .ok (fromRgba (fuzzyRound (updateValue c.red p.red 255 u))
      (fuzzyRound (updateValue c.green p.green 255 u)) (fuzzyRound (updateValue c.blue p.blue 255 u))
      (updateValue c.alpha p.alpha 1 u)) := by
  obtain ⟨h1, h2, h3, h4, h5⟩ := ho
  simp [updateComponents, updatePlan, execPlan, Except.map, h1, h2, h3, h4, h5, hs]

theorem update_hwb_group (u : Upd) (c : Color) {p : UpdArgs} (ho : p.onlyHwb)
    (hs : (p.whiteness.isSome || p.blackness.isSome) = true) :
    updateComponents u c p = .ok (fromHwb (if u = .change then p.hue.getD c.hue else c.hue + p.hue.getD 0)
      (updateValue c.whiteness p.whiteness 1 u * 100) (updateValue c.blackness p.blackness 1 u * 100)
      (updateValue c.alpha p.alpha 1 u)) := by
  obtain ⟨h1, h2, h3, h4, h5⟩ := ho
  simp [updateComponents, updatePlan, execPlan, Except.map, h1, h2, h3, h4, h5, hs]

theorem update_hsl_group (u : Upd) (c : Color) {p : UpdArgs} (ho : p.onlyHsl)
    (hs : (p.hue.isSome || p.saturation.isSome || p.lightness.isSome) = true) :
    updateComponents u c p = .ok (fromHsla (if u = .change then p.hue.getD c.asHsla.1 else c.asHsla.1 + p.hue.getD 0)
      (updateValue c.asHsla.2.1 p.saturation 1 u) (updateValue c.asHsla.2.2.1 p.lightness 1 u)
      (updateValue c.alpha p.alpha 1 u)) := by
  obtain ⟨h1, h2, h3, h4, h5⟩ := ho
  have ha := asHsla_alpha c
  generalize hq : c.asHsla = t at ha
  obtain ⟨h, s, l, a⟩ := t
  simp only [updateComponents, updatePlan, h1, h2, h3, h4, h5, hq]
  simp at hs ha ⊢
  subst ha
  rcases hs with (hs | hs) | hs <;> simp [hs, execPlan, Except.map]

theorem update_alpha_group (u : Upd) (c : Color) {p : UpdArgs} (ho : p.onlyAlpha) (hs : p.alpha.isSome = true) :
    updateComponents u c p = .ok (withAlpha c (updateValue c.alpha p.alpha 1 u)) := by
  obtain ⟨h1, h2, h3, h4, h5, h6, h7, h8⟩ := ho
  simp [updateComponents, updatePlan, execPlan, Except.map, h1, h2, h3, h4, h5, h6, h7, h8, hs]

theorem update_no_args (u : Upd) (c : Color) {p : UpdArgs} (ho : p.onlyAlpha) (hs : p.alpha = none) :
    updateComponents u c p = .ok c := by
  obtain ⟨h1, h2, h3, h4, h5, h6, h7, h8⟩ := ho
  simp [updateComponents, updatePlan, execPlan, Except.map, h1, h2, h3, h4, h5, h6, h7, h8, hs]

/-- lighten / darken / saturate / desaturate / adjust-hue / opacify / transparentize *are* the
    corresponding single-argument adjust-color calls — as values of the model, for every colour and
    every amount (the built-ins differ only in the argument ranges they accept: lighten… take 0…100,
    adjust-color takes −100…100). -/
theorem C15_functions_are_adjust_color (c : Color) (x : Rat) :
    updateComponents .adjust c { lightness := some x } = .ok (lighten c x) ∧
    updateComponents .adjust c { lightness := some (-x) } = .ok (darken c x) ∧
    updateComponents .adjust c { saturation := some x } = .ok (saturate c x) ∧
    updateComponents .adjust c { saturation := some (-x) } = .ok (desaturate c x) ∧
    updateComponents .adjust c { hue := some x } = .ok (adjustHue c x) ∧
    updateComponents .adjust c { alpha := some x } = .ok (fadeIn c x) ∧
    updateComponents .adjust c { alpha := some (-x) } = .ok (fadeOut c x) := by
  -- `update_value` adds the amount on the left, the functions on the right
  have c1 : ∀ y : Rat, x + y = y + x := fun y => Rat.add_comm x y
  have c2 : ∀ y : Rat, -x + y = y - x := fun y => by grind
  have ⟨e1, e2, e3, e4, e5, _⟩ := hslFns_eq c x
  refine ⟨?_, ?_, ?_, ?_, ?_, ?_, ?_⟩
  · rw [update_hsl_group .adjust c ⟨rfl, rfl, rfl, rfl, rfl⟩ rfl, e1]
    simp only [updateValue, Option.getD, add_zero', fromHsla_clamp_light, asHsla_alpha, c1, ite_self]
  · rw [update_hsl_group .adjust c ⟨rfl, rfl, rfl, rfl, rfl⟩ rfl, e2]
    simp only [updateValue, Option.getD, add_zero', fromHsla_clamp_light, asHsla_alpha, c2, ite_self]
  · rw [update_hsl_group .adjust c ⟨rfl, rfl, rfl, rfl, rfl⟩ rfl, e3]
    simp only [updateValue, Option.getD, add_zero', asHsla_alpha, c1, ite_self]
  · rw [update_hsl_group .adjust c ⟨rfl, rfl, rfl, rfl, rfl⟩ rfl, e4]
    simp only [updateValue, Option.getD, add_zero', asHsla_alpha, c2, ite_self]
  · rw [update_hsl_group .adjust c ⟨rfl, rfl, rfl, rfl, rfl⟩ rfl, e5]
    simp only [updateValue, Option.getD, asHsla_alpha]
    rfl
  · rw [update_alpha_group .adjust c ⟨rfl, rfl, rfl, rfl, rfl, rfl, rfl, rfl⟩ rfl]
    simp only [updateValue, withAlpha, fadeIn, fromRgba_clamp_alpha, c1]
  · rw [update_alpha_group .adjust c ⟨rfl, rfl, rfl, rfl, rfl, rfl, rfl, rfl⟩ rfl]
    simp only [updateValue, withAlpha, fadeOut, fromRgba_clamp_alpha, c2]

example : updateComponents .adjust (newRgba 18 52 87 1 .infer) { lightness := some (1/10) } =
    .ok (lighten (newRgba 18 52 87 1 .infer) (1/10)) := (C15_functions_are_adjust_color _ _).1

theorem stored_chan {v : Rat} (h0 : 0 ≤ v) (h1 : v ≤ 255) : clamp (fuzzyRound v) 0 255 = fuzzyRound v :=
  clamp_chanOk (chanOk_fuzzyRound h0 h1)

/-- the arguments of the RGB group and alpha are in the ranges `check_num` leaves -/
def UpdArgs.argsIn (u : Upd) (p : UpdArgs) : Prop :=
  (∀ x, p.red = some x → ArgIn u 255 x) ∧ (∀ x, p.green = some x → ArgIn u 255 x) ∧
  (∀ x, p.blue = some x → ArgIn u 255 x) ∧ (∀ x, p.alpha = some x → ArgIn u 1 x)

def UpdArgs.changeOk (p : UpdArgs) : Prop :=
  (∀ x, p.red = some x → 0 ≤ x ∧ x ≤ 255) ∧ (∀ x, p.green = some x → 0 ≤ x ∧ x ≤ 255) ∧
  (∀ x, p.blue = some x → 0 ≤ x ∧ x ≤ 255) ∧ (∀ x, p.alpha = some x → 0 ≤ x ∧ x ≤ 1)

def UpdArgs.scaleOk (p : UpdArgs) : Prop :=
  (∀ x, p.red = some x → -1 ≤ x ∧ x ≤ 1) ∧ (∀ x, p.green = some x → -1 ≤ x ∧ x ≤ 1) ∧
  (∀ x, p.blue = some x → -1 ≤ x ∧ x ≤ 1) ∧ (∀ x, p.alpha = some x → -1 ≤ x ∧ x ≤ 1)

theorem UpdArgs.changeOk_iff_argsIn {p : UpdArgs} : p.changeOk ↔ p.argsIn .change := Iff.rfl

theorem UpdArgs.scaleOk_iff_argsIn {p : UpdArgs} : p.scaleOk ↔ p.argsIn .scale := Iff.rfl

theorem update_rgb_alpha (u : Upd) (c : Color) (p : UpdArgs) (hw : c.wf = true) (hp : p.argsIn u) :
    (p.onlyRgb → (p.red.isSome || p.green.isSome || p.blue.isSome) = true →
      ∃ d, updateComponents u c p = .ok d ∧ d.r = fuzzyRound (updateValue c.r p.red 255 u) ∧
        d.g = fuzzyRound (updateValue c.g p.green 255 u) ∧ d.b = fuzzyRound (updateValue c.b p.blue 255 u) ∧
        d.a = updateValue c.alpha p.alpha 1 u) ∧
    (p.onlyAlpha → ∀ a, p.alpha = some a →
      ∃ d, updateComponents u c p = .ok d ∧ d.r = c.r ∧ d.g = c.g ∧ d.b = c.b ∧
        d.a = updateValue c.alpha (some a) 1 u) := by
  have ⟨cr, cg, cb⟩ := wf_chan hw
  have ⟨er, eg, eb⟩ := wf_red hw
  have ⟨a0, a1⟩ := wf_alpha hw
  have ⟨_, r0, r1⟩ := chanOk_bounds cr
  have ⟨_, g0, g1⟩ := chanOk_bounds cg
  have ⟨_, b0, b1⟩ := chanOk_bounds cb
  obtain ⟨pr, pg, pb, pa⟩ := hp
  have ba := updateValue_bounds a0 a1 pa
  constructor
  · intro ho hs
    have br := updateValue_bounds r0 r1 pr
    have bg := updateValue_bounds g0 g1 pg
    have bb := updateValue_bounds b0 b1 pb
    have G := update_rgb_group u c ho hs
    rw [er, eg, eb] at G
    refine ⟨_, G, ?_⟩
    simp only [fromRgba, newRgba, stored_chan br.1 br.2, stored_chan bg.1 bg.2, stored_chan bb.1 bb.2,
      clamp_id ba.1 ba.2, and_self]
  · intro ho a ha
    have ⟨k1, k2, k3, k4⟩ := fromRgba_own hw (updateValue c.alpha p.alpha 1 u)
    refine ⟨_, update_alpha_group u c ho (by rw [ha]; rfl), k1, k2, k3, ?_⟩
    rw [← ha]
    exact k4.trans (clamp_id ba.1 ba.2)

theorem changed_chan {cur : Rat} (hc : chanOk cur = true) (v : Option Rat) :
    fuzzyRound (updateValue cur v 255 .change) = (v.map fuzzyRound).getD cur := by
  cases v with
  | none => exact fuzzyRound_of_isInt (chanOk_bounds hc).1
  | some x => rfl

/-- change-color sets exactly the named components.  No argument: identity.  RGB group: each
    given channel becomes its (rounded) argument, the others and an absent alpha are kept.  HSL group:
    `from_hsla` of the given components and the colour's own `as_hsla` values for the rest.  HWB group:
    `from_hwb` of the given components and the colour's own hue()/whiteness()/blackness() for the rest.
    Alpha alone: channels kept. -/
theorem C15_change_color_sets_exactly (c : Color) (p : UpdArgs) (hw : c.wf = true) (hp : p.changeOk) :
    updateComponents .change c {} = .ok c ∧
    (p.onlyRgb → (p.red.isSome || p.green.isSome || p.blue.isSome) = true →
      ∃ d, updateComponents .change c p = .ok d ∧ d.r = (p.red.map fuzzyRound).getD c.r ∧
        d.g = (p.green.map fuzzyRound).getD c.g ∧ d.b = (p.blue.map fuzzyRound).getD c.b ∧ d.a = p.alpha.getD c.alpha) ∧
    (p.onlyHsl → (p.hue.isSome || p.saturation.isSome || p.lightness.isSome) = true →
      updateComponents .change c p = .ok (fromHsla (p.hue.getD c.asHsla.1) (p.saturation.getD c.asHsla.2.1)
        (p.lightness.getD c.asHsla.2.2.1) (p.alpha.getD c.alpha))) ∧
    (p.onlyHwb → (p.whiteness.isSome || p.blackness.isSome) = true →
      updateComponents .change c p = .ok (fromHwb (p.hue.getD c.hue) (p.whiteness.getD c.whiteness * 100)
        (p.blackness.getD c.blackness * 100) (p.alpha.getD c.alpha))) ∧
    (p.onlyAlpha → ∀ a, p.alpha = some a →
      ∃ d, updateComponents .change c p = .ok d ∧ d.r = c.r ∧ d.g = c.g ∧ d.b = c.b ∧ d.a = a) := by
  have ⟨cr, cg, cb⟩ := wf_chan hw
  have R := update_rgb_alpha .change c p hw (UpdArgs.changeOk_iff_argsIn.mp hp)
  refine ⟨update_no_args .change c ⟨rfl, rfl, rfl, rfl, rfl, rfl, rfl, rfl⟩ rfl, ?_, ?_, ?_, R.2⟩
  · intro ho hs
    obtain ⟨d, e, k1, k2, k3, k4⟩ := R.1 ho hs
    exact ⟨d, e, k1.trans (changed_chan cr _), k2.trans (changed_chan cg _), k3.trans (changed_chan cb _),
      k4.trans (updateValue_eq _ _ _).1⟩
  · intro ho hs
    rw [update_hsl_group .change c ho hs]
    simp only [(updateValue_eq _ _ _).1, if_true]
  · intro ho hs
    rw [update_hwb_group .change c ho hs]
    simp only [(updateValue_eq _ _ _).1, if_true]

/-- hue(), whiteness() and blackness() of a colour without stored HSL read the channels only -/
theorem accessors_congr {c d : Color} (hc : c.hsl = none) (hd : d.hsl = none) (hr : c.r = d.r) (hg : c.g = d.g)
    (hb : c.b = d.b) : c.hue = d.hue ∧ c.whiteness = d.whiteness ∧ c.blackness = d.blackness := by
  simp only [Color.hue, Color.whiteness, Color.blackness, Color.red, Color.green, Color.blue, hc, hd, hr, hg, hb, and_true]
  rfl

/-- adjust-color adds the amounts and clamps to the component's range.  RGB group: each given
    channel becomes round(clamp(amount + channel, 0, 255)); HSL group: hue + amount (taken mod 360 by
    `from_hsla`), saturation/lightness clamp(amount + current, 0, 1); HWB group likewise on
    hue()/whiteness()/blackness(); alpha clamp(amount + alpha, 0, 1).  Components not named are kept. -/
theorem C15_adjust_color_adds_and_clamps (c : Color) (p : UpdArgs) (hw : c.wf = true) :
    (p.onlyRgb → (p.red.isSome || p.green.isSome || p.blue.isSome) = true →
      ∃ d, updateComponents .adjust c p = .ok d ∧ d.r = fuzzyRound (adjusted c.r p.red 255) ∧
        d.g = fuzzyRound (adjusted c.g p.green 255) ∧ d.b = fuzzyRound (adjusted c.b p.blue 255) ∧
        d.a = adjusted c.alpha p.alpha 1) ∧
    (p.onlyHsl → (p.hue.isSome || p.saturation.isSome || p.lightness.isSome) = true →
      updateComponents .adjust c p = .ok (fromHsla (c.asHsla.1 + p.hue.getD 0) (adjusted c.asHsla.2.1 p.saturation 1)
        (adjusted c.asHsla.2.2.1 p.lightness 1) (adjusted c.alpha p.alpha 1))) ∧
    (p.onlyHwb → (p.whiteness.isSome || p.blackness.isSome) = true →
      updateComponents .adjust c p = .ok (fromHwb (c.hue + p.hue.getD 0) (adjusted c.whiteness p.whiteness 1 * 100)
        (adjusted c.blackness p.blackness 1 * 100) (adjusted c.alpha p.alpha 1))) ∧
    (p.onlyAlpha → ∀ a, p.alpha = some a →
      ∃ d, updateComponents .adjust c p = .ok d ∧ d.r = c.r ∧ d.g = c.g ∧ d.b = c.b ∧ d.a = clamp (a + c.alpha) 0 1) := by
  have R := update_rgb_alpha .adjust c p hw ⟨fun _ _ => trivial, fun _ _ => trivial, fun _ _ => trivial, fun _ _ => trivial⟩
  have ne : ¬ (Upd.adjust = Upd.change) := by decide
  refine ⟨?_, ?_, ?_, R.2⟩
  · simpa only [(updateValue_eq _ _ _).2.1] using R.1
  · intro ho hs
    rw [update_hsl_group .adjust c ho hs]
    simp only [(updateValue_eq _ _ _).2.1, if_neg ne]
  · intro ho hs
    rw [update_hwb_group .adjust c ho hs]
    simp only [(updateValue_eq _ _ _).2.1, if_neg ne]

theorem hwb_exact_of (c : Color) (hw : c.wf = true) (hn : c.hsl = none) :
    hwbToRgbExact c.hue (c.whiteness * 100) (c.blackness * 100) = (c.r, c.g, c.b) := by
  obtain ⟨nr, ng, nb, hnr, hng, hnb, enr, eng, enb⟩ := wf_nat hw
  have ⟨r0, r1⟩ := unit_of_nat hnr
  have ⟨g0, g1⟩ := unit_of_nat hng
  obtain ⟨e1, _, _, e4, e5⟩ := accessors_eq nr ng nb
  have ⟨h1, h2, h3⟩ := accessors_congr (d := newRgba (nr : Rat) (ng : Rat) (nb : Rat) 1 .infer) hn rfl enr eng enb
  rw [h1, h2, h3, e1, e4, e5, hwb_roundtripE (z := (nb : Rat) / 255) r0 r1 g0 g1, enr, eng, enb]
  simp only [scaled_back]

theorem updateValue_zero {cur max : Rat} {v : Option Rat} {u : Upd} (hu : u ≠ .change) (h0 : 0 ≤ cur)
    (h1 : cur ≤ max) (hv : v = none ∨ v = some 0) : updateValue cur v max u = cur := by
  rcases hv with rfl | rfl
  · rfl
  · cases u with
    | change => exact absurd rfl hu
    | adjust => show clamp (0 + cur) 0 max = cur; rw [clamp_id (by grind) (by grind)]; grind
    | scale => show cur + (if (0 : Rat) > 0 then max - cur else cur) * 0 = cur; grind

theorem clamp_updateValue_zero {x : Rat} {v : Option Rat} {u : Upd} (hu : u ≠ .change)
    (hv : v = none ∨ v = some 0) : clamp (updateValue x v 1 u) 0 1 = clamp x 0 1 := by
  rcases hv with rfl | rfl
  · rfl
  · cases u with
    | change => exact absurd rfl hu
    | adjust =>
      show clamp (clamp (0 + x) 0 1) 0 1 = clamp x 0 1
      rw [clamp_idem _ 0 1 (by decide +kernel)]; congr 1; grind
    | scale => show clamp (x + (if (0 : Rat) > 0 then 1 - x else x) * 0) 0 1 = clamp x 0 1; congr 1; grind

theorem getD_zero {v : Option Rat} (x : Rat) (hv : v = none ∨ v = some 0) : x + v.getD 0 = x := by
  rcases hv with rfl | rfl <;> exact add_zero' x

theorem update_zero_rgb_alpha {u : Upd} (hu : u ≠ .change) {c d : Color} {p : UpdArgs} (hw : c.wf = true)
    (zr : p.red = none ∨ p.red = some 0) (zg : p.green = none ∨ p.green = some 0)
    (zb : p.blue = none ∨ p.blue = some 0) (za : p.alpha = none ∨ p.alpha = some 0)
    (hg : p.onlyRgb ∧ (p.red.isSome || p.green.isSome || p.blue.isSome) = true ∨ p.onlyAlpha ∧ p.alpha = some 0)
    (h : updateComponents u c p = .ok d) : sameColor d c = true := by
  have ⟨cr, cg, cb⟩ := wf_chan hw
  have ⟨ir, r0, r1⟩ := chanOk_bounds cr
  have ⟨ig, g0, g1⟩ := chanOk_bounds cg
  have ⟨ib, b0, b1⟩ := chanOk_bounds cb
  have ⟨a0, a1⟩ := wf_alpha hw
  have ok : ∀ {max : Rat} {v : Option Rat}, (v = none ∨ v = some 0) → ∀ x, v = some x → ArgIn u max x := by
    intro max v hv x hx
    rcases hv with rfl | rfl
    · cases hx
    · cases hx
      cases u with
      | change => exact absurd rfl hu
      | adjust => trivial
      | scale => constructor <;> decide +kernel
  have R := update_rgb_alpha u c p hw ⟨ok zr, ok zg, ok zb, ok za⟩
  rcases hg with ⟨ho, hs⟩ | ⟨ho, ha⟩
  · obtain ⟨d', e, k1, k2, k3, k4⟩ := R.1 ho hs
    rw [e] at h; cases h
    rw [updateValue_zero hu r0 r1 zr, fuzzyRound_of_isInt ir] at k1
    rw [updateValue_zero hu g0 g1 zg, fuzzyRound_of_isInt ig] at k2
    rw [updateValue_zero hu b0 b1 zb, fuzzyRound_of_isInt ib] at k3
    rw [updateValue_zero hu a0 a1 za] at k4
    exact sameColor_of_chan hw k1 k2 k3 k4
  · obtain ⟨d', e, k1, k2, k3, k4⟩ := R.2 ho 0 ha
    rw [e] at h; cases h
    rw [updateValue_zero hu a0 a1 (.inr rfl)] at k4
    exact sameColor_of_chan hw k1 k2 k3 k4

theorem update_zero_hsl {u : Upd} (hu : u ≠ .change) {c d : Color} {p : UpdArgs} (hw : c.wf = true)
    (hc : hslConsistent c) (ho : p.onlyHsl) (hs : (p.hue.isSome || p.saturation.isSome || p.lightness.isSome) = true)
    (zh : p.hue = none ∨ p.hue = some 0) (zs : p.saturation = none ∨ p.saturation = some 0)
    (zl : p.lightness = none ∨ p.lightness = some 0) (za : p.alpha = none ∨ p.alpha = some 0)
    (h : updateComponents u c p = .ok d) : sameColor d c = true := by
  have ⟨a0, a1⟩ := wf_alpha hw
  rw [update_hsl_group u c ho hs, if_neg hu, getD_zero _ zh, updateValue_zero hu a0 a1 za,
    ← fromHsla_clamp_sat, ← fromHsla_clamp_light, clamp_updateValue_zero hu zs, clamp_updateValue_zero hu zl,
    fromHsla_clamp_sat, fromHsla_clamp_light, ← asHsla_alpha c] at h
  cases h
  exact C15_rgb_hsl_rgb_roundtrip_color c hw hc

theorem update_zero_hwb {u : Upd} (hu : u ≠ .change) {c d : Color} {p : UpdArgs} (hw : c.wf = true)
    (hn : c.hsl = none) (ho : p.onlyHwb) (hs : (p.whiteness.isSome || p.blackness.isSome) = true)
    (zh : p.hue = none ∨ p.hue = some 0) (zw : p.whiteness = none ∨ p.whiteness = some 0)
    (zb : p.blackness = none ∨ p.blackness = some 0) (za : p.alpha = none ∨ p.alpha = some 0)
    (h : updateComponents u c p = .ok d) : sameColor d c = true := by
  have ⟨cr, cg, cb⟩ := wf_chan hw
  have ⟨a0, a1⟩ := wf_alpha hw
  have ⟨⟨w0, w1⟩, ⟨k0, k1⟩⟩ := whiteness_blackness_unit hw
  have fr : ∀ x : Rat, chanOk x = true → fuzzyRound x = x := fun x h => fuzzyRound_of_isInt (chanOk_bounds h).1
  rw [update_hwb_group u c ho hs, if_neg hu, getD_zero _ zh, updateValue_zero hu w0 w1 zw,
    updateValue_zero hu k0 k1 zb, updateValue_zero hu a0 a1 za] at h
  cases h
  apply sameColor_of_chan hw <;>
    simp only [fromHwb, hwb_exact_of c hw hn, newRgba, fr _ cr, fr _ cg, fr _ cb, clamp_id a0 a1]

/-- adjust-color by 0 in any single component returns the same colour (`==` and compressed print).
    The HWB components need a colour without stored HSL (an 8-bit RGB colour): `hue()` of a colour built
    by hsl() is its exact stored hue while whiteness()/blackness() come from the rounded channels. -/
theorem C15_adjust_color_by_zero (c d : Color) (hw : c.wf = true) (hc : hslConsistent c) :
    (updateComponents .adjust c { red := some 0 } = .ok d → sameColor d c = true) ∧
    (updateComponents .adjust c { green := some 0 } = .ok d → sameColor d c = true) ∧
    (updateComponents .adjust c { blue := some 0 } = .ok d → sameColor d c = true) ∧
    (updateComponents .adjust c { alpha := some 0 } = .ok d → sameColor d c = true) ∧
    (updateComponents .adjust c { hue := some 0 } = .ok d → sameColor d c = true) ∧
    (updateComponents .adjust c { saturation := some 0 } = .ok d → sameColor d c = true) ∧
    (updateComponents .adjust c { lightness := some 0 } = .ok d → sameColor d c = true) ∧
    (c.hsl = none → updateComponents .adjust c { whiteness := some 0 } = .ok d → sameColor d c = true) ∧
    (c.hsl = none → updateComponents .adjust c { blackness := some 0 } = .ok d → sameColor d c = true) := by
  have hu : Upd.adjust ≠ .change := by decide
  exact ⟨
    update_zero_rgb_alpha hu hw (.inr rfl) (.inl rfl) (.inl rfl) (.inl rfl) (.inl ⟨⟨rfl, rfl, rfl, rfl, rfl⟩, rfl⟩),
    update_zero_rgb_alpha hu hw (.inl rfl) (.inr rfl) (.inl rfl) (.inl rfl) (.inl ⟨⟨rfl, rfl, rfl, rfl, rfl⟩, rfl⟩),
    update_zero_rgb_alpha hu hw (.inl rfl) (.inl rfl) (.inr rfl) (.inl rfl) (.inl ⟨⟨rfl, rfl, rfl, rfl, rfl⟩, rfl⟩),
    update_zero_rgb_alpha hu hw (.inl rfl) (.inl rfl) (.inl rfl) (.inr rfl)
      (.inr ⟨⟨rfl, rfl, rfl, rfl, rfl, rfl, rfl, rfl⟩, rfl⟩),
    update_zero_hsl hu hw hc ⟨rfl, rfl, rfl, rfl, rfl⟩ rfl (.inr rfl) (.inl rfl) (.inl rfl) (.inl rfl),
    update_zero_hsl hu hw hc ⟨rfl, rfl, rfl, rfl, rfl⟩ rfl (.inl rfl) (.inr rfl) (.inl rfl) (.inl rfl),
    update_zero_hsl hu hw hc ⟨rfl, rfl, rfl, rfl, rfl⟩ rfl (.inl rfl) (.inl rfl) (.inr rfl) (.inl rfl),
    fun hn => update_zero_hwb hu hw hn ⟨rfl, rfl, rfl, rfl, rfl⟩ rfl (.inl rfl) (.inr rfl) (.inl rfl) (.inl rfl),
    fun hn => update_zero_hwb hu hw hn ⟨rfl, rfl, rfl, rfl, rfl⟩ rfl (.inl rfl) (.inl rfl) (.inr rfl) (.inl rfl)⟩

theorem isInt_add {x y : Rat} (hx : isInt x = true) (hy : isInt y = true) : isInt (x + y) = true := by
  rw [eq_intCast_of_isInt hx, eq_intCast_of_isInt hy]
  have : ((x.num : Int) : Rat) + ((y.num : Int) : Rat) = ((x.num + y.num : Int) : Rat) := by simp [Rat.intCast_add]
  rw [this]; exact isInt_intCast _

theorem adjust_one_explicit (c : Color) (hw : c.wf = true) (a : Rat) :
    updateComponents .adjust c { red := some a } = .ok (newRgba (fuzzyRound (clamp (a + c.r) 0 255)) c.g c.b c.alpha .infer) ∧
    updateComponents .adjust c { green := some a } = .ok (newRgba c.r (fuzzyRound (clamp (a + c.g) 0 255)) c.b c.alpha .infer) ∧
    updateComponents .adjust c { blue := some a } = .ok (newRgba c.r c.g (fuzzyRound (clamp (a + c.b) 0 255)) c.alpha .infer) ∧
    updateComponents .adjust c { alpha := some a } = .ok (newRgba c.r c.g c.b (clamp (a + c.alpha) 0 1) .infer) := by
  have ⟨cr, cg, cb⟩ := wf_chan hw
  have ⟨er, eg, eb⟩ := wf_red hw
  have ⟨a0, a1⟩ := wf_alpha hw
  have fr : ∀ x : Rat, chanOk x = true → fuzzyRound x = x := fun x h => fuzzyRound_of_isInt (chanOk_bounds h).1
  have st : ∀ v : Rat, clamp (fuzzyRound (clamp v 0 255)) 0 255 = fuzzyRound (clamp v 0 255) := by
    intro v; have ⟨x0, x1⟩ := clamp_bounds v 0 255 (by decide +kernel); exact stored_chan x0 x1
  refine ⟨?_, ?_, ?_, ?_⟩
  · rw [update_rgb_group .adjust c ⟨rfl, rfl, rfl, rfl, rfl⟩ rfl]
    simp only [updateValue, fromRgba, newRgba, er, eg, eb, st, fr _ cg, fr _ cb,
      clamp_chanOk cg, clamp_chanOk cb, clamp_id a0 a1]
  · rw [update_rgb_group .adjust c ⟨rfl, rfl, rfl, rfl, rfl⟩ rfl]
    simp only [updateValue, fromRgba, newRgba, er, eg, eb, st, fr _ cr, fr _ cb,
      clamp_chanOk cr, clamp_chanOk cb, clamp_id a0 a1]
  · rw [update_rgb_group .adjust c ⟨rfl, rfl, rfl, rfl, rfl⟩ rfl]
    simp only [updateValue, fromRgba, newRgba, er, eg, eb, st, fr _ cr, fr _ cg,
      clamp_chanOk cr, clamp_chanOk cg, clamp_id a0 a1]
  · rw [update_alpha_group .adjust c ⟨rfl, rfl, rfl, rfl, rfl, rfl, rfl, rfl⟩ rfl]
    simp only [updateValue, withAlpha, fromRgba, newRgba, er, eg, eb,
      clamp_chanOk cr, clamp_chanOk cg, clamp_chanOk cb, clamp_idem _ 0 1 (by decide +kernel)]

/-- Two successive adjust-color calls on the same channel add up, provided the first one neither
    rounds (integer amount) nor clamps (`0 ≤ a + channel ≤ 255`, resp. `0 ≤ a + alpha ≤ 1`); the
    second amount is unrestricted (it is rounded and clamped the same way on both sides). -/
theorem C15_adjust_color_twice_adds (c d : Color) (hw : c.wf = true) (a b : Rat) :
    (isInt a = true → 0 ≤ a + c.r → a + c.r ≤ 255 → updateComponents .adjust c { red := some a } = .ok d →
      updateComponents .adjust d { red := some b } = updateComponents .adjust c { red := some (a + b) }) ∧
    (isInt a = true → 0 ≤ a + c.g → a + c.g ≤ 255 → updateComponents .adjust c { green := some a } = .ok d →
      updateComponents .adjust d { green := some b } = updateComponents .adjust c { green := some (a + b) }) ∧
    (isInt a = true → 0 ≤ a + c.b → a + c.b ≤ 255 → updateComponents .adjust c { blue := some a } = .ok d →
      updateComponents .adjust d { blue := some b } = updateComponents .adjust c { blue := some (a + b) }) ∧
    (0 ≤ a + c.alpha → a + c.alpha ≤ 1 → updateComponents .adjust c { alpha := some a } = .ok d →
      updateComponents .adjust d { alpha := some b } = updateComponents .adjust c { alpha := some (a + b) }) := by
  have ⟨cr, cg, cb⟩ := wf_chan hw
  have ⟨a0, a1⟩ := wf_alpha hw
  have ⟨x1, x2, x3, x4⟩ := adjust_one_explicit c hw a
  have ⟨y1, y2, y3, y4⟩ := adjust_one_explicit c hw (a + b)
  refine ⟨?_, ?_, ?_, ?_⟩
  · intro ia h0 h1 hd
    rw [x1] at hd; cases hd
    have ii : isInt (a + c.r) = true := isInt_add ia (chanOk_bounds cr).1
    have e : fuzzyRound (clamp (a + c.r) 0 255) = a + c.r := by rw [clamp_id h0 h1]; exact fuzzyRound_of_isInt ii
    have okr : chanOk (a + c.r) = true := by simp [chanOk, ii, h0, h1]
    have dw : (newRgba (a + c.r) c.g c.b c.alpha .infer).wf = true := wf_mk okr cg cb a0 a1
    rw [e, (adjust_one_explicit _ dw b).1, y1]
    have al : (newRgba (a + c.r) c.g c.b c.alpha .infer).alpha = c.alpha := alpha_of_le_one (c := newRgba _ _ _ _ _) a1
    have re : b + (a + c.r) = a + b + c.r := by grind
    simp only [al]
    simp only [newRgba, re]
  · intro ia h0 h1 hd
    rw [x2] at hd; cases hd
    have ii : isInt (a + c.g) = true := isInt_add ia (chanOk_bounds cg).1
    have e : fuzzyRound (clamp (a + c.g) 0 255) = a + c.g := by rw [clamp_id h0 h1]; exact fuzzyRound_of_isInt ii
    have okr : chanOk (a + c.g) = true := by simp [chanOk, ii, h0, h1]
    have dw : (newRgba c.r (a + c.g) c.b c.alpha .infer).wf = true := wf_mk cr okr cb a0 a1
    rw [e, (adjust_one_explicit _ dw b).2.1, y2]
    have al : (newRgba c.r (a + c.g) c.b c.alpha .infer).alpha = c.alpha := alpha_of_le_one (c := newRgba _ _ _ _ _) a1
    have re : b + (a + c.g) = a + b + c.g := by grind
    simp only [al]
    simp only [newRgba, re]
  · intro ia h0 h1 hd
    rw [x3] at hd; cases hd
    have ii : isInt (a + c.b) = true := isInt_add ia (chanOk_bounds cb).1
    have e : fuzzyRound (clamp (a + c.b) 0 255) = a + c.b := by rw [clamp_id h0 h1]; exact fuzzyRound_of_isInt ii
    have okr : chanOk (a + c.b) = true := by simp [chanOk, ii, h0, h1]
    have dw : (newRgba c.r c.g (a + c.b) c.alpha .infer).wf = true := wf_mk cr cg okr a0 a1
    rw [e, (adjust_one_explicit _ dw b).2.2.1, y3]
    have al : (newRgba c.r c.g (a + c.b) c.alpha .infer).alpha = c.alpha := alpha_of_le_one (c := newRgba _ _ _ _ _) a1
    have re : b + (a + c.b) = a + b + c.b := by grind
    simp only [al]
    simp only [newRgba, re]
  · intro h0 h1 hd
    rw [x4] at hd; cases hd
    rw [clamp_id h0 h1]
    have dw : (newRgba c.r c.g c.b (a + c.alpha) .infer).wf = true := wf_mk cr cg cb h0 h1
    rw [(adjust_one_explicit _ dw b).2.2.2, y4]
    have al : (newRgba c.r c.g c.b (a + c.alpha) .infer).alpha = a + c.alpha := alpha_of_le_one (c := newRgba _ _ _ _ _) h1
    have re : b + (a + c.alpha) = a + b + c.alpha := by grind
    simp only [al]
    simp only [newRgba, re]

/-- scale-color interpolates.  The new value of a component is
    `current + p·(max − current)` for p > 0 and `current + p·current` for p ≤ 0 (p the percentage / 100):
    0% keeps it, 100% reaches the maximum, −100% reaches 0, anything between stays in range and moves
    that fraction of the way.  RGB group: each given channel becomes the rounded scaled value, the rest is
    kept; HSL/HWB groups: the constructor receives the scaled saturation/lightness (whiteness/blackness);
    alpha alone: channels kept. -/
theorem C15_scale_color_interpolates (c : Color) (p : UpdArgs) (hw : c.wf = true) (hp : p.scaleOk) :
    (∀ cur max : Rat, scaled cur (some 0) max = cur ∧ scaled cur (some 1) max = max ∧ scaled cur (some (-1)) max = 0) ∧
    (∀ cur max x : Rat, 0 ≤ cur → cur ≤ max → -1 ≤ x → x ≤ 1 →
      (0 < x → scaled cur (some x) max - cur = x * (max - cur)) ∧
      (x ≤ 0 → cur - scaled cur (some x) max = (-x) * (cur - 0)) ∧
      0 ≤ scaled cur (some x) max ∧ scaled cur (some x) max ≤ max) ∧
    (p.onlyRgb → (p.red.isSome || p.green.isSome || p.blue.isSome) = true →
      ∃ d, updateComponents .scale c p = .ok d ∧ d.r = fuzzyRound (scaled c.r p.red 255) ∧
        d.g = fuzzyRound (scaled c.g p.green 255) ∧ d.b = fuzzyRound (scaled c.b p.blue 255) ∧
        d.a = scaled c.alpha p.alpha 1) ∧
    (p.onlyHsl → p.hue = none → (p.saturation.isSome || p.lightness.isSome) = true →
      updateComponents .scale c p = .ok (fromHsla (c.asHsla.1 + 0) (scaled c.asHsla.2.1 p.saturation 1)
        (scaled c.asHsla.2.2.1 p.lightness 1) (scaled c.alpha p.alpha 1))) ∧
    (p.onlyHwb → p.hue = none → (p.whiteness.isSome || p.blackness.isSome) = true →
      updateComponents .scale c p = .ok (fromHwb (c.hue + 0) (scaled c.whiteness p.whiteness 1 * 100)
        (scaled c.blackness p.blackness 1 * 100) (scaled c.alpha p.alpha 1))) ∧
    (p.onlyAlpha → ∀ a, p.alpha = some a →
      ∃ d, updateComponents .scale c p = .ok d ∧ d.r = c.r ∧ d.g = c.g ∧ d.b = c.b ∧ d.a = scaled c.alpha (some a) 1) := by
  have R := update_rgb_alpha .scale c p hw (UpdArgs.scaleOk_iff_argsIn.mp hp)
  have ne : ¬ (Upd.scale = Upd.change) := by decide
  refine ⟨?_, fun _ _ _ h0 h1 x0 x1 => scaled_facts h0 h1 x0 x1, ?_, ?_, ?_, R.2⟩
  · intro cur max
    simp only [scaled]
    refine ⟨?_, ?_, ?_⟩
    · grind
    · rw [if_pos (by decide +kernel)]; grind
    · rw [if_neg (by decide +kernel)]; grind
  · simpa only [(updateValue_eq _ _ _).2.2] using R.1
  · intro ho hh hs
    rw [update_hsl_group .scale c ho (by simp [hh]; simpa using hs)]
    simp only [(updateValue_eq _ _ _).2.2, if_neg ne, hh, Option.getD]
  · intro ho hh hs
    rw [update_hwb_group .scale c ho hs]
    simp only [(updateValue_eq _ _ _).2.2, if_neg ne, hh, Option.getD]

/-- scale-color by 0% in any single component returns the same colour (HWB components: colours without
    stored HSL, as for adjust-color). -/
theorem C15_scale_color_by_zero (c d : Color) (hw : c.wf = true) (hc : hslConsistent c) :
    (updateComponents .scale c { red := some 0 } = .ok d → sameColor d c = true) ∧
    (updateComponents .scale c { green := some 0 } = .ok d → sameColor d c = true) ∧
    (updateComponents .scale c { blue := some 0 } = .ok d → sameColor d c = true) ∧
    (updateComponents .scale c { alpha := some 0 } = .ok d → sameColor d c = true) ∧
    (updateComponents .scale c { saturation := some 0 } = .ok d → sameColor d c = true) ∧
    (updateComponents .scale c { lightness := some 0 } = .ok d → sameColor d c = true) ∧
    (c.hsl = none → updateComponents .scale c { whiteness := some 0 } = .ok d → sameColor d c = true) ∧
    (c.hsl = none → updateComponents .scale c { blackness := some 0 } = .ok d → sameColor d c = true) := by
  have hu : Upd.scale ≠ .change := by decide
  exact ⟨
    update_zero_rgb_alpha hu hw (.inr rfl) (.inl rfl) (.inl rfl) (.inl rfl) (.inl ⟨⟨rfl, rfl, rfl, rfl, rfl⟩, rfl⟩),
    update_zero_rgb_alpha hu hw (.inl rfl) (.inr rfl) (.inl rfl) (.inl rfl) (.inl ⟨⟨rfl, rfl, rfl, rfl, rfl⟩, rfl⟩),
    update_zero_rgb_alpha hu hw (.inl rfl) (.inl rfl) (.inr rfl) (.inl rfl) (.inl ⟨⟨rfl, rfl, rfl, rfl, rfl⟩, rfl⟩),
    update_zero_rgb_alpha hu hw (.inl rfl) (.inl rfl) (.inl rfl) (.inr rfl)
      (.inr ⟨⟨rfl, rfl, rfl, rfl, rfl, rfl, rfl, rfl⟩, rfl⟩),
    update_zero_hsl hu hw hc ⟨rfl, rfl, rfl, rfl, rfl⟩ rfl (.inl rfl) (.inr rfl) (.inl rfl) (.inl rfl),
    update_zero_hsl hu hw hc ⟨rfl, rfl, rfl, rfl, rfl⟩ rfl (.inl rfl) (.inl rfl) (.inr rfl) (.inl rfl),
    fun hn => update_zero_hwb hu hw hn ⟨rfl, rfl, rfl, rfl, rfl⟩ rfl (.inl rfl) (.inr rfl) (.inl rfl) (.inl rfl),
    fun hn => update_zero_hwb hu hw hn ⟨rfl, rfl, rfl, rfl, rfl⟩ rfl (.inl rfl) (.inl rfl) (.inr rfl) (.inl rfl)⟩

/-- Mixing argument groups in one call is an error, for change-, adjust- and scale-color alike
    (other.rs:142–162): RGB arguments with any HSL/HWB argument or `$hue`; saturation/lightness with
    whiteness/blackness. -/
theorem C15_update_mixed_groups_error (u : Upd) (c : Color) (p : UpdArgs) :
    ((p.red.isSome || p.green.isSome || p.blue.isSome) = true →
      (p.hue.isSome || p.saturation.isSome || p.lightness.isSome || p.whiteness.isSome || p.blackness.isSome) = true →
      updateComponents u c p = .error .mixedSpaces) ∧
    ((p.saturation.isSome || p.lightness.isSome) = true → (p.whiteness.isSome || p.blackness.isSome) = true →
      updateComponents u c p = .error .mixedSpaces) := by
  constructor
  · intro h1 h2
    have h2' : ((p.saturation.isSome || p.lightness.isSome) || (p.whiteness.isSome || p.blackness.isSome) || p.hue.isSome) = true := by
      revert h2; cases p.hue.isSome <;> cases p.saturation.isSome <;> cases p.lightness.isSome <;>
        cases p.whiteness.isSome <;> cases p.blackness.isSome <;> simp
    simp only [updateComponents, updatePlan, h1, h2', Bool.and_self, if_true]
    rfl
  · intro h1 h2
    simp only [updateComponents, updatePlan, h1, h2, Bool.and_self, if_true]
    split <;> rfl

example : updateComponents .scale (newRgba 1 2 3 1 .infer) { red := some (1/2), lightness := some (1/2) } = .error .mixedSpaces :=
  (C15_update_mixed_groups_error _ _ _).1 rfl rfl

/-! ## grayscale, invert with a weight -/

theorem asHsla_sat_le_one (c : Color) (hw : c.wf = true) (hc : hslConsistent c) : c.asHsla.2.1 ≤ 1 := by
  cases hh : c.hsl with
  | some h =>
    unfold hslConsistent at hc
    rw [hh] at hc
    rw [asHsla_of_some hh]
    exact hc.2.2.2.1
  | none =>
    obtain ⟨nr, ng, nb, hr, hg, hb, er, eg, eb⟩ := wf_nat hw
    have ⟨e1, e2, e3⟩ := wf_red hw
    have ⟨r0, r1⟩ := unit_of_nat hr
    have ⟨g0, g1⟩ := unit_of_nat hg
    have ⟨b0, b1⟩ := unit_of_nat hb
    rw [asHsla_of_none hh, e1, e2, e3, er, eg, eb, rgbToHsl_eq_E (sep_of_nat nr ng nb) r1 g0]
    exact rgbToHslE_sat_le_one r0 r1 g0 g1 b0 b1

/-- grayscale($c) is desaturate($c, 100%) (builtin/functions/color/hsl.rs:275), and its result
    is a grey: the three channels are equal. -/
theorem C15_grayscale_is_desaturate_100 (c : Color) (hw : c.wf = true) (hc : hslConsistent c) :
    applyFn "grayscale" [.color c] [] = .ok (.color (desaturate c 1)) ∧
    (desaturate c 1).r = (desaturate c 1).g ∧ (desaturate c 1).g = (desaturate c 1).b := by
  refine ⟨rfl, ?_⟩
  have ⟨_, _, _, e4, _, _⟩ := hslFns_eq c 1
  have s1 := asHsla_sat_le_one c hw hc
  have cz : clamp (c.asHsla.2.1 - 1) 0 1 = 0 := by
    rcases clamp_cases (c.asHsla.2.1 - 1) 0 1 (by decide +kernel) with ⟨e, a, _⟩ | ⟨e, _⟩ | ⟨e, a⟩ <;> grind
  have ⟨f1, f2, f3, _, _⟩ := fromHsla_fields c.asHsla.1 0 c.asHsla.2.2.1 c.asHsla.2.2.2
  have ⟨l0, l1⟩ := clamp_bounds c.asHsla.2.2.1 0 1 (by decide +kernel)
  have c0 : clamp 0 0 1 = 0 := by decide +kernel
  rw [e4, cz, f1, f2, f3, ← hslToRgbExact_clamp, c0, hslToRgbExact_grey _ l0 l1]
  exact ⟨rfl, rfl⟩

example : ((desaturate (newRgba 18 52 87 1 .infer) 1).r, (desaturate (newRgba 18 52 87 1 .infer) 1).g) = (53, 53) := by
  decide +kernel

theorem mix_congr {f : Bool} {c1 c1' c2 : Color} {w : Rat} (hr : c1.red = c1'.red) (hg : c1.green = c1'.green)
    (hb : c1.blue = c1'.blue) (ha : c1.alpha = c1'.alpha) : mix f c1 c2 w = mix f c1' c2 w := by
  simp only [mix, mixPre, hr, hg, hb, ha]

/-- invert($c, $w) for a non-zero weight is mix(invert($c), $c, $w) — with the fully inverted
    colour as first operand (color/mod.rs:417–428); weight 0 returns `$c` itself. -/
theorem C15_invert_weight (c : Color) (w : Rat) (hw : c.wf = true) :
    (fuzzyEq w 0 = true → invert false c w = c) ∧
    (fuzzyEq w 0 = false → invert false c w = mix false (invert false c 1) c w) := by
  constructor
  · intro h; simp only [invert, h, if_true]
  · intro h
    have ⟨_, a1⟩ := wf_alpha hw
    have ⟨i1, i2, i3, i4⟩ := invert_full c hw
    have ⟨jr, jg, jb⟩ := wf_red (C15_channels_in_range_invert c 1 hw).1
    have ja : (invert false c 1).alpha = c.alpha := by rw [alpha_of_le_one (by rw [i4]; exact a1), i4]
    have ⟨iw, k1, k2, k3, ka⟩ := inverseOf_spec hw
    have ⟨kr, kg, kb⟩ := wf_red iw
    have e : invert false c w = mix false (inverseOf c) c w := by
      simp only [invert, h, Bool.false_eq_true, if_false]
    rw [e]
    exact mix_congr (by rw [kr, k1, jr, i1]) (by rw [kg, k2, jg, i2]) (by rw [kb, k3, jb, i3]) (by rw [ka, ja])

/-! ## The variants found on the pinned tree violate the property (kernel-checked witnesses) -/

/-- D21 as found: `mix(#000, #020202, 25%)` kept fractional channels (1.5): not in range, `red()` = 2,
    yet not equal to #020202.  With the rounding now in /repo the same call is in range and equal. -/
theorem C15_asFound_mix_unrounded :
    let a := newRgba 0 0 0 1 .infer; let b := newRgba 2 2 2 1 .infer
    (mix true a b (1/4)).inRange = false ∧ (mix true a b (1/4)).red = 2 ∧ (mix true a b (1/4)).eq b = false ∧
    (mix false a b (1/4)).inRange = true ∧ (mix false a b (1/4)).eq b = true := by
  decide +kernel

/-- D14 as found: `lightness()` rounded to an integer, so hsl(hue(c), saturation(c), lightness(c)) of
    #123457 was #123559; unrounded it is #123457 again. -/
theorem C15_asFound_lightness_rounded :
    let c := newRgba 18 52 87 1 .infer
    let back (asFound : Bool) := fromHslaFn (sassMod c.hue 360) (c.saturation / 100) (c.lightness asFound / 100) 1
    ((back true).r, (back true).g, (back true).b) = (18, 53, 89) ∧
    ((back false).r, (back false).g, (back false).b) = (18, 52, 87) := by
  decide +kernel

end Grass.Color
