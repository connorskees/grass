import Grass.Lexer
/-
  C01 — Compilation is total: every input yields CSS or an error, never a crash or hang.

  PARTIAL: theorems only for the character-level scanners of Grass/Lexer.lean, the span
  arithmetic of errors and two guarded `unwrap`/index sites; `C01_full` is stated, not proved
  (see `C01_scanner_layer_total_partial` for what is missing; the rest is tools/props/c01.py).

  Termination of the scanners is the definitions themselves: they are written without fuel and
  accepted with measure `s.size - cursor`.  Proved on top: progress (`C01_scan_progress`,
  `C01_step_advances`), immediate answer at end of input (`C01_scan_eof`), error spans inside the
  file on character boundaries (`C01_err_span_in_file`: `codemap::File::find_line_col` cannot
  panic on them), `C01_convert_guarded`, `C01_clamp_guarded`, `C01_escaped_char_guarded`, and
  the witnesses `C01_asFound_sassLoudComment_diverges`, `C01_asFound_clamp_unguarded` for the
  two defects of the pinned tree (both fixed in /repo).
-/
namespace Grass.Lexer

/-! ### progress of the number, interpolated-identifier and value scanners

  (`_adv` / `_ge` of the scanners these call: Grass/Lexer.lean.) -/

theorem tryDecimal_ge (a : Bool) (s : Array Char) (i j : Nat) (h : tryDecimal a s i = .ok j) :
    i ≤ j ∧ (i ≤ s.size → j ≤ s.size) := by
  revert h
  fun_cases tryDecimal a s i
  case case4 =>
    rintro ⟨⟩
    have := skipDigits_ge s (i + 1)
    have := skipDigits_le s (i + 1)
    omega
  case case3 | case5 => nofun
  all_goals
    rintro ⟨⟩
    omega

theorem tryExponent_ge (s : Array Char) (i j : Nat) (h : tryExponent s i = .ok j) :
    i ≤ j ∧ (i ≤ s.size → j ≤ s.size) := by
  revert h
  fun_cases tryExponent s i
  case case1 =>
    rintro ⟨⟩
    have := skipDigits_ge s (i + 1)
    have := skipDigits_le s (i + 1)
    omega
  case case2 hd =>
    rintro ⟨⟩
    have := peekSat_lt hd
    have := skipDigits_ge s (i + 2)
    have := skipDigits_le s (i + 2)
    omega
  case case3 => nofun
  all_goals
    rintro ⟨⟩
    omega

theorem afterSign_ge (s : Array Char) (i : Nat) : i ≤ afterSign s i ∧ (i ≤ s.size → afterSign s i ≤ s.size) := by
  fun_cases afterSign s i <;> omega

theorem naturalPart_ge (s : Array Char) (i j : Nat) (h : naturalPart s i = .ok j) :
    i ≤ j ∧ (i ≤ s.size → j ≤ s.size) := by
  revert h
  fun_cases naturalPart s i
  case case1 =>
    rintro ⟨⟩
    omega
  case case2 =>
    rintro ⟨⟩
    have := skipDigits_ge s (i + 1)
    have := skipDigits_le s (i + 1)
    omega
  all_goals nofun

theorem numberLit_ge (s : Array Char) (i j : Nat) (h : numberLit s i = .ok j) :
    i ≤ j ∧ (i ≤ s.size → j ≤ s.size) := by
  revert h
  fun_cases numberLit s i
  case case1 a b hb c hc =>
    intro h
    have : i ≤ a ∧ (i ≤ s.size → a ≤ s.size) := afterSign_ge s i
    have := naturalPart_ge _ _ _ hb
    have := tryDecimal_ge _ _ _ _ hc
    have := tryExponent_ge _ _ _ h
    omega
  case case2 hno | case3 hno => exact fun h => (hno j h).elim

theorem ResT.toRes_eq_ok {r : ResT} {j : Nat} : r.toRes = .ok j ↔ ∃ t, r = .ok j t := by
  cases r <;> simp [ResT.toRes]

theorem UrlRes.toRes_eq_ok {r : UrlRes} {i j : Nat} : r.toRes i = .ok j ↔ r = .url j ∨ (r = .notUrl ∧ j = i) := by
  cases r <;> simp [UrlRes.toRes, eq_comm]

theorem numberUnit_ge (s : Array Char) (i j : Nat) (h : numberUnit s i = .ok j) :
    i ≤ j ∧ (i ≤ s.size → j ≤ s.size) := by
  revert h
  fun_cases numberUnit s i
  case case1 hp =>
    rintro ⟨⟩
    have := peekIs_lt hp
    omega
  case case2 =>
    intro h
    obtain ⟨t, ht⟩ := ResT.toRes_eq_ok.1 h
    exact ge_of_adv (parseIdentifier_adv _ _ _ _ _ _ ht)
  case case3 =>
    rintro ⟨⟩
    omega

theorem parseNumber_ge (s : Array Char) (i j : Nat) (h : parseNumber s i = .ok j) :
    i ≤ j ∧ (i ≤ s.size → j ≤ s.size) := by
  revert h
  fun_cases parseNumber s i
  case case1 k hk =>
    intro h
    have := numberLit_ge _ _ _ hk
    have := numberUnit_ge _ _ _ h
    omega
  case case2 hno => exact fun h => (hno j h).elim

theorem parseIIdent_ge (s : Array Char) (i j : Nat) (h : parseIIdent s i = .ok j) :
    i ≤ j ∧ (i ≤ s.size → j ≤ s.size) := by
  revert h
  fun_cases parseIIdent s i
  case case4 | case5 | case6 | case7 | case8 => nofun
  all_goals
    intro h
    have hj := iidentBody_ge _ _ _ h
  case case1 a hd =>
    have : i ≤ a := le_optional_step _ i
    have := peekIs_lt hd.2
    omega
  case case2 a _ _ _ =>
    have : i ≤ a := le_optional_step _ i
    omega
  case case3 a _ _ _ _ _ _ hm =>
    have : i ≤ a := le_optional_step _ i
    have := parseEscape_adv _ _ _ _ _ hm
    omega

/-! The three value loops.  By induction along the loop: where a sub-scanner consumed `[i, k)` its
    progress lemma bounds `k`; every other branch is an error, stops at `i`, or goes round again
    one token further on. -/

theorem declValue_ge (s : Array Char) (i : Nat) (br : List Char) (j : Nat) (h : declValue s i br = .ok j) :
    i ≤ j ∧ (i ≤ s.size → j ≤ s.size) := by
  fun_induction declValue s i br
  case case1 hm ih => exact adv_then_ge (parseEscape_adv _ _ _ _ _ hm) (ih h)
  case case4 hm ih => exact adv_then_ge (parseString_adv _ _ _ hm) (ih h)
  case case7 hm ih => exact adv_then_ge (loudBody_adv _ _ _ hm) (ih h)
  case case11 hm ih | case26 hm ih => exact adv_then_ge (parseIdentifier_adv _ _ _ _ _ _ hm) (ih h)
  case case22 hm ih => exact adv_then_ge (tryUrlBase_adv _ _ _ hm) (ih h)
  case case10 ih | case14 ih | case15 ih | case16 ih | case18 ih | case21 ih | case23 ih | case29 ih =>
    have := ih h
    omega
  all_goals cases h <;> omega

theorem ideclValue_ge (ind a c : Bool) (s : Array Char) (i : Nat) (br : List Char) (j : Nat)
    (h : ideclValue ind a c s i br = .ok j) : i ≤ j ∧ (i ≤ s.size → j ≤ s.size) := by
  fun_induction ideclValue ind a c s i br
  case case1 hm ih => exact adv_then_ge (parseEscape_adv _ _ _ _ _ hm) (ih h)
  case case4 hm ih => exact adv_then_ge (parseIString_adv _ _ _ hm) (ih h)
  case case7 hm ih => exact adv_then_ge (loudFor_adv _ _ _ _ hm) (ih h)
  case case25 hm ih => exact adv_then_ge (tryUrlSheet_adv _ _ _ _ hm) (ih h)
  case case29 hm ih => exact adv_then_ge (parseIdentifier_adv _ _ _ _ _ _ hm) (ih h)
  case case10 ih | case12 ih | case13 ih | case16 ih | case17 ih | case19 ih | case22 ih | case24 ih | case26 ih | case32 ih =>
    have := ih h
    omega
  all_goals cases h <;> omega

theorem almostAny_ge (y : Syn) (s : Array Char) (i j : Nat) (h : almostAny y s i = .ok j) :
    i ≤ j ∧ (i ≤ s.size → j ≤ s.size) := by
  fun_induction almostAny y s i
  case case3 hm ih => exact adv_then_ge (parseIString_adv _ _ _ hm) (ih h)
  case case7 i _ _ _ _ hp _ ih =>
    have := peekIs_lt hp
    have := untilNewline_ge s (i + 2)
    have := untilNewline_le s (i + 2) (by omega)
    have := ih h
    omega
  case case8 hm ih => exact adv_then_ge (loudFor_adv _ _ _ _ hm) (ih h)
  case case17 hm ih => exact adv_then_ge (tryUrlSheet_adv _ _ _ _ hm) (ih h)
  case case21 hm ih => exact adv_then_ge (parseIdentifier_adv _ _ _ _ _ _ hm) (ih h)
  case case1 ih | case11 ih | case13 ih | case15 ih | case18 ih | case24 ih =>
    have := ih h
    omega
  all_goals cases h <;> omega

theorem declarationValue_ge (ae : Bool) (s : Array Char) (i j : Nat) (h : declarationValue ae s i = .ok j) :
    i ≤ j ∧ (i ≤ s.size → j ≤ s.size) := by
  revert h
  fun_cases declarationValue ae s i
  case case1 => nofun
  case case2 k hk _ =>
    rintro ⟨⟩
    exact declValue_ge _ _ _ _ hk
  case case3 => exact declValue_ge _ _ _ _

theorem interpolatedDeclarationValue_ge (ind a b c : Bool) (s : Array Char) (i j : Nat)
    (h : interpolatedDeclarationValue ind a b c s i = .ok j) : i ≤ j ∧ (i ≤ s.size → j ≤ s.size) := by
  revert h
  fun_cases interpolatedDeclarationValue ind a b c s i
  case case1 => nofun
  case case2 k hk _ =>
    rintro ⟨⟩
    exact ideclValue_ge _ _ _ _ _ _ _ hk
  case case3 => exact ideclValue_ge _ _ _ _ _ _ _

/-! ### C01: progress and end of input, for every modelled scanner -/

theorem runScanner_ge (sc : Scanner) (y : Syn) (s : Array Char) (i j : Nat)
    (h : runScanner sc y s i = .ok j) : i ≤ j ∧ (i ≤ s.size → j ≤ s.size) := by
  cases sc <;> simp only [runScanner] at h
  case wsNoComments =>
    cases h
    exact ⟨wsNoComments_ge y.ind s i, wsNoComments_le y.ind s i⟩
  case whitespace => exact whitespace_ge _ _ _ _ h
  case loudComment => exact ge_of_adv (loudFor_adv _ _ _ _ h)
  case escape b =>
    obtain ⟨t, ht⟩ := ResT.toRes_eq_ok.1 h
    exact ge_of_adv (parseEscape_adv _ _ _ _ _ ht)
  case escapedChar =>
    obtain ⟨t, ht⟩ := ResT.toRes_eq_ok.1 h
    exact ge_of_adv (consumeEscapedChar_adv _ _ _ _ ht)
  case identifier n u =>
    obtain ⟨t, ht⟩ := ResT.toRes_eq_ok.1 h
    exact ge_of_adv (parseIdentifier_adv _ _ _ _ _ _ ht)
  case interpIdent => exact parseIIdent_ge _ _ _ h
  case string => exact ge_of_adv (parseString_adv _ _ _ h)
  case interpString => exact ge_of_adv (parseIString_adv _ _ _ h)
  case number => exact parseNumber_ge _ _ _ h
  case urlBase =>
    rcases UrlRes.toRes_eq_ok.1 h with hu | ⟨_, rfl⟩
    · exact ge_of_adv (tryUrlBase_adv _ _ _ hu)
    · omega
  case urlSheet =>
    rcases UrlRes.toRes_eq_ok.1 h with hu | ⟨_, rfl⟩
    · exact ge_of_adv (tryUrlSheet_adv _ _ _ _ hu)
    · omega
  case declValue ae => exact declarationValue_ge _ _ _ _ h
  case interpDeclValue a b c => exact interpolatedDeclarationValue_ge _ _ _ _ _ _ _ h
  case almostAny => exact almostAny_ge _ _ _ _ h

/-- **Progress**, for every modelled scanner and every syntax. -/
theorem C01_scan_progress (sc : Scanner) (y : Syn) (s : Array Char) (i j : Nat) (hi : i ≤ s.size)
    (h : runScanner sc y s i = .ok j) : i ≤ j ∧ j ≤ s.size :=
  ⟨(runScanner_ge sc y s i j h).1, (runScanner_ge sc y s i j h).2 hi⟩

example : runScanner .whitespace .scss " /* c */ // d\n  x".toList.toArray 0 = .ok 16 := by decide +kernel
example : runScanner (.declValue true) .scss "a(b[c]) \"x)\" )".toList.toArray 0 = .ok 13 := by decide +kernel
example : runScanner .almostAny .sass "a url(x y) \"s\" \\; z\nq".toList.toArray 0 = .ok 19 := by decide +kernel

/-- **Strict progress of the loop steps.**  The scanners that a loop calls as one step, and whose
    success lets the loop go round again, consume at least one token — this is what the
    termination proofs of the enclosing loops rest on. -/
theorem C01_step_advances (y : Syn) (s : Array Char) (i j : Nat) :
    (loudFor y.ind s i = .ok j → i < j) ∧
    (∀ b t, parseEscape b s i = .ok j t → i < j) ∧
    (∀ t, consumeEscapedChar s i = .ok j t → i < j) ∧
    (∀ n u t, parseIdentifier n u s i = .ok j t → i < j) ∧
    (parseString s i = .ok j → i < j) ∧
    (parseIString s i = .ok j → i < j) ∧
    (tryUrlBase s i = .url j → i < j) ∧
    (tryUrlSheet y.ind s i = .url j → i < j) := by
  refine ⟨fun h => (loudFor_adv _ _ _ _ h).1, fun b t h => (parseEscape_adv _ _ _ _ _ h).1,
    fun t h => (consumeEscapedChar_adv _ _ _ _ h).1, fun n u t h => (parseIdentifier_adv _ _ _ _ _ _ h).1,
    fun h => (parseString_adv _ _ _ h).1, fun h => (parseIString_adv _ _ _ h).1,
    fun h => (tryUrlBase_adv _ _ _ h).1, fun h => (tryUrlSheet_adv _ _ _ _ h).1⟩

example : parseString "\"a\\\"b\" c".toList.toArray 0 = .ok 6 := by decide +kernel

/-- What a scanner may answer at end of input: stay where it is, or report an error. -/
def eofAnswer (i : Nat) (r : Res) : Prop := r = .ok i ∨ ∃ e sp, r = .err e sp

theorem peekIs_eof {s : Array Char} {i : Nat} (h : s.size ≤ i) (c : Char) : peekIs s i c = false := by
  unfold peekIs; simp [show ¬ i < s.size by omega]

theorem peekSat_eof {s : Array Char} {i : Nat} (h : s.size ≤ i) (p : Char → Bool) : peekSat s i p = false := by
  unfold peekSat; simp [show ¬ i < s.size by omega]

theorem wsNoComments_eof (b : Bool) {s : Array Char} {i : Nat} (h : s.size ≤ i) : wsNoComments b s i = i := by
  unfold wsNoComments; simp [show ¬ i < s.size by omega]

theorem lookingAtIdentifier_eof {s : Array Char} {i : Nat} (h : s.size ≤ i) : lookingAtIdentifier s i = false := by
  unfold lookingAtIdentifier; simp [show ¬ i < s.size by omega]

theorem scanUrlIdent_eof {s : Array Char} {i : Nat} (h : s.size ≤ i) : scanUrlIdent s i = .ok none := by
  unfold scanUrlIdent; simp [lookingAtIdentifier_eof h]

/-- **End of input** (the `peek() == None` arm of each loop): every scanner answers at once.  The
    as-found indented loud-comment loop violates exactly this, see below. -/
theorem C01_scan_eof (sc : Scanner) (y : Syn) (s : Array Char) (i : Nat) (hi : s.size ≤ i) :
    eofAnswer i (runScanner sc y s i) := by
  have hn : ¬ i < s.size := by omega
  have hn1 : ¬ i + 1 < s.size := by omega
  cases sc <;> simp only [runScanner]
  case wsNoComments => exact .inl (by rw [wsNoComments_eof _ hi])
  case whitespace =>
    unfold whitespace
    simp [eofAnswer, wsNoComments_eof _ hi, hn1]
  case loudComment =>
    unfold loudFor sassLoudBody loudBody
    simp [eofAnswer, hn]
  case escape b => simp [eofAnswer, parseEscape, hn, ResT.toRes]
  case escapedChar => simp [eofAnswer, consumeEscapedChar, hn, ResT.toRes]
  case identifier n u => simp [eofAnswer, parseIdentifier, peekIs_eof hi, hn, ResT.toRes]
  case interpIdent => simp [eofAnswer, parseIIdent, peekIs_eof hi, hn]
  case string => simp [eofAnswer, parseString, hn]
  case interpString => simp [eofAnswer, parseIString, hn]
  case number => simp [eofAnswer, parseNumber, numberLit, afterSign, naturalPart, hn]
  case urlBase => simp [eofAnswer, tryUrlBase, scanUrlIdent_eof hi, UrlRes.toRes]
  case urlSheet => simp [eofAnswer, tryUrlSheet, scanUrlIdent_eof hi, UrlRes.toRes]
  case declValue ae =>
    unfold declarationValue declValue
    cases ae <;> simp [eofAnswer, hn]
  case interpDeclValue a b c =>
    unfold interpolatedDeclarationValue ideclValue
    cases b <;> simp [eofAnswer, hn, idvBufferEmpty]
  case almostAny =>
    unfold almostAny
    simp [eofAnswer, hn]

example : runScanner .loudComment .sass "/*#*[".toList.toArray 5 = .err .expectedMoreInput (.cur 5) := by
  decide +kernel

/-! ### C01: error spans lie inside the file, on character boundaries -/

theorem boundaries_head (n : Nat) (s : List Char) : n ∈ boundaries n s := by
  cases s <;> simp [boundaries]

theorem boundaries_bounds (n : Nat) (s : List Char) : ∀ x ∈ boundaries n s, n ≤ x ∧ x ≤ n + byteLen s := by
  induction s generalizing n with
  | nil => intro x hx; simp [boundaries] at hx; subst hx; simp [byteLen]
  | cons c rest ih =>
    intro x hx
    simp only [boundaries, List.mem_cons] at hx
    rcases hx with hx | hx
    · subst hx; simp [byteLen]
    · have := ih _ x hx; simp only [byteLen]; omega

/-- `t` starts and ends on a character boundary of `s`, which starts at byte `n` -/
def onBoundaries (n : Nat) (s : List Char) (t : Tok) : Prop :=
  t.pos ∈ boundaries n s ∧ (t.pos + t.kind.utf8Size) ∈ boundaries n s

theorem onBoundaries_head {n : Nat} {k c : Char} {rest : List Char} (hk : k.utf8Size = c.utf8Size) :
    onBoundaries n (c :: rest) ⟨k, n⟩ :=
  ⟨List.mem_cons_self, List.mem_cons_of_mem _ (hk ▸ boundaries_head _ _)⟩

theorem onBoundaries_tail {n : Nat} {c : Char} {rest : List Char} {t : Tok}
    (h : onBoundaries (n + c.utf8Size) rest t) : onBoundaries n (c :: rest) t :=
  ⟨List.mem_cons_of_mem _ h.1, List.mem_cons_of_mem _ h.2⟩

theorem lexFrom_boundaries (n : Nat) (s : List Char) : ∀ t ∈ lexFrom n s, onBoundaries n s t := by
  fun_induction lexFrom n s
  case case1 => nofun
  case case2 cur rest ih =>
    intro t ht
    rcases List.mem_cons.1 ht with rfl | ht
    · exact onBoundaries_head (by decide)
    · exact onBoundaries_tail (ih t ht)
  case case3 cur _ =>
    intro t ht
    cases List.mem_singleton.1 ht
    exact onBoundaries_head (by decide)
  case case4 cur rest' _ ih =>
    intro t ht
    rcases List.mem_cons.1 ht with rfl | ht
    · exact onBoundaries_tail (onBoundaries_head rfl)
    · exact onBoundaries_tail (onBoundaries_tail (ih t ht))
  case case5 cur d rest' _ _ ih =>
    intro t ht
    rcases List.mem_cons.1 ht with rfl | ht
    · exact onBoundaries_head (by decide)
    · exact onBoundaries_tail (ih t ht)
  case case6 cur c rest _ _ ih =>
    intro t ht
    rcases List.mem_cons.1 ht with rfl | ht
    · exact onBoundaries_head rfl
    · exact onBoundaries_tail (ih t ht)

theorem spanAtIndex_cases (ts : Array Tok) (idx : Nat) :
    spanAtIndex ts idx = (0, 0) ∨ ∃ t ∈ ts.toList, spanAtIndex ts idx = (t.pos, t.kind.utf8Size) := by
  fun_cases spanAtIndex ts idx
  case case1 t ht => exact .inr ⟨t, Array.mem_toList_iff.2 (Array.mem_of_getElem? ht), rfl⟩
  case case2 t ht => exact .inr ⟨t, Array.mem_toList_iff.2 (Array.mem_of_back? ht), rfl⟩
  case case3 => exact .inl rfl

theorem spanAtIndex_edges (src : List Char) (idx : Nat) :
    (spanAtIndex (lex src).toArray idx).1 ∈ boundaries 0 src ∧
    (spanAtIndex (lex src).toArray idx).1 + (spanAtIndex (lex src).toArray idx).2 ∈ boundaries 0 src := by
  rcases spanAtIndex_cases (lex src).toArray idx with h | ⟨t, ht, h⟩
  · rw [h]; exact ⟨boundaries_head 0 src, boundaries_head 0 src⟩
  · rw [h]; exact lexFrom_boundaries 0 src t (by simpa [lex] using ht)

theorem spanInFile_of_edges (src : List Char) {lo hi : Nat} (h1 : lo ∈ boundaries 0 src)
    (h2 : hi ∈ boundaries 0 src) (h3 : lo ≤ hi) : spanInFile src lo hi = true := by
  have := boundaries_bounds 0 src hi h2
  simp only [spanInFile, Bool.and_eq_true, decide_eq_true_eq, List.contains_iff_mem]
  exact ⟨⟨⟨h3, by omega⟩, h1⟩, h2⟩

/-- **Located errors.**  Whatever span reference an error carries (`current_span`, `prev_span`,
    `span_from(start)`, at any cursor whatsoever), `spanInFile` — the predicate the driver also
    evaluates on the spans grass reports — holds of the bytes it denotes. -/
theorem C01_err_span_in_file (src : List Char) (sp : SpanRef) :
    spanInFile src (spanBytes (lex src).toArray sp).1 (spanBytes (lex src).toArray sp).2 = true := by
  have edge := spanAtIndex_edges src
  cases sp <;> simp only [spanBytes]
  case cur i => exact spanInFile_of_edges src (edge i).1 (edge i).2 (by omega)
  case prev i => exact spanInFile_of_edges src (edge (i - 1)).1 (edge (i - 1)).2 (by omega)
  case range st i =>
    refine spanInFile_of_edges src ?_ ?_ (by omega)
    · rw [Nat.min_def]
      split
      · exact (edge st).1
      · exact (edge (i - 1)).1
    · rw [Nat.max_def]
      split
      · exact (edge (i - 1)).2
      · exact (edge st).2

example : spanBytes (lex ['a', 'é', CR, LF, 'b']).toArray (.range 1 3) = (1, 5) := by decide

/-- The hypothesis is not used: it is the span arithmetic (`spanAtIndex` clamps to the last token)
    that cannot leave the file, whichever span reference a scanner hands over. -/
theorem C01_scan_error_located (sc : Scanner) (y : Syn) (src : List Char) (i : Nat) (e : ErrClass) (sp : SpanRef)
    (_h : runScanner sc y (kinds (lex src)).toArray i = .err e sp) :
    spanInFile src (spanBytes (lex src).toArray sp).1 (spanBytes (lex src).toArray sp).2 = true :=
  C01_err_span_in_file src sp

/-! ### C01: conversion guard -/

/-- **`Number::convert` is total on comparable pairs** (its documented invariant, number.rs:157):
    the table index cannot miss. -/
theorem C01_convert_guarded (u v : U) (h : comparable u v = true) : (convert? u v).isSome = true := by
  cases u <;> cases v <;> simp_all [comparable, convert?]
  all_goals (try (split <;> simp_all))

example : comparable (.conv 0 1) (.conv 0 2) = true ∧ convert? (.conv 0 1) (.conv 0 2) = some () := by decide

/-- What `has_compatible_units` compares: a convertible unit stands for its kind. -/
def U.family : U → U
  | .conv k _ => .conv k 0
  | u => u

theorem compatible_iff (u v : U) : compatible u v = true ↔ u.family = v.family := by
  cases u <;> cases v <;> simp [compatible, comparable, U.family]

theorem convert?_of_family {u v : U} (h : u.family = v.family) : (convert? u v).isSome = true := by
  cases u <;> cases v <;> simp_all [convert?, U.family]

/-- **`clamp()` as the code stands** (guard `has_compatible_units`, calculation.rs:195): the guard
    puts all three units in one family, so the conversions hit the table.  `clampConversions` has
    `min → value` and `max → value` (:198, :204); the code also converts `max → min` (:199). -/
theorem C01_clamp_guarded (mn v mx : U) : (clampConversions false mn v mx).isSome = true := by
  simp only [clampConversions, Bool.false_eq_true, ↓reduceIte]
  split
  · rename_i g
    rw [Bool.and_eq_true, compatible_iff, compatible_iff] at g
    obtain ⟨_, h⟩ := Option.isSome_iff_exists.1 (convert?_of_family g.1)
    rw [h]
    exact convert?_of_family (g.2.symm.trans g.1)
  · rfl

example : clampConversions false (.conv 0 0) (.conv 0 1) (.conv 0 2) = some () := by decide

/-- **As found** (guard `is_comparable_to`, pinned tree): a unitless minimum is comparable to
    everything, so `clamp(1, 2px, 3em)` converts `em` to `px` — a missing table key, i.e. a panic. -/
theorem C01_asFound_clamp_unguarded :
    clampConversions true .none (.conv 0 0) (.other 1) = none ∧
    clampConversions false .none (.conv 0 0) (.other 1) = some () := by decide

/-! ### C01: the `unwrap` in `consume_escaped_char` -/

/-- **`char::from_u32(value).unwrap()` in `consume_escaped_char` cannot fail** (base.rs:368-372):
    whatever the hex digits say, the value handed over is a Unicode scalar value. -/
theorem C01_escaped_char_guarded (v : Nat) : validScalar (escapedScalar v) = true := by
  unfold escapedScalar validScalar
  split
  · decide
  · rename_i h
    simp only [Bool.or_eq_true, beq_iff_eq, Bool.and_eq_true, decide_eq_true_eq, not_or, not_and, Nat.not_le] at h ⊢
    omega

example : escapedScalar 0xDFFF = 0xFFFD ∧ escapedScalar 0xD7FF = 0xD7FF ∧ escapedScalar 0xE000 = 0xE000 ∧
    escapedScalar 0x10FFFE = 0x10FFFE ∧ escapedScalar 0x10FFFF = 0xFFFD ∧ escapedScalar 0 = 0xFFFD := by decide

/-- The seeded variant with the half-open surrogate range `0xD800..0xDFFF` hands U+DFFF to `unwrap`. -/
example : validScalar (if (0 : Nat) == 0xDFFF || (0xD800 ≤ 0xDFFF && 0xDFFF < 0xDFFF) || 0xDFFF ≥ 0x10FFFF then 0xFFFD else 0xDFFF) = false := by
  decide

/-! ### C01: the indented-syntax loud comment, as found and as the code stands -/

theorem sassLoudAsFound_eof_diverges (fuel : Nat) (s : Array Char) (i : Nat) (h : s.size ≤ i) :
    sassLoudAsFound fuel s i = .outOfFuel := by
  induction fuel with
  | zero => rfl
  | succ n ih => unfold sassLoudAsFound; simp [show ¬ i < s.size by omega, ih]

/-- the 7-byte input of defect D2, `/]/*#*[`, as the token buffer -/
def d2Input : Array Char := #['/', ']', '/', '*', '#', '*', '[']

/-- **Witness (as found).**  Entered after the `/*` at index 4, the loop outlasts any fuel. -/
theorem C01_asFound_sassLoudComment_diverges : ∀ fuel, sassLoudAsFound fuel d2Input 4 = .outOfFuel := by
  intro fuel
  match fuel with
  | 0 => rfl
  | 1 => decide +kernel
  | n + 2 =>
    -- two rounds of the loop (`#`, then `*[`) take the cursor from 4 to the end of the buffer
    have : sassLoudAsFound (n + 2) d2Input 4 = sassLoudAsFound n d2Input 7 := by
      simp [sassLoudAsFound, d2Input, skipStars]
    rw [this]
    exact sassLoudAsFound_eof_diverges _ _ _ (Nat.le_refl 7)

theorem C01_sassLoudComment_now_errors :
    sassLoudBody d2Input 4 = .err .expectedMoreInput (.cur 7) := by decide +kernel

/-! ### what is proved of the whole property, in one statement -/

/-- **PARTIAL.**  The part of `C01_full` that is a theorem, for every modelled scanner, syntax, token
    buffer and cursor inside it.
    MISSING for `C01_full`: the statement-level loops of the three stylesheet parsers (indentation
    tracking, `parse_statements`/`parse_children`), the expression, selector and media-query parsers,
    the evaluator, @extend, the serializer (all only TESTED by tools/props/c01.py), stack exhaustion on
    deep nesting, allocation failure. -/
theorem C01_scanner_layer_total_partial (sc : Scanner) (y : Syn) (src : List Char) (i : Nat)
    (hi : i ≤ (kinds (lex src)).toArray.size) :
    (∀ j, runScanner sc y (kinds (lex src)).toArray i = .ok j → i ≤ j ∧ j ≤ (kinds (lex src)).toArray.size) ∧
    (i = (kinds (lex src)).toArray.size → eofAnswer i (runScanner sc y (kinds (lex src)).toArray i)) ∧
    (∀ e sp, runScanner sc y (kinds (lex src)).toArray i = .err e sp →
      spanInFile src (spanBytes (lex src).toArray sp).1 (spanBytes (lex src).toArray sp).2 = true) :=
  ⟨fun j h => C01_scan_progress sc y _ i j hi h,
   fun h => C01_scan_eof sc y _ i (by omega),
   fun e sp h => C01_scan_error_located sc y src i e sp h⟩

/-! ### the full property (not proved) -/

/-- What one compilation can do, seen from outside. -/
inductive Outcome where
  | css (text : List Char)
  | error (message : List Char) (lo hi : Nat)
  | panic | abort | hang
  deriving Repr

/-- UNPROVED.  C01 over the whole compiler (`compile syntax compressed options bytes`, for programs
    whose own loops are bounded). -/
def C01_full (compile : Syn → Bool → Nat → List UInt8 → Outcome) : Prop :=
  ∀ y compressed opts bytes,
    (∃ t, compile y compressed opts bytes = .css t) ∨ (∃ m lo hi, compile y compressed opts bytes = .error m lo hi)

end Grass.Lexer
