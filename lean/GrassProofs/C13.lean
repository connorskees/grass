import GrassProofs.Lemmas.ImportPaths
/-
  C13 — Imports follow the documented search order, only via the supplied Fs.

  `AsFound.spec` (all switches off) is the documented behaviour and what `find_import` does in
  /repo since f4a8659; `AsFound.current` (D9, D10, D8b on) is the pinned tree before it and
  appears only in the `C13_asFound_…` theorems.  tools/props/c13.py detects which switches grass
  still shows and ties against that variant.

  Every order statement is read off one fact: the result is `find?` over an explicit ordered
  candidate list (`C13_resolve_eq_find`, layout: `C13_location_layout`, `C13_locations_layout`).
-/
namespace Grass.Import

/-! ### generic list facts -/

theorem find?_append_of_clear {α} {p : α → Bool} {A : List α} (L : List α)
    (hA : ∀ a ∈ A, p a = false) : (A ++ L).find? p = L.find? p := by
  rw [List.find?_append, List.find?_eq_none.mpr (by simpa using hA), Option.none_or]

theorem find?_append_of_hit {α} {p : α → Bool} {B : List α} (C : List α)
    (hB : ∃ b ∈ B, p b = true) : ∃ r ∈ B, (B ++ C).find? p = some r := by
  obtain ⟨b, hb, hpb⟩ := hB
  cases h : B.find? p with
  | none => simp [List.find?_eq_none.mp h b hb] at hpb
  | some r => exact ⟨r, List.mem_of_find?_eq_some h, by rw [List.find?_append, h, Option.some_or]⟩

theorem takeWhile_ne_of_find {α} [DecidableEq α] (p : α → Bool) (xs : List α) (r : α)
    (h : xs.find? p = some r) : ∀ q ∈ xs.takeWhile (· ≠ r), p q = false := by
  obtain ⟨_, as, bs, rfl, has⟩ := List.find?_eq_some_iff_append.mp h
  intro q hq
  rw [List.takeWhile_append] at hq
  split at hq
  · rw [List.takeWhile_cons_of_neg (by simp), List.append_nil] at hq
    simpa using has q hq
  · simpa using has q ((List.takeWhile_sublist _).subset hq)

theorem flatMap_find_congr {α β} (p : β → Bool) (f g : α → List β) (ls : List α)
    (h : ∀ l ∈ ls, (f l).find? p = (g l).find? p) :
    (ls.flatMap f).find? p = (ls.flatMap g).find? p := by
  induction ls with
  | nil => rfl
  | cons l ls ih =>
    simp only [List.flatMap_cons, List.find?_append]
    rw [h l (by simp), ih (fun l' hl' => h l' (by simp [hl']))]

/-! ### `firstFile`, `resolveLoc`, `resolveLocs`: result and calls -/

theorem firstFile_fst (fs : Fs) (ps : List Path) : (firstFile fs ps).1 = ps.find? fs.isFile := by
  induction ps with
  | nil => rfl
  | cons p ps ih =>
    unfold firstFile
    cases h : fs.isFile p <;> simp [h, ih]

theorem firstFile_calls (fs : Fs) (ps : List Path) :
    (firstFile fs ps).2.Sublist (ps.map .isFile) := by
  induction ps with
  | nil => exact .slnil
  | cons p ps ih =>
    unfold firstFile
    split
    · exact .cons_cons _ (List.nil_sublist _)
    · exact .cons_cons _ ih

/-- The files of a location that can actually be reached given the answer to `is_dir`. -/
def Loc.eligible (fs : Fs) (l : Loc) : List Path :=
  l.files ++
    (match l.index with
     | none => []
     | some (d, gs) => if fs.isDir d then gs.flatten else [])

theorem resolveLoc_fst (fs : Fs) (l : Loc) :
    (resolveLoc fs l).1 = (l.eligible fs).find? fs.isFile := by
  unfold resolveLoc Loc.eligible
  simp only [firstFile_fst]
  cases h : l.files.find? fs.isFile with
  | some p => simp [List.find?_append, h]
  | none =>
    rcases hi : l.index with _ | ⟨d, gs⟩
    · simp [h]
    · cases hd : fs.isDir d <;> simp [h, hd]

theorem resolveLocs_fst (fs : Fs) (ls : List Loc) :
    (resolveLocs fs ls).1 = (ls.flatMap (Loc.eligible fs)).find? fs.isFile := by
  induction ls with
  | nil => rfl
  | cons l ls ih =>
    unfold resolveLocs
    simp only [List.flatMap_cons, List.find?_append, ← resolveLoc_fst, ← ih]
    cases h : (resolveLoc fs l).1 <;> simp

/-! ### coherent file systems: the `is_dir` test can be left out -/

/-- A file system in which a file's parent is a directory. -/
def Fs.coherent (fs : Fs) : Prop :=
  ∀ (d : Path) (n : Comp), fs.isFile (d ++ [n]) = true → fs.isDir d = true

/-- The runner's in-memory Fs (`fsOf`) is coherent: the hypothesis of the order theorems holds on
    every generated case. -/
theorem fsOf_coherent (files dirs : List Path) : (fsOf files dirs).coherent := by
  intro d n h
  simp only [fsOf] at h ⊢
  have hm : (d ++ [n]) ∈ files := by simpa using h
  simp only [Bool.or_eq_true, List.any_eq_true]
  refine Or.inl (Or.inr ⟨d ++ [n], hm, ?_⟩)
  simp [isProperPrefix, List.isPrefixOf_iff_prefix]

/-- Index candidates lie directly inside the directory that is tested with `is_dir`. -/
def Loc.wf (l : Loc) : Prop :=
  ∀ d gs, l.index = some (d, gs) → ∀ p ∈ gs.flatten, ∃ n, p = d ++ [n]

theorem withExtensions_flatten_eq_flatMap (af : AsFound) (imp : Bool) (D : Path) (n : Comp) :
    (withExtensions af imp D n).flatten =
      ((if imp then [n ++ '.' :: importWord] else []) ++ [n]).flatMap fun m =>
        [addExt af m sassExt, addExt af m scssExt, addExt af m cssExt].flatMap (tryPath D) := by
  cases imp <;> rfl

theorem withExtensions_shape (af : AsFound) (imp : Bool) (D : Path) (n : Comp) :
    ∀ p ∈ (withExtensions af imp D n).flatten, ∃ k, p = D ++ [k] := by
  intro p hp
  simp only [withExtensions_flatten_eq_flatMap, List.mem_flatMap, tryPath, List.mem_cons, List.mem_nil_iff,
    or_false] at hp
  obtain ⟨_, _, k, _, rfl | rfl⟩ := hp <;> exact ⟨_, rfl⟩

theorem locFor_wf (af : AsFound) (imp : Bool) (root url : Path) : (locFor af imp root url).wf := by
  unfold locFor
  split
  · intro d gs hi; cases hi
  · split
    · intro d gs hi; cases hi
    · intro d gs hi p hp
      cases hi
      exact withExtensions_shape _ _ _ _ p hp

theorem locations_wf (af : AsFound) (importer url : Path) (lps : List Path) (fi : Bool) :
    ∀ l ∈ locations af importer url lps fi, l.wf := by
  intro l hl
  unfold locations at hl
  split at hl
  · simp at hl; subst hl; exact locFor_wf _ _ _ _
  · simp at hl
    rcases hl with rfl | ⟨lp, _, rfl⟩ <;> exact locFor_wf _ _ _ _

/-- The answer to `is_dir` decides nothing: the index files lie directly inside the tested
    directory, so if it is missing none of them exists.  This is where `Fs.coherent` enters every
    order theorem. -/
theorem eligible_find (fs : Fs) (hc : fs.coherent) (l : Loc) (hw : l.wf) :
    (l.eligible fs).find? fs.isFile = l.filePaths.find? fs.isFile := by
  unfold Loc.eligible Loc.filePaths Loc.indexFiles
  rcases hi : l.index with _ | ⟨d, gs⟩
  · rfl
  · cases hd : fs.isDir d
    · have : gs.flatten.find? fs.isFile = none := by
        rw [List.find?_eq_none]
        intro p hp hf
        obtain ⟨n, rfl⟩ := hw d gs hi p hp
        have := hc d n hf
        simp [hd] at this
      simp [hd, List.find?_append, this]
    · simp [hd]

/-! ### shape of the candidate lists (readable form) -/

/-- `[n.sass, _n.sass, n.scss, _n.scss]` in `dir`. -/
def sassScssOf (dir : Path) (n : Comp) : List Path :=
  [dir ++ [n ++ '.' :: sassExt], dir ++ [('_' :: (n ++ '.' :: sassExt))],
   dir ++ [n ++ '.' :: scssExt], dir ++ [('_' :: (n ++ '.' :: scssExt))]]

/-- `[n.css, _n.css]` in `dir`. -/
def cssOf (dir : Path) (n : Comp) : List Path :=
  [dir ++ [n ++ '.' :: cssExt], dir ++ [('_' :: (n ++ '.' :: cssExt))]]

/-- All file names tried for the name `n` in `dir`: for `@import` the `n.import.*` variants
    first; Sass files before the CSS file. -/
def namedOf (imp : Bool) (dir : Path) (n : Comp) : List Path :=
  (if imp then sassScssOf dir (n ++ '.' :: importWord) ++ cssOf dir (n ++ '.' :: importWord) else []) ++
    (sassScssOf dir n ++ cssOf dir n)

theorem splitLast_eq_some (u : Path) (d : Path) (b : Comp) (h : splitLast u = some (d, b)) :
    u = d ++ [b] := by
  rcases List.eq_nil_or_concat u with rfl | ⟨d', b', rfl⟩
  · cases h
  · rw [List.concat_eq_append, splitLast_append] at h
    cases h
    exact List.concat_eq_append

theorem withExtensions_spec_eq_namedOf (imp : Bool) (dir : Path) (n : Comp) :
    (withExtensions .spec imp dir n).flatten = namedOf imp dir n := by
  cases imp <;> rfl

/-- **Order inside one location**, URL without an explicit extension: the named files of
    `base` (import-only first when wanted, Sass before CSS), then the same for `base/index`. -/
theorem C13_location_layout (imp : Bool) (root udir : Path) (base : Comp)
    (hx : explicitExt base = none) :
    (locFor .spec imp root (udir ++ [base])).filePaths =
      namedOf imp (root ++ udir) base ++ namedOf imp (root ++ udir ++ [base]) indexName := by
  unfold locFor
  simp only [splitLast_append, hx, Loc.filePaths, Loc.files, Loc.indexFiles, withExtensions_spec_eq_namedOf]

/-- **Order inside one location**, URL with an explicit `.scss`/`.sass`/`.css` extension: the
    literal name and its partial (for `@import` after the import-only sibling `stem.import.ext`);
    no other extension, no index file. -/
theorem C13_location_layout_explicit (imp : Bool) (root udir : Path) (base stem ext : Comp)
    (hx : explicitExt base = some (stem, ext)) :
    (locFor .spec imp root (udir ++ [base])).filePaths =
      (if imp then [root ++ udir ++ [stem ++ '.' :: (importWord ++ '.' :: ext)],
                    root ++ udir ++ [('_' :: (stem ++ '.' :: (importWord ++ '.' :: ext)))]] else []) ++
      [root ++ udir ++ [base], root ++ udir ++ [('_' :: base)]] := by
  unfold locFor
  simp only [splitLast_append, hx, Loc.filePaths, Loc.files, Loc.indexFiles]
  cases imp <;> rfl

/-- **Order of locations**: the importing file's directory, then the load paths as given. -/
theorem C13_locations_layout (importer url : Path) (lps : List Path) (fi : Bool) :
    fileCandidates .spec importer url lps fi =
      (locFor .spec fi importer.dropLast url).filePaths ++
        lps.flatMap (fun lp => (locFor .spec fi lp url).filePaths) := by
  simp [fileCandidates, locations, AsFound.spec, wantsImportOnly, List.flatMap_cons, List.flatMap_map]

/-- The search result is the first existing file of the ordered candidate list (any variant). -/
theorem C13_resolve_eq_find (af : AsFound) (fs : Fs) (hc : fs.coherent)
    (importer url : Path) (lps : List Path) (fi : Bool) :
    resolve af fs importer url lps fi = (fileCandidates af importer url lps fi).find? fs.isFile := by
  unfold resolve fileCandidates
  rw [resolveLocs_fst]
  apply flatMap_find_congr
  intro l hl
  exact eligible_find fs hc l (locations_wf af importer url lps fi l hl)

/-- **resolve_first_match**: the result is an existing candidate and no earlier candidate
    exists. -/
theorem C13_resolve_first_match (af : AsFound) (fs : Fs) (hc : fs.coherent)
    (importer url : Path) (lps : List Path) (fi : Bool) (p : Path)
    (h : resolve af fs importer url lps fi = some p) :
    p ∈ fileCandidates af importer url lps fi ∧ fs.isFile p = true ∧
    ∀ q ∈ (fileCandidates af importer url lps fi).takeWhile (· ≠ p), fs.isFile q = false := by
  rw [C13_resolve_eq_find af fs hc] at h
  exact ⟨List.mem_of_find?_eq_some h, List.find?_some h, takeWhile_ne_of_find _ _ _ h⟩

example : resolve .spec (fsOf [[['a', '.', 's', 'c', 's', 's']], [['a', '.', 'c', 's', 's']]] [])
    [['m']] [['a']] [] true = some [['a', '.', 's', 'c', 's', 's']] := by decide +kernel

theorem load_cantFind_iff (af : AsFound) (fs : Fs) (importer url : Path) (lps : List Path) (fi : Bool) :
    (load af fs importer url lps fi).1 = .cantFind ↔ resolve af fs importer url lps fi = none := by
  unfold load resolve
  cases h : (resolveLocs fs (locations af importer url lps fi)).1 <;> simp [h]

/-- **no_match_is_error** (and only then): the load fails with "Can't find stylesheet to
    import." exactly when no candidate file exists. -/
theorem C13_no_match_is_error (af : AsFound) (fs : Fs) (hc : fs.coherent)
    (importer url : Path) (lps : List Path) (fi : Bool) :
    (load af fs importer url lps fi).1 = .cantFind ↔
      ∀ p ∈ fileCandidates af importer url lps fi, fs.isFile p = false := by
  simp only [load_cantFind_iff, C13_resolve_eq_find af fs hc, List.find?_eq_none, Bool.not_eq_true]

example : (load .spec (fsOf [] []) [['m']] [['a']] [[['l']]] true).1 = .cantFind := by decide +kernel

/-- **relative_before_load_paths**: if any candidate relative to the importing file exists, the
    result is one of the relative candidates, whatever the load paths contain. -/
theorem C13_relative_before_load_paths (fs : Fs) (hc : fs.coherent)
    (importer url : Path) (lps : List Path) (fi : Bool)
    (h : ∃ p ∈ (locFor .spec fi importer.dropLast url).filePaths, fs.isFile p = true) :
    ∃ r ∈ (locFor .spec fi importer.dropLast url).filePaths,
      resolve .spec fs importer url lps fi = some r := by
  rw [C13_resolve_eq_find .spec fs hc, C13_locations_layout]
  exact find?_append_of_hit _ h

example : resolve .spec (fsOf [[['a', '.', 'c', 's', 's']], [['l'], ['a', '.', 's', 'c', 's', 's']]] [])
    [['m']] [['a']] [[['l']]] true = some [['a', '.', 'c', 's', 's']] := by decide +kernel

/-- **load_paths_in_order**: if nothing matches relative to the importing file nor in the load
    paths before `lp`, and something matches in `lp`, the result is one of `lp`'s candidates. -/
theorem C13_load_paths_in_order (fs : Fs) (hc : fs.coherent)
    (importer url : Path) (pre post : List Path) (lp : Path) (fi : Bool)
    (hrel : ∀ p ∈ (locFor .spec fi importer.dropLast url).filePaths, fs.isFile p = false)
    (hpre : ∀ lp' ∈ pre, ∀ p ∈ (locFor .spec fi lp' url).filePaths, fs.isFile p = false)
    (h : ∃ p ∈ (locFor .spec fi lp url).filePaths, fs.isFile p = true) :
    ∃ r ∈ (locFor .spec fi lp url).filePaths,
      resolve .spec fs importer url (pre ++ lp :: post) fi = some r := by
  rw [C13_resolve_eq_find .spec fs hc, C13_locations_layout, List.flatMap_append, List.flatMap_cons,
    find?_append_of_clear _ hrel, find?_append_of_clear]
  · exact find?_append_of_hit _ h
  · intro p hp
    obtain ⟨lp', hlp', hp⟩ := List.mem_flatMap.mp hp
    exact hpre lp' hlp' p hp

example : resolve .spec (fsOf [[['k'], ['a', '.', 's', 'c', 's', 's']], [['l'], ['a', '.', 's', 'a', 's', 's']]] [])
    [['m']] [['a']] [[['l']], [['k']]] false = some [['l'], ['a', '.', 's', 'a', 's', 's']] := by decide +kernel

/-- `C13_load_paths_in_order` by index: load path `i` wins when nothing matches before it. -/
theorem C13_first_location_wins_nth (fs : Fs) (hc : fs.coherent) (importer url : Path) (lps : List Path)
    (i : Nat) (hi : i < lps.length) (fi : Bool)
    (hrel : ∀ p ∈ (locFor .spec fi importer.dropLast url).filePaths, fs.isFile p = false)
    (hpre : ∀ j, (hj : j < i) → ∀ p ∈ (locFor .spec fi (lps[j]'(Nat.lt_trans hj hi)) url).filePaths, fs.isFile p = false)
    (h : ∃ p ∈ (locFor .spec fi lps[i] url).filePaths, fs.isFile p = true) :
    ∃ r ∈ (locFor .spec fi lps[i] url).filePaths, resolve .spec fs importer url lps fi = some r := by
  have := C13_load_paths_in_order fs hc importer url (lps.take i) (lps.drop (i + 1)) lps[i] fi hrel
    (fun lp' hlp' p hp => by
      obtain ⟨j, hj, rfl⟩ := List.mem_take_iff_getElem.mp hlp'
      exact hpre j (Nat.lt_of_lt_of_le hj (Nat.min_le_left ..)) p hp) h
  rwa [List.getElem_cons_drop hi, List.take_append_drop] at this

example : resolve .spec (fsOf [[['k'], ['a', '.', 's', 'c', 's', 's']], [['z'], ['a', '.', 'c', 's', 's']]] [])
    [['m']] [['a']] [[['l']], [['j']], [['k']], [['z']]] false = some [['k'], ['a', '.', 's', 'c', 's', 's']] := by decide +kernel

theorem resolveLoc_layout (fs : Fs) (hc : fs.coherent) (imp : Bool) (root udir : Path) (base : Comp)
    (hx : explicitExt base = none) :
    (resolveLoc fs (locFor .spec imp root (udir ++ [base]))).1 =
      (namedOf imp (root ++ udir) base ++ namedOf imp (root ++ udir ++ [base]) indexName).find? fs.isFile := by
  rw [resolveLoc_fst, eligible_find fs hc _ (locFor_wf _ _ _ _), C13_location_layout imp root udir base hx]

/-- **file_before_index**: if any of the named files of `base` exists in a location, the result
    for that location is one of them, never an index file. -/
theorem C13_file_before_index (fs : Fs) (hc : fs.coherent) (imp : Bool) (root udir : Path) (base : Comp)
    (hx : explicitExt base = none)
    (h : ∃ p ∈ namedOf imp (root ++ udir) base, fs.isFile p = true) :
    ∃ r ∈ namedOf imp (root ++ udir) base,
      (resolveLoc fs (locFor .spec imp root (udir ++ [base]))).1 = some r := by
  rw [resolveLoc_layout fs hc imp root udir base hx]
  exact find?_append_of_hit _ h

example : (resolveLoc (fsOf [[['a'], ['i', 'n', 'd', 'e', 'x', '.', 's', 'c', 's', 's']], [['_', 'a', '.', 'c', 's', 's']]] [])
    (locFor .spec false [] [['a']])).1 = some [['_', 'a', '.', 'c', 's', 's']] := by decide +kernel

/-- **sass_scss_before_css**: within the named files of `n` (no import-only file present), if a
    `.sass`/`.scss` file or partial exists the result is one of those, never `n.css`. -/
theorem C13_sass_scss_before_css (fs : Fs) (hc : fs.coherent) (imp : Bool) (root udir : Path) (base : Comp)
    (hx : explicitExt base = none)
    (hio : imp = true → ∀ p ∈ sassScssOf (root ++ udir) (base ++ '.' :: importWord) ++
                               cssOf (root ++ udir) (base ++ '.' :: importWord), fs.isFile p = false)
    (h : ∃ p ∈ sassScssOf (root ++ udir) base, fs.isFile p = true) :
    ∃ r ∈ sassScssOf (root ++ udir) base,
      (resolveLoc fs (locFor .spec imp root (udir ++ [base]))).1 = some r := by
  rw [resolveLoc_layout fs hc imp root udir base hx, namedOf, List.append_assoc,
    find?_append_of_clear, List.append_assoc]
  · exact find?_append_of_hit _ h
  · cases imp
    · simp
    · exact hio rfl

/-- the same one level down: `index.sass`/`index.scss` before `index.css`. -/
theorem C13_sass_scss_before_css_index (fs : Fs) (hc : fs.coherent) (root udir : Path) (base : Comp)
    (hx : explicitExt base = none)
    (hnamed : ∀ p ∈ namedOf false (root ++ udir) base, fs.isFile p = false)
    (h : ∃ p ∈ sassScssOf (root ++ udir ++ [base]) indexName, fs.isFile p = true) :
    ∃ r ∈ sassScssOf (root ++ udir ++ [base]) indexName,
      (resolveLoc fs (locFor .spec false root (udir ++ [base]))).1 = some r := by
  rw [resolveLoc_layout fs hc false root udir base hx, find?_append_of_clear _ hnamed]
  exact find?_append_of_hit (cssOf (root ++ udir ++ [base]) indexName) h

example : (resolveLoc (fsOf [[['a', '.', 'c', 's', 's']], [['_', 'a', '.', 's', 'c', 's', 's']]] [])
    (locFor .spec true [] [['a']])).1 = some [['_', 'a', '.', 's', 'c', 's', 's']] := by decide +kernel

/-- **import_only_variants_only_for_import** (preference): for `@import`, an existing
    `n.import.*` file (or partial) wins over every plain `n.*` file. -/
theorem C13_import_only_preferred_for_import (fs : Fs) (hc : fs.coherent) (root udir : Path) (base : Comp)
    (hx : explicitExt base = none)
    (h : ∃ p ∈ sassScssOf (root ++ udir) (base ++ '.' :: importWord) ++
                cssOf (root ++ udir) (base ++ '.' :: importWord), fs.isFile p = true) :
    ∃ r ∈ sassScssOf (root ++ udir) (base ++ '.' :: importWord) ++
            cssOf (root ++ udir) (base ++ '.' :: importWord),
      (resolveLoc fs (locFor .spec true root (udir ++ [base]))).1 = some r := by
  rw [resolveLoc_layout fs hc true root udir base hx, namedOf, if_pos rfl, List.append_assoc]
  exact find?_append_of_hit _ h

/-- **import_only_variants_only_for_import** (exclusion): `@use`/`@forward` (`forImport = false`)
    have no import-only candidate at all: in every location exactly the six plain names of
    `base` and the six of `base/index`. -/
theorem C13_import_only_variants_only_for_import (importer udir : Path) (base : Comp) (lps : List Path)
    (hx : explicitExt base = none) :
    fileCandidates .spec importer (udir ++ [base]) lps false =
      (importer.dropLast :: lps).flatMap (fun root =>
        (sassScssOf (root ++ udir) base ++ cssOf (root ++ udir) base) ++
        (sassScssOf (root ++ udir ++ [base]) indexName ++ cssOf (root ++ udir ++ [base]) indexName)) := by
  rw [C13_locations_layout]
  simp only [List.flatMap_cons, C13_location_layout false _ udir base hx, namedOf,
    Bool.false_eq_true, if_false, List.nil_append]

example : fileCandidates .spec [['m']] [['u']] [] false =
    [[['u', '.', 's', 'a', 's', 's']], [['_', 'u', '.', 's', 'a', 's', 's']],
     [['u', '.', 's', 'c', 's', 's']], [['_', 'u', '.', 's', 'c', 's', 's']],
     [['u', '.', 'c', 's', 's']], [['_', 'u', '.', 'c', 's', 's']],
     [['u'], ['i', 'n', 'd', 'e', 'x', '.', 's', 'a', 's', 's']], [['u'], ['_', 'i', 'n', 'd', 'e', 'x', '.', 's', 'a', 's', 's']],
     [['u'], ['i', 'n', 'd', 'e', 'x', '.', 's', 'c', 's', 's']], [['u'], ['_', 'i', 'n', 'd', 'e', 'x', '.', 's', 'c', 's', 's']],
     [['u'], ['i', 'n', 'd', 'e', 'x', '.', 'c', 's', 's']], [['u'], ['_', 'i', 'n', 'd', 'e', 'x', '.', 'c', 's', 's']]] := by
  decide +kernel

/-- **explicit_extension_only_literal_and_partial**: a URL that already ends in
    `.scss`/`.sass`/`.css` is tried in every location only literally and as a partial (for
    `@import` after `stem.import.ext`), never with another extension, never as a directory. -/
theorem C13_explicit_extension_only_literal_and_partial (importer udir : Path) (base stem ext : Comp)
    (lps : List Path) (fi : Bool) (hx : explicitExt base = some (stem, ext)) :
    fileCandidates .spec importer (udir ++ [base]) lps fi =
      (importer.dropLast :: lps).flatMap (fun root =>
        (if fi then [root ++ udir ++ [stem ++ '.' :: (importWord ++ '.' :: ext)],
                     root ++ udir ++ [('_' :: (stem ++ '.' :: (importWord ++ '.' :: ext)))]] else []) ++
        [root ++ udir ++ [base], root ++ udir ++ [('_' :: base)]]) := by
  rw [C13_locations_layout]
  simp only [List.flatMap_cons, C13_location_layout_explicit fi _ udir base stem ext hx]

example : fileCandidates .spec [['m']] [['q', '.', 's', 'c', 's', 's']] [[['l']]] false =
    [[['q', '.', 's', 'c', 's', 's']], [['_', 'q', '.', 's', 'c', 's', 's']],
     [['l'], ['q', '.', 's', 'c', 's', 's']], [['l'], ['_', 'q', '.', 's', 'c', 's', 's']]] := by decide +kernel

theorem namedOf_eq_flatMap (imp : Bool) (dir : Path) (base : Comp) :
    namedOf imp dir base =
      ((if imp then importOnlySuffixes else []) ++ plainSuffixes).flatMap
        fun sfx => tryPath dir (base ++ '.' :: sfx) := by
  cases imp
  · rfl
  · simp only [namedOf, sassScssOf, cssOf, List.append_assoc]
    rfl

/-- **basename_dots_kept**: the extension is appended to the whole basename: every candidate
    name of `base` is `base ++ "." ++ suffix` or `"_" ++ base ++ "." ++ suffix`, whatever dots
    `base` contains. -/
theorem C13_basename_dots_kept (imp : Bool) (dir : Path) (base : Comp) :
    ∀ p ∈ namedOf imp dir base, ∃ sfx ∈ importOnlySuffixes ++ plainSuffixes,
      p = dir ++ [base ++ '.' :: sfx] ∨ p = dir ++ [('_' :: (base ++ '.' :: sfx))] := by
  intro p hp
  rw [namedOf_eq_flatMap, List.mem_flatMap] at hp
  obtain ⟨sfx, hs, hp⟩ := hp
  refine ⟨sfx, ?_, by simpa [tryPath] using hp⟩
  cases imp
  · exact List.mem_append_right _ hs
  · exact hs

example : addExt .spec ['f', 'o', 'o', '.', 'b', 'a', 'r'] scssExt =
    ['f', 'o', 'o', '.', 'b', 'a', 'r', '.', 's', 'c', 's', 's'] := by decide +kernel

/-! ### confinement -/

theorem resolveLoc_calls (fs : Fs) (l : Loc) : (resolveLoc fs l).2.Sublist l.probes := by
  have hf := firstFile_calls fs l.files
  unfold resolveLoc Loc.probes
  cases h : (firstFile fs l.files).1 with
  | some p => simp only [h]; exact hf.trans (List.sublist_append_left _ _)
  | none =>
    simp only [h]
    rcases l.index with _ | ⟨d, gs⟩
    · exact hf.trans (List.sublist_append_left _ _)
    · simp only
      split
      · exact hf.append (.cons_cons _ (firstFile_calls fs gs.flatten))
      · exact hf.append (.cons_cons _ (List.nil_sublist _))

theorem resolveLocs_calls (fs : Fs) (ls : List Loc) :
    (resolveLocs fs ls).2.Sublist (ls.flatMap Loc.probes) := by
  induction ls with
  | nil => exact .slnil
  | cons l ls ih =>
    unfold resolveLocs
    rw [List.flatMap_cons]
    cases h : (resolveLoc fs l).1 with
    | some p => simp only [h]; exact (resolveLoc_calls fs l).trans (List.sublist_append_left _ _)
    | none => simp only [h]; exact (resolveLoc_calls fs l).append ih

/-- **confinement** (existence tests): every `is_file`/`is_dir` call the search makes is one of
    `candidates` — for every variant of the model and every file system. -/
theorem C13_confinement (af : AsFound) (fs : Fs) (importer url : Path) (lps : List Path) (fi : Bool) :
    ∀ c ∈ trace af fs importer url lps fi, c ∈ candidates af importer url lps fi :=
  fun _ hc => (resolveLocs_calls fs _).subset hc

/-- **confinement** (reads): a load reads exactly the resolved file, once, after the probes; a
    failed load reads nothing. -/
theorem C13_confinement_reads (af : AsFound) (fs : Fs) (importer url : Path) (lps : List Path) (fi : Bool) :
    (load af fs importer url lps fi).2 =
      (trace af fs importer url lps fi).map .probe ++
        (match resolve af fs importer url lps fi with
         | some p => [.read p]
         | none => []) := by
  unfold load trace resolve
  cases h : (resolveLocs fs (locations af importer url lps fi)).1 <;> simp [h]

example : (load .spec (fsOf [[['_', 'a', '.', 's', 'a', 's', 's']]] []) [['m']] [['a']] [] false).2 =
    [.probe (.isFile [['a', '.', 's', 'a', 's', 's']]), .probe (.isFile [['_', 'a', '.', 's', 'a', 's', 's']]),
     .read [['_', 'a', '.', 's', 'a', 's', 's']]] := by decide +kernel

example : ∀ c ∈ trace .spec (fsOf [[['a'], ['_', 'i', 'n', 'd', 'e', 'x', '.', 's', 'c', 's', 's']]] []) [['m']] [['a']] [] false,
    c ∈ candidates .spec [['m']] [['a']] [] false :=
  C13_confinement _ _ _ _ _ _

/-! ### result and calls depend only on what the supplied Fs answers on candidate paths -/

theorem firstFile_congr (fs fs' : Fs) (ps : List Path) (h : ∀ p ∈ ps, fs.isFile p = fs'.isFile p) :
    firstFile fs ps = firstFile fs' ps := by
  induction ps with
  | nil => rfl
  | cons p ps ih =>
    unfold firstFile
    rw [← h p (by simp), ih (fun q hq => h q (by simp [hq]))]

def agreeOn (fs fs' : Fs) (c : Probe) : Prop :=
  match c with
  | .isFile p => fs.isFile p = fs'.isFile p
  | .isDir p => fs.isDir p = fs'.isDir p

theorem resolveLoc_congr (fs fs' : Fs) (l : Loc) (h : ∀ c ∈ l.probes, agreeOn fs fs' c) :
    resolveLoc fs l = resolveLoc fs' l := by
  unfold Loc.probes at h
  unfold resolveLoc
  rw [firstFile_congr fs fs' l.files fun p hp =>
    h (.isFile p) (List.mem_append_left _ (List.mem_map_of_mem hp))]
  cases hi : l.index with
  | none => rfl
  | some x =>
    obtain ⟨d, gs⟩ := x
    rw [hi] at h
    have h2 : fs.isDir d = fs'.isDir d := h (.isDir d) (List.mem_append_right _ (List.mem_cons_self ..))
    simp only [h2, firstFile_congr fs fs' gs.flatten fun p hp =>
      h (.isFile p) (List.mem_append_right _ (List.mem_cons_of_mem _ (List.mem_map_of_mem hp)))]

theorem resolveLocs_congr (fs fs' : Fs) (ls : List Loc)
    (h : ∀ c ∈ ls.flatMap Loc.probes, agreeOn fs fs' c) : resolveLocs fs ls = resolveLocs fs' ls := by
  induction ls with
  | nil => rfl
  | cons l ls ih =>
    unfold resolveLocs
    rw [resolveLoc_congr fs fs' l (fun c hc => h c (by simp [hc])),
        ih (fun c hc => h c (by simp only [List.flatMap_cons, List.mem_append]; exact Or.inr hc))]

/-- **independence of everything else** (“the result never depends on the real disk or working
    directory”): two file systems that answer alike on the candidate probes give the same
    outcome and the same sequence of calls. -/
theorem C13_depends_only_on_candidates (af : AsFound) (fs fs' : Fs) (importer url : Path) (lps : List Path)
    (fi : Bool) (h : ∀ c ∈ candidates af importer url lps fi, agreeOn fs fs' c) :
    load af fs importer url lps fi = load af fs' importer url lps fi := by
  unfold load
  rw [resolveLocs_congr fs fs' _ h]

/-- e.g. a file `a.txt` (not a candidate of `@use "a"`) appearing on disk changes nothing. -/
example : load .spec (fsOf [[['a', '.', 's', 'c', 's', 's']], [['a', '.', 't', 'x', 't']]] []) [['m']] [['a']] [] false =
    load .spec (fsOf [[['a', '.', 's', 'c', 's', 's']]] []) [['m']] [['a']] [] false := by decide +kernel

/-! ### the documented group-by-group search agrees when it is unambiguous -/

theorem docGroups_find (fs : Fs) (gs : List (List Path)) :
    match docGroups fs gs with
    | .found p => gs.flatten.find? fs.isFile = some p
    | .none => gs.flatten.find? fs.isFile = none
    | .ambiguous => True := by
  induction gs with
  | nil => rfl
  | cons g gs ih =>
    unfold docGroups
    rw [List.flatten_cons, List.find?_append, ← List.head?_filter]
    rcases g.filter fs.isFile with _ | ⟨p, _ | _⟩
    · exact ih
    · rfl
    · trivial

theorem docLoc_find (fs : Fs) (l : Loc) :
    match docLoc fs l with
    | .found p => (resolveLoc fs l).1 = some p
    | .none => (resolveLoc fs l).1 = none
    | .ambiguous => True := by
  have hg := docGroups_find fs l.groups
  rw [resolveLoc_fst]
  unfold Loc.eligible Loc.files docLoc
  rw [List.find?_append]
  cases hd : docGroups fs l.groups with
  | found q => simp only [hd] at hg ⊢; rw [hg]; rfl
  | ambiguous => trivial
  | none =>
    simp only [hd] at hg ⊢
    rw [hg, Option.none_or]
    rcases l.index with _ | ⟨d, gs⟩
    · rfl
    · cases hdir : fs.isDir d
      · simp only [hdir, Bool.false_eq_true, if_false, List.find?_nil]
      · simp only [hdir, if_true]
        exact docGroups_find fs gs

theorem docLocs_find (fs : Fs) (ls : List Loc) :
    match docLocs fs ls with
    | .found p => (resolveLocs fs ls).1 = some p
    | .none => (resolveLocs fs ls).1 = none
    | .ambiguous => True := by
  induction ls with
  | nil => rfl
  | cons l ls ih =>
    have hl := docLoc_find fs l
    unfold docLocs resolveLocs
    cases hd : docLoc fs l with
    | found q => simp only [hd] at hl ⊢; simp only [hl]
    | ambiguous => trivial
    | none => simp only [hd] at hl ⊢; simp only [hl]; exact ih

/-- **documented order**: the documented search (locations in order; within one the same-priority
    groups `{n.sass,_n.sass,n.scss,_n.scss}`, `{n.css,_n.css}`, import-only groups first for
    `@import`, then `index`; one existing file per winning group) and the ordered search agree
    whenever the former is unambiguous.  Ambiguous layouts are the ones the property excludes. -/
theorem C13_documented_search_agrees (fs : Fs) (importer url : Path) (lps : List Path) (fi : Bool) :
    (∀ p, docResolve fs importer url lps fi = .found p → resolve .spec fs importer url lps fi = some p) ∧
    (docResolve fs importer url lps fi = .none → resolve .spec fs importer url lps fi = none) := by
  have h := docLocs_find fs (locations .spec importer url lps fi)
  unfold docResolve resolve
  constructor
  · intro p hp; rw [hp] at h; exact h
  · intro hn; rw [hn] at h; exact h

example : docResolve (fsOf [[['a', '.', 's', 'c', 's', 's']], [['_', 'a', '.', 's', 'c', 's', 's']]] [])
    [['m']] [['a']] [] true = .ambiguous := by decide +kernel
example : docResolve (fsOf [[['a', '.', 's', 'c', 's', 's']], [['_', 'a', '.', 'c', 's', 's']]] [])
    [['m']] [['a']] [] true = .found [['a', '.', 's', 'c', 's', 's']] := by decide +kernel

/-! ### P̂ holds on the model's own output -/

/-- The call-list part of `checkLoad`/`checkLoadR`: confined probes, then at most one read. -/
theorem calls_ok {cands tr : List Probe} (h : ∀ c ∈ tr, c ∈ cands) (res : Option Path)
    (rd : List Call) (hrd : rd = [] ∨ ∃ p, res = some p ∧ rd = [.read p]) :
    ((tr.map Call.probe ++ rd).all (fun c =>
        match c with
        | .probe p => cands.contains p
        | .read p => decide (res = some p)) &&
      decide (((tr.map Call.probe ++ rd).filter
          (fun c => match c with | .read _ => true | _ => false)).length
        ≤ (if res.isSome then 1 else 0))) = true := by
  have hp : (tr.map Call.probe).filter (fun c => match c with | .read _ => true | _ => false) = [] := by
    simp [List.filter_map, Function.comp_def]
  rw [Bool.and_eq_true, List.all_append, List.filter_append, hp, Bool.and_eq_true]
  refine ⟨⟨?_, ?_⟩, ?_⟩
  · simpa [List.all_map, Function.comp_def] using h
  · rcases hrd with rfl | ⟨p, rfl, rfl⟩ <;> simp
  · rcases hrd with rfl | ⟨p, rfl, rfl⟩ <;> simp

theorem checkLoad_model (af : AsFound) (fs : Fs) (importer url : Path) (lps : List Path) (fi : Bool) :
    checkLoad af fs importer url lps fi (resolve af fs importer url lps fi)
      (load af fs importer url lps fi).2 = true := by
  rw [C13_confinement_reads]
  unfold checkLoad
  simp only [decide_true, Bool.true_and]
  refine calls_ok (C13_confinement af fs importer url lps fi) _ _ ?_
  cases resolve af fs importer url lps fi with
  | none => exact .inl rfl
  | some p => exact .inr ⟨p, rfl, rfl⟩

/-- The predicate the check evaluates on grass's own observation (`checkLoad .spec`) holds of
    the specified model's outcome and call sequence, for every file system and input. -/
theorem C13_checkLoad_spec (fs : Fs) (importer url : Path) (lps : List Path) (fi : Bool) :
    checkLoad .spec fs importer url lps fi (resolve .spec fs importer url lps fi)
      (load .spec fs importer url lps fi).2 = true :=
  checkLoad_model .spec fs importer url lps fi

/-- **history independence**: the stylesheet cache of `import_like_node` never changes *which*
    file a URL resolves to; the calls are those of the stateless search, the read possibly dropped. -/
theorem C13_cache_does_not_change_the_result (af : AsFound) (fs : Fs) (lps : List Path) (st : Cache)
    (importer url : Path) (fi : Bool) :
    (loadC af fs lps st importer url fi).1.1 = (load af fs importer url lps fi).1 ∧
    ((loadC af fs lps st importer url fi).1.2 = (load af fs importer url lps fi).2 ∨
     (loadC af fs lps st importer url fi).1.2 = (trace af fs importer url lps fi).map .probe) := by
  unfold loadC load trace
  cases h : (resolveLocs fs (locations af importer url lps fi)).1 with
  | none => simp [h]
  | some p => cases hc : st.cached.contains p <;> simp_all

/-- … and the predicate also holds of the cached variant's calls. -/
theorem C13_checkLoad_cached (fs : Fs) (lps : List Path) (st : Cache) (importer url : Path) (fi : Bool) :
    checkLoad .spec fs importer url lps fi (resolve .spec fs importer url lps fi)
      (loadC .spec fs lps st importer url fi).1.2 = true := by
  rcases (C13_cache_does_not_change_the_result .spec fs lps st importer url fi).2 with h | h
  · rw [h]; exact checkLoad_model .spec fs importer url lps fi
  · rw [h, ← List.append_nil (List.map _ _)]
    unfold checkLoad
    simp only [decide_true, Bool.true_and]
    exact calls_ok (C13_confinement .spec fs importer url lps fi) _ _ (.inl rfl)

/-- a cached stylesheet: the search still runs (three probes), the read is dropped -/
example : (loadC .spec (fsOf [[['s'], ['c', '.', 's', 'c', 's', 's']]] []) []
    ⟨[], [[['s'], ['c', '.', 's', 'c', 's', 's']]]⟩ [['s'], ['a']] [['c']] false).1 =
    (.loaded [['s'], ['c', '.', 's', 'c', 's', 's']] .scss,
     [.probe (.isFile [['s'], ['c', '.', 's', 'a', 's', 's']]), .probe (.isFile [['s'], ['_', 'c', '.', 's', 'a', 's', 's']]),
      .probe (.isFile [['s'], ['c', '.', 's', 'c', 's', 's']])]) := by decide +kernel

/-- Conversely `checkLoad .spec` pins the outcome: an observation that passes loaded exactly
    what the specified search resolves to and read nothing else. -/
theorem C13_checkLoad_sound (fs : Fs) (importer url : Path) (lps : List Path) (fi : Bool)
    (res : Option Path) (calls : List Call)
    (h : checkLoad .spec fs importer url lps fi res calls = true) :
    res = resolve .spec fs importer url lps fi ∧
    (∀ p, Call.probe p ∈ calls → p ∈ candidates .spec importer url lps fi) ∧
    (∀ p, Call.read p ∈ calls → res = some p) := by
  unfold checkLoad at h
  simp only [Bool.and_eq_true, decide_eq_true_eq, List.all_eq_true] at h
  obtain ⟨⟨h1, h2⟩, _⟩ := h
  refine ⟨h1, ?_, ?_⟩
  · intro p hp; simpa using h2 _ hp
  · intro p hp; simpa using h2 _ hp

/-! ### syntax from the extension -/

theorem splitLastDot_append (n ext : List Char) (he : splitLastDot ext = none) :
    splitLastDot (n ++ '.' :: ext) = some (n, ext) := by
  induction n with
  | nil => simp [splitLastDot, he]
  | cons c cs ih => simp [splitLastDot, ih]

theorem syntaxFor_append_ext (dir : Path) {n : Comp} (hn : n ≠ []) {e : Comp}
    (he : splitLastDot e = none) :
    syntaxFor (dir ++ [n ++ '.' :: e]) =
      if lower e == cssExt then .css else if lower e == sassExt then .sass else .scss := by
  have hne : n.isEmpty = false := by cases n <;> simp_all
  simp only [syntaxFor, splitLast_append, syntaxForName, stemExt, splitLastDot_append n e he, hne,
    Bool.false_eq_true, if_false]

/-- **syntax-from-extension**: a resolved candidate `n.sass` is parsed as indented Sass,
    `n.css` as plain CSS, `n.scss` as SCSS (`n` non-empty, any dots inside). -/
theorem C13_syntax_of_candidate (dir : Path) (n : Comp) (hn : n ≠ []) :
    syntaxFor (dir ++ [n ++ '.' :: sassExt]) = .sass ∧
    syntaxFor (dir ++ [n ++ '.' :: scssExt]) = .scss ∧
    syntaxFor (dir ++ [n ++ '.' :: cssExt]) = .css :=
  ⟨syntaxFor_append_ext dir hn (by decide), syntaxFor_append_ext dir hn (by decide),
    syntaxFor_append_ext dir hn (by decide)⟩

example : syntaxFor [['d'], ['f', 'o', 'o', '.', 'b', 'a', 'r', '.', 's', 'a', 's', 's']] = .sass ∧
    syntaxFor [['_', 'n', '.', 'C', 'S', 'S']] = .css ∧ syntaxFor [['n', '.', 't', 'x', 't']] = .scss ∧
    syntaxFor [['.', 's', 'a', 's', 's']] = .scss := by decide +kernel

/-! ### plain-CSS imports -/

/-- **plain_css_classification**: `is_plain_css_import` is the documented URL predicate
    (ends in `.css`, or begins `http://`, `https://`, `//`; ASCII case-insensitively) for every
    URL of at least 5 characters, and `false` below that. -/
theorem C13_plain_css_classification (url : List Char) :
    isPlainCssImport url = (documentedPlainUrl url && decide (5 ≤ utf8Len url)) := by
  unfold isPlainCssImport documentedPlainUrl
  by_cases h : utf8Len url < 5
  · have : ¬ 5 ≤ utf8Len url := by omega
    simp [h, this]
  · have : 5 ≤ utf8Len url := by omega
    simp [h, this]

theorem length_le_utf8Len (s : List Char) : s.length ≤ utf8Len s := by
  induction s with
  | nil => simp [utf8Len]
  | cons c cs ih =>
    have := Char.utf8Size_pos c
    simp only [utf8Len, List.map_cons, List.sum_cons, List.length_cons] at ih ⊢
    omega

/-- `//éa` is 4 characters but 5 bytes: the cut is on bytes. -/
example : isPlainCssImport ['/', '/', 'é', 'a'] = true ∧ isPlainCssImport ['/', '/', 'é'] = false := by decide +kernel

example : isPlainCssImport ['h', 't', 't', 'p', ':', '/', '/', 'x'] = true ∧ isPlainCssImport ['/', '/', 'a', 'b', 'c'] = true ∧
    isPlainCssImport ['a', '.', 's', 'c', 's', 's'] = false ∧ isPlainCssImport ['.', 'c', 's', 's'] = false := by decide +kernel

theorem endsWith_suffix {s suf : List Char} (h : endsWith s suf = true) : ∃ t, s = t ++ suf := by
  obtain ⟨t, ht⟩ := List.isPrefixOf_iff_prefix.mp h
  exact ⟨t.reverse, by simpa using congrArg List.reverse ht.symm⟩

theorem startsWith_length {s pre : List Char} (h : startsWith s pre = true) : pre.length ≤ s.length :=
  (List.isPrefixOf_iff_prefix.mp h).length_le

/-- The only URLs on which the documented predicate and the code disagree (length < 5) are
    `.css` itself and `//`-prefixed ones such as `//a` — the reference implementation makes the
    same cut. -/
theorem C13_plain_css_short_urls (url : List Char) (hd : documentedPlainUrl url = true)
    (hl : utf8Len url < 5) : lower url = dotCss ∨ startsWith (lower url) slashSlash = true := by
  have hl : (lower url).length < 5 := by
    rw [lower, List.length_map]
    exact Nat.lt_of_le_of_lt (length_le_utf8Len url) hl
  unfold documentedPlainUrl at hd
  simp only [Bool.or_eq_true] at hd
  rcases hd with ((h | h) | h) | h
  · obtain ⟨t, ht⟩ := endsWith_suffix h
    rw [ht] at hl ⊢
    cases t with
    | nil => exact .inl rfl
    | cons c t => simp only [dotCss, List.length_append, List.length_cons, List.length_nil] at hl; omega
  · exact absurd (startsWith_length h) (by simp only [httpPre, List.length_cons, List.length_nil]; omega)
  · exact absurd (startsWith_length h) (by simp only [httpsPre, List.length_cons, List.length_nil]; omega)
  · exact .inr h

/-- An `@import` argument is a plain CSS import exactly in the documented cases: `url(...)`,
    media/supports modifiers, or a plain URL. -/
theorem C13_import_kind (isUrlFn hasModifiers : Bool) (url : List Char) :
    importKind isUrlFn hasModifiers url = .plainCss ↔
      (isUrlFn = true ∨ hasModifiers = true ∨ (documentedPlainUrl url = true ∧ 5 ≤ utf8Len url)) := by
  unfold importKind
  rw [C13_plain_css_classification]
  cases isUrlFn <;> cases hasModifiers <;> cases documentedPlainUrl url <;> simp

theorem C13_plain_css_no_fs_calls (af : AsFound) (fs : Fs) (importer : Path) (lps : List Path)
    (isUrlFn hasModifiers : Bool) (urlText : List Char) (url : Path)
    (h : importKind isUrlFn hasModifiers urlText = .plainCss) :
    importCalls af fs importer lps isUrlFn hasModifiers urlText url = [] := by
  simp [importCalls, h]

example : importKind false false ['a', '.', 'C', 'S', 'S'] = .plainCss := by decide +kernel
example : importKind false true ['a'] = .plainCss := by decide +kernel
example : importKind false false ['a', '.', 's', 'c', 's', 's'] = .sass := by decide +kernel

/-! ### parser level: the kind of one `@import` argument, from its text -/

theorem scanString_spec (q : Char) (url rest : List Char)
    (hurl : ∀ c ∈ url, c ≠ q ∧ c ≠ '\n' ∧ c ≠ '\r' ∧ c ≠ '\\') :
    scanString q (url ++ q :: rest) = some (url, rest) := by
  induction url with
  | nil => simp [scanString]
  | cons c cs ih =>
    obtain ⟨h1, h2, h3, h4⟩ := hurl c (by simp)
    have := ih (fun d hd => hurl d (by simp [hd]))
    simp [scanString, h1, h2, h3, h4, this]

theorem skipWs_spec (ws after : List Char) (hws : ∀ c ∈ ws, isWs c = true)
    (hafter : ∀ c, after.head? = some c → isWs c = false) : skipWs (ws ++ after) = after := by
  induction ws with
  | nil =>
    cases after with
    | nil => rfl
    | cons c cs => simp [skipWs, hafter c rfl]
  | cons c cs ih =>
    simp [skipWs, hws c (by simp), ih (fun d hd => hws d (by simp [hd]))]

/-- **import_argument_classification** (`parse_import_argument` on a string argument): a quoted
    string (either quote; no such quote, backslash or line break inside), white space, then nothing,
    a `,` or the first character of modifiers is a plain CSS import exactly when `importKind` says
    so (`C13_import_kind`), and otherwise a Sass import of exactly the quoted text. -/
theorem C13_import_argument_classification (q : Char) (hq : q = '"' ∨ q = '\'') (url ws after : List Char)
    (hurl : ∀ c ∈ url, c ≠ q ∧ c ≠ '\n' ∧ c ≠ '\r' ∧ c ≠ '\\')
    (hws : ∀ c ∈ ws, isWs c = true)
    (hafter : ∀ c, after.head? = some c → isWs c = false ∧ c ≠ '/') :
    (parseImportArg (q :: (url ++ q :: (ws ++ after)))).map (·.1) =
      some (match importKind false (hasModifiersAt after) url with
            | .plainCss => ArgKind.plain
            | .sass => ArgKind.sass url) := by
  have hs := scanString_spec q url (ws ++ after) hurl
  have hk := skipWs_spec ws after hws (fun c hc => (hafter c hc).1)
  have hslash : (after.head? == some '/') = false := by
    cases after with
    | nil => rfl
    | cons c cs => simpa using (hafter c rfl).2
  unfold parseImportArg importKind
  rcases hq with rfl | rfl <;>
    (simp only [hs, hk, hslash]
     cases hasModifiersAt after <;> cases isPlainCssImport url <;> simp)

example : parseImportArg "\"a.scss\" , \"b\"".toList = some (.sass "a.scss".toList, ", \"b\"".toList) := by decide +kernel
example : (parseImportArg "'a' screen".toList).map (·.1) = some .plain := by decide +kernel
example : (parseImportArg "\"a.css\"".toList).map (·.1) = some .plain := by decide +kernel
example : parseImportArgs 40 "\"a\", 'b.css', url(x) screen".toList = some [.sass ['a'], .plain, .plain] := by decide +kernel

/-- **url() is never loaded**: an argument that begins with `u`/`U` is either rejected or a plain CSS
    import, whatever follows (`parse_import_argument` takes the `parse_dynamic_url` branch). -/
theorem C13_import_argument_url_function (c : Char) (hc : c = 'u' ∨ c = 'U') (cs : List Char)
    (r : ArgKind × List Char) (h : parseImportArg (c :: cs) = some r) : r.1 = .plain := by
  unfold parseImportArg at h
  have hcu : (c == 'u' || c == 'U') = true := by rcases hc with rfl | rfl <;> decide
  simp only [hcu, if_true] at h
  repeat' split at h
  all_goals first
    | (cases h; rfl)
    | (simp at h)

example : (parseImportArg "URL(foo.scss)".toList).map (·.1) = some .plain := by decide +kernel

/-! ### `find_import` on raw spellings (`.` / empty segments, trailing slash, absolute paths) -/

/-- **confinement, any spelling**: every `is_file` / `is_dir` call of the search over Rust's path
    operations is one of `candidatesR`. -/
theorem C13_raw_confinement (fs : Fs) (cur url : Path) (lps : List Path) (fi : Bool) :
    ∀ c ∈ traceR fs cur url lps fi, c ∈ candidatesR cur url lps fi :=
  fun _ hc => (resolveLocs_calls fs _).subset hc

/-- … and outcome and call sequence depend only on the Fs's answers on those candidates. -/
theorem C13_raw_depends_only_on_candidates (fs fs' : Fs) (cur url : Path) (lps : List Path) (fi : Bool)
    (h : ∀ c ∈ candidatesR cur url lps fi, agreeOn fs fs' c) :
    loadR fs cur url lps fi = loadR fs' cur url lps fi := by
  unfold loadR loadCR
  rw [resolveLocs_congr fs fs' _ h]

theorem C13_raw_resolve_eq_find (fs : Fs) (cur url : Path) (lps : List Path) (fi : Bool) :
    resolveR fs cur url lps fi = ((locsR cur url lps fi).flatMap (Loc.eligible fs)).find? fs.isFile :=
  resolveLocs_fst fs _

/-- **confinement (reads), any spelling**: a load is the probes of the search followed by exactly
    one read, of the resolved file; a failed load reads nothing. -/
theorem C13_raw_confinement_reads (fs : Fs) (cur url : Path) (lps : List Path) (fi : Bool) :
    loadR fs cur url lps fi =
      match resolveR fs cur url lps fi with
      | some p => (.loaded p (syntaxForR p), (traceR fs cur url lps fi).map .probe ++ [.read p])
      | none => (.cantFind, (traceR fs cur url lps fi).map .probe) := by
  unfold loadR loadCR resolveR traceR
  cases h : (resolveLocs fs (locsR cur url lps fi)).1 <;> simp [Cache.empty, h]

theorem C13_raw_no_match_is_error (fs : Fs) (cur url : Path) (lps : List Path) (fi : Bool) :
    (loadR fs cur url lps fi).1 = .cantFind ↔
      ∀ p ∈ (locsR cur url lps fi).flatMap (Loc.eligible fs), fs.isFile p = false := by
  have e : (loadR fs cur url lps fi).1 = .cantFind ↔ resolveR fs cur url lps fi = none := by
    rw [C13_raw_confinement_reads]
    cases resolveR fs cur url lps fi <;> simp
  simp only [e, C13_raw_resolve_eq_find, List.find?_eq_none, Bool.not_eq_true]

example : (loadR (fsOfR []) [['m']] [['.'], ['a']] [[['l'], []]] true).1 = .cantFind := by decide +kernel

/-- `checkLoadR` (evaluated by the check on grass's observation) holds of the model's own. -/
theorem C13_raw_checkLoad (fs : Fs) (cur url : Path) (lps : List Path) (fi : Bool) :
    checkLoadR fs cur url lps fi (resolveR fs cur url lps fi) (loadR fs cur url lps fi).2 = true := by
  have e : (loadR fs cur url lps fi).2 = (traceR fs cur url lps fi).map .probe ++
      (match resolveR fs cur url lps fi with | some p => [.read p] | none => []) := by
    rw [C13_raw_confinement_reads]
    cases resolveR fs cur url lps fi <;> simp
  unfold checkLoadR
  simp only [e, decide_true, Bool.true_and]
  refine calls_ok (C13_raw_confinement fs cur url lps fi) _ _ ?_
  cases resolveR fs cur url lps fi with
  | none => exact .inl rfl
  | some p => exact .inr ⟨p, rfl, rfl⟩

/-- `@import "a//b"` from `sub/main.scss`: the doubled slash is kept in the path itself, dropped in
    the partial (`Path::parent`), and the in-memory Fs finds `sub/a/b.scss` under either spelling. -/
example : (loadR (fsOfR [[['s', 'u', 'b'], ['a'], ['_', 'b', '.', 's', 'a', 's', 's']]]) [['s', 'u', 'b'], ['m']]
    [['a'], [], ['b']] [] false).2 =
    [.probe (.isFile [['s', 'u', 'b'], ['a'], [], ['b', '.', 's', 'a', 's', 's']]),
     .probe (.isFile [['s', 'u', 'b'], ['a'], ['_', 'b', '.', 's', 'a', 's', 's']]),
     .read [['s', 'u', 'b'], ['a'], ['_', 'b', '.', 's', 'a', 's', 's']]] := by decide +kernel

/-- an absolute URL ignores the importing file's directory; a trailing slash keeps the name empty -/
example : (candidatesR [['s'], ['m']] [[], ['q', '.', 's', 'c', 's', 's']] [] false) =
    [.isFile [[], ['q', '.', 's', 'c', 's', 's']], .isFile [[], ['_', 'q', '.', 's', 'c', 's', 's']]] := by decide +kernel
example : (candidatesR [['m']] [['x'], []] [] false).take 2 =
    [.isFile [['x'], ['.', 's', 'a', 's', 's']], .isFile [['x'], ['_', '.', 's', 'a', 's', 's']]] := by decide +kernel

/-! ### the raw model and the component-level model coincide on plain spellings -/

/-- When importing file, URL and load paths have no empty and no `.` segment (and the URL does not
    end in `..`), `find_import` over Rust's path operations searches exactly `locations .spec` —
    so every theorem above about `.spec` is one about the code as modelled on raw spellings. -/
theorem C13_raw_agrees_on_plain_spellings (idir : Path) (iname : Comp) (udir : Path) (base : Comp)
    (lps : List Path) (fi : Bool)
    (hi : nice (idir ++ [iname])) (hu : nice (udir ++ [base])) (hb : base ≠ dotdot)
    (hl : ∀ lp ∈ lps, nice lp) :
    locsR (idir ++ [iname]) (udir ++ [base]) lps fi =
      locations .spec (idir ++ [iname]) (udir ++ [base]) lps fi := by
  have hj : ∀ R, nice R → joinR R (udir ++ [base]) = (R ++ udir) ++ [base] ∧
      nice ((R ++ udir) ++ [base]) := by
    intro R hR
    rw [joinR_nice hR hu (by simp), List.append_assoc]
    exact ⟨rfl, nice_append hR hu⟩
  obtain ⟨hrel, hnrel⟩ := hj idir (nice_left hi)
  have hext : (extensionR ((idir ++ udir) ++ [base])).filter isSourceExt = (explicitExt base).map (·.2) := by
    simp only [extensionR, fileNameR_snoc hnrel hb, Option.bind_some]
    exact extension_filter base
  unfold locsR locations
  simp only [hasRootR_nice hu, parentR_snoc hi, Option.getD_some, hrel, hext, AsFound.spec, wantsImportOnly,
    Bool.or_false, Bool.false_and, Bool.false_eq_true, if_false, List.dropLast_concat, List.map_cons, List.map_map]
  cases hx : explicitExt base with
  | none =>
    simp only [Option.map_none, List.cons.injEq]
    refine ⟨locR_plain hnrel hx fi, List.map_congr_left fun lp h => ?_⟩
    obtain ⟨e, hn⟩ := hj lp (hl lp h)
    simp only [Function.comp, e]
    exact locR_plain hn hx fi
  | some x =>
    obtain ⟨stem, ext⟩ := x
    simp only [Option.map_some, List.cons.injEq]
    refine ⟨locR_explicit hnrel hb hx fi, List.map_congr_left fun lp h => ?_⟩
    obtain ⟨e, hn⟩ := hj lp (hl lp h)
    simp only [Function.comp, e]
    exact locR_explicit hn hb hx fi

/-- hence the same result, the same calls and the same candidates -/
theorem C13_raw_resolve_eq_spec (fs : Fs) (idir : Path) (iname : Comp) (udir : Path) (base : Comp)
    (lps : List Path) (fi : Bool)
    (hi : nice (idir ++ [iname])) (hu : nice (udir ++ [base])) (hb : base ≠ dotdot)
    (hl : ∀ lp ∈ lps, nice lp) :
    resolveR fs (idir ++ [iname]) (udir ++ [base]) lps fi = resolve .spec fs (idir ++ [iname]) (udir ++ [base]) lps fi ∧
    traceR fs (idir ++ [iname]) (udir ++ [base]) lps fi = trace .spec fs (idir ++ [iname]) (udir ++ [base]) lps fi ∧
    candidatesR (idir ++ [iname]) (udir ++ [base]) lps fi = candidates .spec (idir ++ [iname]) (udir ++ [base]) lps fi := by
  unfold resolveR resolve traceR trace candidatesR candidates
  rw [C13_raw_agrees_on_plain_spellings idir iname udir base lps fi hi hu hb hl]
  exact ⟨rfl, rfl, rfl⟩

example : nice [['s', 'u', 'b'], ['m', '.', 's', 'c', 's', 's']] := by decide +kernel
example : locsR [['s'], ['m']] [['d'], ['f', 'o', 'o', '.', 'b', 'a', 'r']] [[['l']]] true =
    locations .spec [['s'], ['m']] [['d'], ['f', 'o', 'o', '.', 'b', 'a', 'r']] [[['l']]] true :=
  C13_raw_agrees_on_plain_spellings [['s']] ['m'] [['d']] ['f', 'o', 'o', '.', 'b', 'a', 'r'] [[['l']]] true
    (by decide +kernel) (by decide +kernel) (by decide +kernel) (by decide +kernel)
/-- … and it is not the same search on other spellings: a doubled slash stays in the probe. -/
example : candidatesR [['s'], ['m']] [['d'], [], ['n']] [] false ≠ candidates .spec [['s'], ['m']] [['d'], ['n']] [] false := by
  decide +kernel

/-! ### the pinned tree -/

/-- The three as-found switches only matter for `@use`/`@forward` (D9) and for URLs with an
    explicit extension (D10, D8b): an `@import` of a URL without explicit extension probes the
    same candidates in both variants. -/
theorem C13_asFound_same_for_plain_import (importer url : Path) (lps : List Path)
    (hx : urlExplicit url = false) :
    candidates .current importer url lps true = candidates .spec importer url lps true := by
  unfold candidates locations
  simp only [hx, AsFound.current, AsFound.spec, wantsImportOnly, Bool.and_false, Bool.or_false,
    Bool.or_true, Bool.false_eq_true, if_false]
  have : ∀ root, locFor ⟨true, true, true, false⟩ true root url = locFor ⟨false, false, false, false⟩ true root url := by
    intro root
    unfold locFor
    rcases hs : splitLast url with _ | ⟨udir, base⟩
    · rfl
    · simp only [urlExplicit, hs] at hx
      cases he : explicitExt base with
      | none => simp [he, withExtensions, extGroups, addExt]
      | some x => simp [he] at hx
  simp [this]

def wFs (files : List Path) : Fs := fsOf files []

/-- D9 (fixed in f4a8659): `@use "u"` with `u.import.scss` and `u.scss` present loaded `u.import.scss`. -/
theorem C13_asFound_D9_use_loads_import_only :
    let fs := wFs [[['u', '.', 'i', 'm', 'p', 'o', 'r', 't', '.', 's', 'c', 's', 's']], [['u', '.', 's', 'c', 's', 's']]]
    resolve .current fs [['m']] [['u']] [] false = some [['u', '.', 'i', 'm', 'p', 'o', 'r', 't', '.', 's', 'c', 's', 's']] ∧
    resolve .spec fs [['m']] [['u']] [] false = some [['u', '.', 's', 'c', 's', 's']] ∧
    resolve { AsFound.current with d9 := false } fs [['m']] [['u']] [] false = some [['u', '.', 's', 'c', 's', 's']] := by
  decide +kernel

/-- D10 (fixed in f4a8659): `@import "q.scss"` with `q.scss` only in a load path was not found. -/
theorem C13_asFound_D10_explicit_skips_load_paths :
    let fs := wFs [[['l'], ['q', '.', 's', 'c', 's', 's']]]
    resolve .current fs [['m']] [['q', '.', 's', 'c', 's', 's']] [[['l']]] true = none ∧
    resolve .spec fs [['m']] [['q', '.', 's', 'c', 's', 's']] [[['l']]] true = some [['l'], ['q', '.', 's', 'c', 's', 's']] ∧
    resolve { AsFound.current with d10 := false } fs [['m']] [['q', '.', 's', 'c', 's', 's']] [[['l']]] true
      = some [['l'], ['q', '.', 's', 'c', 's', 's']] := by
  decide +kernel

/-- D8b (fixed in f4a8659): `@import "q.scss"` preferred a file called `q..importscss` and ignored
    `q.import.scss`. -/
theorem C13_asFound_D8b_malformed_import_only_name :
    let fs := wFs [[['q', '.', '.', 'i', 'm', 'p', 'o', 'r', 't', 's', 'c', 's', 's']],
                   [['q', '.', 'i', 'm', 'p', 'o', 'r', 't', '.', 's', 'c', 's', 's']], [['q', '.', 's', 'c', 's', 's']]]
    resolve .current fs [['m']] [['q', '.', 's', 'c', 's', 's']] [] true
      = some [['q', '.', '.', 'i', 'm', 'p', 'o', 'r', 't', 's', 'c', 's', 's']] ∧
    resolve .spec fs [['m']] [['q', '.', 's', 'c', 's', 's']] [] true
      = some [['q', '.', 'i', 'm', 'p', 'o', 'r', 't', '.', 's', 'c', 's', 's']] ∧
    resolve { AsFound.current with d8b := false } fs [['m']] [['q', '.', 's', 'c', 's', 's']] [] true
      = some [['q', '.', 'i', 'm', 'p', 'o', 'r', 't', '.', 's', 'c', 's', 's']] := by
  decide +kernel

/-- D8 (fixed in 9b563f8): with `with_extension`, `@import "foo.bar"` loaded `foo.scss`. -/
theorem C13_asFound_D8_extension_replaced :
    let fs := wFs [[['f', 'o', 'o', '.', 's', 'c', 's', 's']]]
    resolve { AsFound.spec with d8 := true } fs [['m']] [['f', 'o', 'o', '.', 'b', 'a', 'r']] [] true
      = some [['f', 'o', 'o', '.', 's', 'c', 's', 's']] ∧
    resolve .spec fs [['m']] [['f', 'o', 'o', '.', 'b', 'a', 'r']] [] true = none := by
  decide +kernel

end Grass.Import
