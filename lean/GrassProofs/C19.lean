import Grass.Diag
import GrassProofs.Lemmas.DiagSpan
import GrassProofs.Lemmas.DiagTrace
import GrassProofs.Lemmas.DiagLoc
/-
  C19 — Diagnostics are located, renderable and routed only through the Logger.

  Everything is about the code as it stands: `ExpandRule.whenTextDiffers` for re-lexed text and
  `Cfg.current` (no de-duplication of @warn by span).  The two older rules for re-lexed text
  (`onlyWhenLonger`, D19; `whenLengthDiffers`, D23) and the de-duplication (D12) appear only in the
  `C19_asFound_…` witnesses at the end.
-/
namespace Grass.Diag

/-! ## Spans: which lexers exist

  `Lexer.ofFile file` for a parsed file; `Lexer.ofString rule file s entire` for text `s` re-lexed
  against the span `entire` of the file's source; `Lexer.ofDetached s entire`; any cursor
  (`set_cursor` accepts every value). -/

inductive LexerOf (rule : ExpandRule) (file : List Char) : Lexer → Prop where
  | ofFile (c : Nat) : LexerOf rule file ((Lexer.ofFile file).setCursor c)
  | ofString (s : List Char) (entire : Span) (c : Nat)
      (hin : entire.lo ≤ entire.hi ∧ entire.hi ≤ byteLen file)
      (hb : entire.OnBoundaries file) :
      LexerOf rule file ((Lexer.ofString rule file s entire).setCursor c)
  | ofDetached (s : List Char) (entire : Span) (c : Nat)
      (hin : entire.lo ≤ entire.hi ∧ entire.hi ≤ byteLen file)
      (hb : entire.OnBoundaries file) :
      LexerOf rule file ((Lexer.ofDetached s entire).setCursor c)

/-- The four span-returning entry points of `Lexer` (lexer.rs:38-68). -/
inductive SpanCall (lx : Lexer) : Option Span → Prop where
  | atIndex (idx : Nat) : SpanCall lx (lx.spanAtIndex idx)
  | prev : SpanCall lx lx.prevSpan
  | current : SpanCall lx lx.currentSpan
  | from (start : Nat) : SpanCall lx (lx.spanFrom start)

theorem lexerOf_fits {rule : ExpandRule} {file : List Char} {lx : Lexer} (h : LexerOf rule file lx) :
    lx.Fits (byteLen file) := by
  cases h with
  | ofFile c => exact fits_setCursor c (fits_ofFile file)
  | ofString s entire c hin hb => exact fits_setCursor c (fits_ofString rule file s hin)
  | ofDetached s entire c hin hb => exact ⟨hin, fun hx => by cases hx⟩

theorem lexerOf_aligned {file : List Char} {lx : Lexer} (h : LexerOf .whenTextDiffers file lx) :
    lx.Aligned file := by
  cases h with
  | ofFile c => exact aligned_setCursor c (aligned_ofFile file)
  | ofString s entire c hin hb => exact aligned_setCursor c (aligned_ofString_textDiffers file s hb)
  | ofDetached s entire c hin hb => exact ⟨hb, fun hx => by cases hx⟩

/-- A property that holds of the spans `span_at_index` returns and that `Span::merge` preserves
    holds of the span every span-returning call returns. -/
theorem SpanCall.result {lx : Lexer} {Q : Span → Prop}
    (hat : ∀ idx, ∃ sp, lx.spanAtIndex idx = some sp ∧ Q sp)
    (hmerge : ∀ a b, Q a → Q b → Q (a.merge b)) {r : Option Span} (hc : SpanCall lx r) :
    ∃ sp, r = some sp ∧ Q sp := by
  cases hc with
  | atIndex idx => exact hat idx
  | prev => exact hat _
  | current => exact hat _
  | «from» start =>
    obtain ⟨a, ea, qa⟩ := hat start
    obtain ⟨b, eb, qb⟩ := hat (lx.cursor - 1)
    exact ⟨a.merge b, by simp only [Lexer.spanFrom, Lexer.prevSpan, ea, eb], hmerge a b qa qb⟩

/-- **Spans stay inside the file** — for every file text, every re-lexed text and source span,
    every cursor and index, and under *each* of the three expansion rules, every span-returning
    call succeeds (`Span::subspan`'s assertions hold) and the span satisfies
    `0 ≤ lo ≤ hi ≤ file length` (and lies inside the lexer's source span). -/
theorem C19_span_in_bounds (rule : ExpandRule) (file : List Char) (lx : Lexer)
    (h : LexerOf rule file lx) (r : Option Span) (hc : SpanCall lx r) :
    ∃ sp, r = some sp ∧ sp.lo ≤ sp.hi ∧ sp.hi ≤ byteLen file ∧ lx.entire.lo ≤ sp.lo ∧ sp.hi ≤ lx.entire.hi := by
  obtain ⟨sp, e, ⟨h1, h2⟩, h3⟩ := SpanCall.result (spanAtIndex_inFile (lexerOf_fits h))
    (fun _ _ ha hb => ⟨merge_inFile ha.1 hb.1, merge_inside ha.2 hb.2⟩) hc
  exact ⟨sp, e, h1, h2, h3⟩

-- non-vacuous: a multi-byte file, re-lexed text of a different layout, a cursor past the end
example : LexerOf .whenTextDiffers ['a', 'é', '[', ' ', '{', '}']
    ((Lexer.ofString .whenTextDiffers ['a', 'é', '[', ' ', '{', '}'] ['x', 'y', 'z', '['] ⟨0, 5⟩).setCursor 9) :=
  .ofString _ _ _ (by decide) ⟨by decide, by decide⟩

/-- **Both ends of every span are character boundaries of the original file text** (code as it
    stands: re-lexed text counts as the source only when it *is* the source text of its span).
    This is what `codemap::File::find_line_col` needs in order not to panic. -/
theorem C19_span_on_char_boundary (file : List Char) (lx : Lexer)
    (h : LexerOf .whenTextDiffers file lx) (r : Option Span) (hc : SpanCall lx r) (sp : Span)
    (hr : r = some sp) :
    isBoundary file sp.lo = true ∧ isBoundary file sp.hi = true := by
  obtain ⟨sp', e, q⟩ := SpanCall.result
    (spanAtIndex_onBoundaries (lexerOf_fits h) (lexerOf_aligned h)) (fun _ _ => merge_onBoundaries) hc
  cases hr.symm.trans e
  exact q

example : LexerOf .whenTextDiffers ['$', 'é', ':', ' ', 'a', ';'] ((Lexer.ofFile ['$', 'é', ':', ' ', 'a', ';']).setCursor 3) :=
  .ofFile 3

/-- **Every span the lexer hands out is located without panic and the location satisfies P̂**:
    `CodeMap::look_up_span` succeeds and yields a `begin`/`end` pair naming two real positions of
    the file's text, in order (`spanLocOk`, the predicate the check evaluates on grass's output). -/
theorem C19_location_valid (file : List Char) (lx : Lexer)
    (h : LexerOf .whenTextDiffers file lx) (r : Option Span) (hc : SpanCall lx r) :
    ∃ sp b e, r = some sp ∧ lookUpSpan file sp = some (b, e) ∧ spanLocOk file b e = true := by
  obtain ⟨sp, hr, hle, _⟩ := C19_span_in_bounds _ file lx h r hc
  obtain ⟨b, e, h1, h2⟩ := lookUpSpan_ok hle (C19_span_on_char_boundary file lx h r hc sp hr)
  exact ⟨sp, b, e, hr, h1, h2⟩

/-! ### closure: everything grass builds from lexer spans

  Grass creates `Span` values only through the lexer calls above, through `file.span.subspan(0, 0)`
  (the `empty_span` of lib.rs:139/174 and visitor.rs:934), by re-lexing text against a span it
  already has (`new_from_string`, `new_from_detached_string`) and by `Span::merge`; everything else
  copies spans.  (`subspan` occurs nowhere else in crates/compiler/src.) -/

inductive Reachable (file : List Char) : Span → Prop where
  | fileCall (c : Nat) (r : Option Span) (hc : SpanCall ((Lexer.ofFile file).setCursor c) r)
      (sp : Span) (hr : r = some sp) : Reachable file sp
  | relexCall (s : List Char) (entire : Span) (he : Reachable file entire) (c : Nat)
      (r : Option Span)
      (hc : SpanCall ((Lexer.ofString .whenTextDiffers file s entire).setCursor c) r)
      (sp : Span) (hr : r = some sp) : Reachable file sp
  | detachedCall (s : List Char) (entire : Span) (he : Reachable file entire) (c : Nat)
      (r : Option Span) (hc : SpanCall ((Lexer.ofDetached s entire).setCursor c) r)
      (sp : Span) (hr : r = some sp) : Reachable file sp
  | empty : Reachable file ⟨0, 0⟩
  | merge (a b : Span) (ha : Reachable file a) (hb : Reachable file b) : Reachable file (a.merge b)

theorem lexerOf_span_ok {file : List Char} {lx : Lexer} (h : LexerOf .whenTextDiffers file lx)
    {r : Option Span} (hc : SpanCall lx r) {sp : Span} (hr : r = some sp) :
    sp.InFile (byteLen file) ∧ sp.OnBoundaries file := by
  obtain ⟨sp', e, h1, h2, _⟩ := C19_span_in_bounds _ file lx h r hc
  cases hr.symm.trans e
  exact ⟨⟨h1, h2⟩, C19_span_on_char_boundary file lx h r hc sp hr⟩

theorem reachable_ok {file : List Char} {sp : Span} (h : Reachable file sp) :
    sp.InFile (byteLen file) ∧ sp.OnBoundaries file := by
  induction h with
  | fileCall c r hc sp hr => exact lexerOf_span_ok (.ofFile c) hc hr
  | relexCall s entire he c r hc sp hr ih =>
    exact lexerOf_span_ok (.ofString s entire c ih.1 ih.2) hc hr
  | detachedCall s entire he c r hc sp hr ih =>
    exact lexerOf_span_ok (.ofDetached s entire c ih.1 ih.2) hc hr
  | empty => exact ⟨⟨Nat.le_refl _, Nat.zero_le _⟩, isBoundary_zero _, isBoundary_zero _⟩
  | merge a b _ _ iha ihb =>
    exact ⟨merge_inFile iha.1 ihb.1, merge_onBoundaries iha.2 ihb.2⟩

/-- **Every span grass can build for a file — lexer calls on the file, on text re-lexed against
    any span it already has (nested to any depth), the empty span, and any merges of those — is
    looked up by codemap without panic, and the reported location satisfies P̂.** -/
theorem C19_reachable_span_located (file : List Char) (sp : Span) (h : Reachable file sp) :
    ∃ b e, lookUpSpan file sp = some (b, e) ∧ spanLocOk file b e = true := by
  obtain ⟨⟨h1, _⟩, h2⟩ := reachable_ok h
  exact lookUpSpan_ok h1 h2

-- a non-trivial reachable span: the span of `ü]` in `a[ü] {}` merged with a span obtained by
-- re-lexing other text against it
example : Reachable ['a', '[', 'ü', ']', ' ', '{', '}'] ⟨0, 5⟩ :=
  have h1 : Reachable ['a', '[', 'ü', ']', ' ', '{', '}'] ⟨2, 5⟩ :=
    .fileCall 4 _ (.from 2) _ (by decide +kernel)
  have h2 : Reachable ['a', '[', 'ü', ']', ' ', '{', '}'] ⟨0, 1⟩ :=
    .fileCall 0 _ .current _ (by decide +kernel)
  have h3 : Reachable ['a', '[', 'ü', ']', ' ', '{', '}'] ⟨2, 5⟩ :=
    .relexCall ['x', 'y'] ⟨2, 5⟩ h1 1 _ .current _ (by decide +kernel)
  .merge _ _ h2 h3

/-
  C19_full (the location half of the property, for all of grass):
      for every input on which compilation fails with a (message, span) error, the span is
      `Reachable file` for the file it is looked up in.
  What the theorems above prove is everything *after* that: reachable spans are in bounds, on
  character boundaries, located without panic, with a location satisfying `spanLocOk`.  That
  every error site only uses reachable spans of ONE file is established by reading (the only
  `subspan` calls are lexer.rs:52 and the three `subspan(0, 0)`; spans are otherwise copied or
  merged) and checked by the correspondence run, not proved: in particular a `merge` of spans of
  two different files (selector/list.rs:145, selector/extend/merged.rs:27) would leave the model
  (codemap positions are global; the model's are file-relative).
-/

/-! ## Where a `@debug`/`@warn` event is located -/

/-- **The location handed to the Logger is a real position of the file's text**: whenever the
    directive `@name` at byte `site` has a value (`exprStart`: after the name, blanks, `//` and
    `/* */` comments, over any number of lines, LF or CRLF, tabs and multi-byte characters before
    it), the byte offset where the value begins is a character boundary inside the file, codemap's
    look-up succeeds (no panic), and the (line, column) it yields — `eventLoc`, the pair the check
    compares with grass's event — is one of the positions of the file's text. -/
theorem C19_event_location_valid (file : List Char) (site : Nat) (name : List Char) (off : Nat)
    (h : exprStart file site name = some off) :
    isBoundary file off = true ∧ off ≤ byteLen file ∧
    ∃ p, eventLoc file site name = some p ∧ (positions file).contains p = true := by
  obtain ⟨t, ht, rfl⟩ := exprStart_tok h
  have hb := (tokenize0_inv ht).1
  obtain ⟨p, hp⟩ := Option.isSome_iff_exists.mp (lineColAux_isSome 0 0 hb)
  refine ⟨hb, isBoundary_le hb, p, by simp only [eventLoc, h, lookUpPos, hp], ?_⟩
  exact List.contains_iff_mem.mpr (lineColAux_mem hp)

/-- `é` CR LF TAB `@debug /*ü*/` LF `1;` — the value `1` is on the third line (0-based 2), column 0. -/
def exLocFile : List Char :=
  ['é', '\r', '\n', '\t', '@', 'd', 'e', 'b', 'u', 'g', ' ', '/', '*', 'ü', '*', '/', '\n', '1', ';']

example : exprStart exLocFile 5 ['d', 'e', 'b', 'u', 'g'] = some 19 ∧
    eventLoc exLocFile 5 ['d', 'e', 'b', 'u', 'g'] = some (2, 0) := by decide +kernel

/-! ## Rendering -/

/-- **The rendered error starts with `Error: <message>` and a newline**, in Unicode and in ASCII
    mode, for every message and location. -/
theorem C19_render_prefix (unicode : Bool) (msg : List Char) (loc : RenderLoc) :
    ∃ rest, render unicode msg loc = errorPrefix ++ msg ++ ['\n'] ++ rest := by
  simp only [render, List.append_assoc (errorPrefix ++ msg ++ ['\n'])]
  exact ⟨_, rfl⟩

example : ∃ rest, render false ['x'] ⟨['f'], ['a', ' ', '{'], 0, 2, 0, 3⟩ = errorPrefix ++ ['x'] ++ ['\n'] ++ rest :=
  C19_render_prefix _ _ _

theorem caretCount_eq_natAbs (bc ec : Nat) :
    ((caretCount bc ec : Nat) : Int) = ((ec : Int) - (bc : Int)).natAbs := by
  rw [caretCount]
  rcases Nat.le_total bc ec with h | h
  · rw [Nat.max_eq_left h, Nat.min_eq_left h, ← Int.ofNat_sub h, Int.natAbs_natCast]
  · rw [Nat.max_eq_right h, Nat.min_eq_right h, ← Int.neg_sub, Int.natAbs_neg, ← Int.ofNat_sub h,
      Int.natAbs_natCast]

theorem padding_length (n : Nat) : (padding n).length = (natStr n).length + 1 :=
  List.length_replicate ..

theorem natStr_length_pos (n : Nat) : 0 < (natStr n).length := by
  rw [natStr, Nat.repr, String.toList_ofList]
  exact Nat.length_toDigits_pos

/-- **Paddings and the caret count are well-defined naturals**: the subtraction at error.rs:164
    never underflows (`min ≤ max`), the caret count is the distance between the two columns
    whichever is larger (also for spans that end on an earlier column of a later line), and the
    padding is one space per decimal digit of the line number plus one — at least two. -/
theorem C19_render_total (bl bc ec : Nat) :
    min bc ec ≤ max ec bc ∧
    ((caretCount bc ec : Nat) : Int) = ((ec : Int) - (bc : Int)).natAbs ∧
    (padding (bl + 1)).length = (natStr (bl + 1)).length + 1 ∧
    2 ≤ (padding (bl + 1)).length :=
  ⟨Nat.le_trans (Nat.min_le_left ..) (Nat.le_max_right ..), caretCount_eq_natAbs bc ec,
    padding_length _, by rw [padding_length]; exact Nat.succ_le_succ (natStr_length_pos _)⟩

example : caretCount 7 3 = 4 ∧ caretCount 3 7 = 4 := by decide

/-! ## What reaches the Logger -/

/-- **Each executed @debug/@warn is delivered exactly once per execution, in program order,
    with the directive's file and line** (code as it stands, `quiet` off): whatever the program,
    the fuel and the outcome (success or error), the sequence of (kind, file, line) of the events
    that reached the Logger equals the sequence of completed executions of @debug/@warn
    directives (`visited`, appended to once each time one completes). -/
theorem C19_debug_warn_trace (fuel : Nat) (prog : List Stmts) (st : St)
    (h : (run (Cfg.current false) fuel prog).st? = some st) :
    st.log.map Event.key = st.visited := by
  have P : Prim (Cfg.current false) (fun st => st.log.map Event.key = st.visited) :=
    { debug := by intro st f l m h; simp [St.doDebug, Cfg.current, Event.key, h]
      warn := by intro st f l m h; simp [St.doWarn, Cfg.current, Event.key, h]
      skip := by intro st f l hc; simp [Cfg.current] at hc
      admin := by intro st st' h1 h2 _ h; rw [h1, h2]; exact h }
  exact (run_preserves P rfl fuel prog).of_st? h

/-- The file lay-out used by the examples: `@for $v0 from 1 through 3 { @warn $v0; }  @debug "s7";`. -/
def exLoop : List Stmts :=
  [.cons (.forLoop 1 0 1 3 true (.cons (.warn 2 (.var 0)) .nil)) (.cons (.debug 4 (.str 7)) .nil)]

-- the statement is not vacuous: this run ends with a state, and it logged four events
example : ((run (Cfg.current false) 50 exLoop).st?.map (fun st => st.log.map Event.key)) =
    some [(.warn, 0, 2), (.warn, 0, 2), (.warn, 0, 2), (.debug, 0, 4)] := by decide +kernel

/-- **With `quiet` nothing reaches the Logger** — neither @debug nor @warn, whatever the
    program, the fuel, the outcome and the de-duplication switch (visitor.rs:1063 and :1624). -/
theorem C19_quiet_silent (dedup : Bool) (fuel : Nat) (prog : List Stmts) (st : St)
    (h : (run { quiet := true, warnDedupBySpan := dedup } fuel prog).st? = some st) :
    st.log = [] := by
  have P : Prim { quiet := true, warnDedupBySpan := dedup } (fun st => st.log = []) :=
    { debug := by intro st f l m h; simpa [St.doDebug] using h
      warn := by intro st f l m h; simpa [St.doWarn] using h
      skip := by intro st f l _ h; simpa [St.skipWarn] using h
      admin := by intro st st' h1 _ _ h; rw [h1]; exact h }
  exact (run_preserves P rfl fuel prog).of_st? h

-- non-vacuous: the quiet run of the example ends with a state in which four directives completed
example : ((run (Cfg.current true) 50 exLoop).st?.map (fun st => (st.log.length, st.visited.length))) =
    some (0, 4) := by decide +kernel

/-
  `C19_debug_warn_trace` and `C19_quiet_silent` are statements about `run`, i.e. about every program
  of the mini language: that includes `@each`, the counting `@while` (nothing bounds it but the
  fuel), `@use … as *` / `@forward` (module files run once), `@include` with a content block and
  `@content`, `@import` nested in a style rule, and values `a b` whose two sides both call
  functions that log.
-/

/-- **A module file is executed when it is first loaded** (`@use … as *` or `@forward` of a later
    file `k` not yet in the module cache): the outcome and what reached the Logger are those of
    running the file's statements once, in the file's own context with an empty environment, and
    the file is then in the cache. -/
theorem C19_module_first_load (cfg : Cfg) (prog : List Stmts) (fuel : Nat) (ctx : Ctx) (env : Env)
    (l k : Nat) (fw : Bool) (st st1 : St) (body : Stmts) (hk : ctx.mod < k)
    (hl : st.loaded.contains k = false) (hb : prog[k]? = some body)
    (hr : execStmts cfg prog fuel ⟨k, k⟩ [] body st = .ok () st1) :
    ∃ st', execStmt cfg prog (fuel + 1) ctx env (.loadMod l k fw) st = .ok () st' ∧
      st'.log = st1.log ∧ st'.visited = st1.visited ∧ st'.loaded.contains k = true := by
  rw [execStmt]
  simp only [Nat.not_le.mpr hk, if_false, hl, Bool.false_eq_true, hb, hr]
  cases fw
  · exact ⟨_, rfl, rfl, rfl, by simp [St.addVis, St.markLoaded]⟩
  · exact ⟨_, rfl, rfl, rfl, by simp [St.addFwd, St.markLoaded]⟩

/-- **… and never again**: `@use`/`@forward` of a file that is already in the module cache succeeds
    without running anything — the log, the list of executed directives and the cache are unchanged
    — whatever the file contains. -/
theorem C19_module_loaded_once (cfg : Cfg) (prog : List Stmts) (fuel : Nat) (ctx : Ctx) (env : Env)
    (l k : Nat) (fw : Bool) (st : St) (hk : ctx.mod < k) (hl : st.loaded.contains k = true) :
    ∃ st', execStmt cfg prog (fuel + 1) ctx env (.loadMod l k fw) st = .ok () st' ∧
      st'.log = st.log ∧ st'.visited = st.visited ∧ st'.loaded = st.loaded := by
  rw [execStmt]
  simp only [Nat.not_le.mpr hk, if_false, hl, if_true]
  cases fw
  · exact ⟨_, rfl, rfl, rfl, rfl⟩
  · exact ⟨_, rfl, rfl, rfl, rfl⟩

/-- main: `@use "p1" as *; @forward "p1"; @use "p2" as *; @debug 0;`  p1: `@use "p2" as *; @debug 1;`
    p2: `@warn 2;` -/
def exModules : List Stmts :=
  [.cons (.loadMod 0 1 false) (.cons (.loadMod 1 1 true) (.cons (.loadMod 2 2 false) (.cons (.debug 3 (.int 0)) .nil))),
   .cons (.loadMod 0 2 false) (.cons (.debug 1 (.int 1)) .nil),
   .cons (.warn 0 (.int 2)) .nil]

-- p2 is used twice and p1 used and forwarded: each ran once, innermost first
example : ((run (Cfg.current false) 50 exModules).st?.map (fun st => (st.log.map Event.key, st.loaded))) =
    some ([(.warn, 2, 0), (.debug, 1, 1), (.debug, 0, 3)], [1, 2]) := by decide +kernel

theorem execEach_warn_counter {prog : List Stmts} {ctx : Ctx} {x l : Nat} {env : Env} (i d : Int)
    {n fuel : Nat} {st : St} (hf : n + 4 ≤ fuel) :
    ∃ st', execEach (Cfg.current false) prog fuel ctx env x (.cons (.warn l (.var x)) .nil)
        ((List.range n).map fun k => .int (i + d * Int.ofNat k)) st = .ok () st' ∧
      st'.log = st.log ++ (List.range n).map
        (fun (k : Nat) => (⟨.warn, ctx.file, l, intStr (i + d * Int.ofNat k)⟩ : Event)) := by
  refine (execEach_log (execStmts_warn_var (cfg := Cfg.current false) rfl rfl l) _ fuel st ?_).imp
    fun st' h => ⟨h.1, ?_⟩
  · rw [List.length_map, List.length_range]; exact hf
  · rw [h.2, List.map_map]; rfl

/-- **A @warn in a @for loop is delivered once per iteration, with the loop variable's value at
    that iteration**: running `count` remaining iterations of a loop whose body is `@warn $x`
    appends exactly `count` warn events, in order, all with the directive's file and line. -/
theorem C19_warn_in_loop_each_iteration (prog : List Stmts) (ctx : Ctx) (x l : Nat) (env : Env)
    (dir : Int) : ∀ (count fuel : Nat) (i : Int) (st : St), count + 4 ≤ fuel →
    ∃ st', execFor (Cfg.current false) prog fuel ctx env x (.cons (.warn l (.var x)) .nil) i dir count st
        = .ok () st' ∧
      st'.log = st.log ++ (List.range count).map
        (fun (k : Nat) => (⟨.warn, ctx.file, l, intStr (i + dir * Int.ofNat k)⟩ : Event)) := by
  intro count fuel i st hf
  rw [execFor_eq_execEach]
  exact execEach_warn_counter i dir hf

example : ∃ st', execFor (Cfg.current false) [] 9 ⟨0, 0⟩ [] 0 (.cons (.warn 2 (.var 0)) .nil) 1 1 3 St.init
      = .ok () st' ∧ st'.log = [⟨.warn, 0, 2, ['1']⟩, ⟨.warn, 0, 2, ['2']⟩, ⟨.warn, 0, 2, ['3']⟩] := by
  obtain ⟨st', h1, h2⟩ := C19_warn_in_loop_each_iteration [] ⟨0, 0⟩ 0 2 [] 1 3 9 1 St.init (by omega)
  exact ⟨st', h1, by rw [h2]; rfl⟩

/-- **`@each` delivers once per item, in order, with the item's text**: running
    `@each $x in vals { @debug $x }` appends exactly one debug event per value of the list, in list
    order, all with the directive's file and site, the message being the item as `@debug` prints
    it (a string without its quotes). -/
theorem C19_each_logs_every_item (prog : List Stmts) (ctx : Ctx) (x l : Nat) (env : Env) :
    ∀ (vals : List Val) (fuel : Nat) (st : St), vals.length + 4 ≤ fuel →
    ∃ st', execEach (Cfg.current false) prog fuel ctx env x (.cons (.debug l (.var x)) .nil) vals st
        = .ok () st' ∧
      st'.log = st.log ++ vals.map (fun v => (⟨.debug, ctx.file, l, logText v⟩ : Event)) := by
  intro vals fuel st hf
  exact execEach_log (execStmts_debug_var rfl l) vals fuel st hf

example : ∃ st', execEach (Cfg.current false) [] 9 ⟨0, 0⟩ [] 0 (.cons (.debug 2 (.var 0)) .nil)
      [.int 1, .str 2, .int 5] St.init = .ok () st' ∧
    st'.log = [⟨.debug, 0, 2, ['1']⟩, ⟨.debug, 0, 2, ['s', '2']⟩, ⟨.debug, 0, 2, ['5']⟩] := by
  obtain ⟨st', h1, h2⟩ := C19_each_logs_every_item [] ⟨0, 0⟩ 0 2 [] [.int 1, .str 2, .int 5] 9 St.init (by decide)
  exact ⟨st', h1, by rw [h2]; rfl⟩

/-- **The counting `@while` delivers once per iteration, with the counter's value at that
    iteration**: if the condition `$x < bound` holds for the first `n` values `i, i + step, …` of
    the counter and fails for the next one, then running `@while $x < bound { @warn $x; $x: $x +
    step }` appends exactly `n` warn events, in order, with the directive's file and site (`step`
    may be any integer; with fuel for `n` iterations the loop ends normally). -/
theorem C19_while_logs_every_iteration (prog : List Stmts) (ctx : Ctx) (x l : Nat) (env : Env)
    (bound step : Int) : ∀ (n fuel : Nat) (i : Int) (st : St), n + 4 ≤ fuel →
    (∀ k : Nat, k < n → i + step * Int.ofNat k < bound) → ¬ (i + step * Int.ofNat n < bound) →
    ∃ st', execWhile (Cfg.current false) prog fuel ctx env x (.cons (.warn l (.var x)) .nil) i bound step st
        = .ok () st' ∧
      st'.log = st.log ++ (List.range n).map
        (fun (k : Nat) => (⟨.warn, ctx.file, l, intStr (i + step * Int.ofNat k)⟩ : Event)) := by
  intro n fuel i st hf hall hstop
  rw [execWhile_eq_execEach bound step n fuel i st hall hstop]
  exact execEach_warn_counter i step hf

-- `$x: 0; @while $x < 3 { @warn $x; $x: $x + 2 }` : two iterations, 0 and 2
example : ∃ st', execWhile (Cfg.current false) [] 9 ⟨0, 0⟩ [] 0 (.cons (.warn 2 (.var 0)) .nil) 0 3 2 St.init
      = .ok () st' ∧ st'.log = [⟨.warn, 0, 2, ['0']⟩, ⟨.warn, 0, 2, ['2']⟩] := by
  obtain ⟨st', h1, h2⟩ := C19_while_logs_every_iteration [] ⟨0, 0⟩ 0 2 [] 3 2 2 9 0 St.init (by omega)
    (fun k hk => by rw [Int.ofNat_eq_natCast]; omega) (by decide)
  exact ⟨st', h1, by rw [h2]; rfl⟩

/-- **`@error` reports the inspected value**: when the value of an `@error` evaluates to `v`, the
    statement fails with the message `inspect v` (strings keep their quotes, the two sides of a
    list `a b` are separated by one space) at the directive's file and site, and the rendering of
    that error starts with `Error: ` followed by exactly that text, in both modes. -/
theorem C19_error_reports_inspected_value (cfg : Cfg) (prog : List Stmts) (fuel : Nat) (ctx : Ctx)
    (env : Env) (l : Nat) (e : Expr) (st st1 : St) (v : Val)
    (h : evalExpr cfg prog fuel ctx l env e st = .ok v st1) :
    execStmt cfg prog (fuel + 1) ctx env (.error l e) st = .err (.user ctx.file l (inspect v)) st1 ∧
    ∀ (unicode : Bool) (loc : RenderLoc), ∃ rest,
      render unicode (inspect v) loc = errorPrefix ++ inspect v ++ ['\n'] ++ rest := by
  refine ⟨by rw [execStmt, h], fun u loc => C19_render_prefix u _ loc⟩

example : (match execStmt (Cfg.current false) [] 3 ⟨0, 0⟩ [] (.error 7 (.pair (.str 1) (.int 2))) St.init with
    | .err (.user f l m) _ => some (f, l, m)
    | _ => none) = some (0, 7, ['"', 's', '1', '"', ' ', '2']) := by decide +kernel

/-! ## As found: D12, D19, D23 -/

/-- D12 as found (`warnDedupBySpan`): the three executions of `@warn $v0` in the loop deliver ONE
    event, so the log is not the list of executed directives. -/
theorem C19_asFound_warn_dedup_loses_events :
    ((run { quiet := false, warnDedupBySpan := true } 50 exLoop).st?.map
        (fun st => (st.log.map Event.key, st.visited))) =
      some ([(.warn, 0, 2), (.debug, 0, 4)],
            [(.warn, 0, 2), (.warn, 0, 2), (.warn, 0, 2), (.debug, 0, 4)]) := by
  decide +kernel

/-- `$x: ""; a#{$x}ééé[ {b: c}` — the file of D19. -/
def d19File : List Char :=
  ['$', 'x', ':', ' ', '"', '"', ';', ' ', 'a', '#', '{', '$', 'x', '}', 'é', 'é', 'é', '[', ' ',
   '{', 'b', ':', ' ', 'c', '}']

/-- D19 as found (`expandedOnlyWhenLonger`): the selector `a#{$x}ééé[ ` (bytes 8..22) resolves to
    the shorter text `aééé[`; the "expected identifier" span of its last character is computed
    as bytes 15..16 of the source — inside the first `é` (bytes 14..16): not a character
    boundary, `find_line_col` panics.  Under the current rule the same call returns the whole
    selector span. -/
theorem C19_asFound_shorter_text_splits_char :
    (Lexer.ofString expandedOnlyWhenLonger d19File ['a', 'é', 'é', 'é', '['] ⟨8, 22⟩).spanAtIndex 5
        = some ⟨15, 16⟩ ∧
    isBoundary d19File 15 = false ∧
    lookUpSpan d19File ⟨15, 16⟩ = none ∧
    (Lexer.ofString .whenTextDiffers d19File ['a', 'é', 'é', 'é', '['] ⟨8, 22⟩).spanAtIndex 5
        = some ⟨8, 22⟩ := by
  decide +kernel

/-- `$é: "aa[$aaa"; #{$é} {b: c}` — the file of D23. -/
def d23File : List Char :=
  ['$', 'é', ':', ' ', '"', 'a', 'a', '[', '$', 'a', 'a', 'a', '"', ';', ' ', '#', '{', '$', 'é', '}',
   ' ', '{', 'b', ':', ' ', 'c', '}']

/-- D23 as found (`expandedWhenLengthDiffers`): the selector `#{$é} ` (bytes 16..23) resolves to
    `aa[$aaa`, which has the *same* byte length (7) but another character lay-out; the span of
    its 4th character `$` (where an identifier was expected) becomes bytes 19..20 of the source,
    and byte 20 is inside the `é` of `$é` (bytes 19..21): `find_line_col` panics.  Under the current
    rule the same call returns the whole selector span. -/
theorem C19_asFound_equal_length_text_splits_char :
    byteLen ['a', 'a', '[', '$', 'a', 'a', 'a'] = (⟨16, 23⟩ : Span).len ∧
    (Lexer.ofString expandedWhenLengthDiffers d23File ['a', 'a', '[', '$', 'a', 'a', 'a'] ⟨16, 23⟩).spanAtIndex 3
        = some ⟨19, 20⟩ ∧
    isBoundary d23File 20 = false ∧
    lookUpSpan d23File ⟨19, 20⟩ = none ∧
    (Lexer.ofString .whenTextDiffers d23File ['a', 'a', '[', '$', 'a', 'a', 'a'] ⟨16, 23⟩).spanAtIndex 3
        = some ⟨16, 23⟩ := by
  decide +kernel

end Grass.Diag
