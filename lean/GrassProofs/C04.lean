import Grass.CssTree
import GrassProofs.Lemmas.CssTreeBasic
import GrassProofs.Lemmas.CssTreeSel
import GrassProofs.Lemmas.CssTreeBuild
import GrassProofs.Lemmas.CssTreeBubble2
import GrassProofs.Lemmas.CssTreeNest
/-
  C04 — Nesting, `&`, @at-root and bubbling at-rules flatten to equivalent flat CSS.

  `flattenSpec`  : flatten by hand (Grass/CssTree.lean, part (a))
  `compile af`   : grass's algorithm — `treeBuild af`, `finish`, invisibility, blocks (part (b));
                   `AsFound.code` is the code as it stands now (C04-D1 and C04-D2 repaired in /repo,
                   C04-D3 still present), `AsFound.pinned` the tree as found (all three deviations),
                   `AsFound.specified` has all three repaired.
  P̂ = `specHolds src obs` : the observed block list is `flattenSpec src`.

  Not proved, covered by the correspondence run only: `C04_preorder_is_creation_order_full` (bubbling
  at-rules) and `C04_atroot_full`.  Full statement:
-/
namespace Grass.CssTree

/-- The whole property for the specified algorithm: on every source tree it yields exactly the
    block list flattening by hand yields (errors compared as a class). -/
def C04_full : Prop := ∀ src : Stmts, specHolds src (compile AsFound.specified src) = true

/-! ### parent-selector resolution -/

/-- `&` alone yields the parent list (whatever the parents are). -/
theorem C04_resolveParent_amp_alone (P : SelList) (implicit : Bool) :
    resolveList (some P) implicit [[.cmp { par := some none, simples := [] }]] = .ok P := by
  simp [resolveList, mapE, resolveComplex, complexHasParent, compHasParent, foldComps, stepComp,
    resolveCompound, flattenVertically_single]

example : resolveList (some [[.cmp ⟨none, ["a"]⟩], [.cmp ⟨none, ["b"]⟩, .comb ">", .cmp ⟨none, [".x"]⟩]]) true
    [[.cmp ⟨some none, []⟩]] = .ok [[.cmp ⟨none, ["a"]⟩], [.cmp ⟨none, ["b"]⟩, .comb ">", .cmp ⟨none, [".x"]⟩]] :=
  C04_resolveParent_amp_alone _ _

/-- **Cross product in source order.**  For parents as grass produces them (`goodParent`: the
    complex ends in a non-empty compound) and nested complexes with at most one `&`-compound each
    (no `&`, `&`, `&-suffix`, `&.x`, `a &`, `& > b` …), the resolved list is the matrix
    `combine p c` — the by-hand substitution of parent `p` into child `c` — read parent-major:
    all children under the first parent, then all under the second, …; lengths multiply. -/
theorem C04_resolveParent_cross_product (P C : SelList)
    (hP : ∀ p ∈ P, goodParent p = true) (hC : ∀ c ∈ C, parentRefs c ≤ 1) :
    ∃ M : List (List Complex),
      mapE (fun p => mapE (combine p) C) P = .ok M ∧
      resolveList (some P) true C = .ok M.flatten ∧
      M.flatten.length = P.length * C.length :=
  ⟨P.map (fun p => C.map (combineT p)), matrix_spec P C hP, resolveList_matrix P C hP hC,
    length_flatten_const combineT P C⟩

-- hypotheses satisfiable, non-trivially: `a, b { c, &-s, d & {…} }`
example : (∀ p ∈ ([[.cmp ⟨none, ["a"]⟩], [.cmp ⟨none, ["b"]⟩]] : SelList), goodParent p = true) ∧
    (∀ c ∈ ([[.cmp ⟨none, ["c"]⟩], [.cmp ⟨some (some "-s"), []⟩], [.cmp ⟨none, ["d"]⟩, .cmp ⟨some none, []⟩]] : SelList),
      parentRefs c ≤ 1) := by decide +kernel

/-- **Repeated `&`** (`& + &`, `& &-s`, …): every compound that contains `&` multiplies the number
    of results by the number of parents, so a complex with k such compounds yields |P|^k selectors
    (all k-tuples of parents; `flatten_vertically` then interleaves the columns of different
    children). -/
theorem C04_resolveParent_repeated_length (P : SelList) (hP : ∀ p ∈ P, goodParent p = true)
    (implicit : Bool) (c : Complex) (hc : complexHasParent c = true) :
    ∃ R, resolveComplex implicit P c = .ok R ∧ R.length = P.length ^ parentRefs c :=
  resolveComplex_length P hP implicit c hc

-- `a, b { & + & {…} }` is `a + a, a + b, b + a, b + b`
example : resolveList (some [[.cmp ⟨none, ["a"]⟩], [.cmp ⟨none, ["b"]⟩]]) true
    [[.cmp ⟨some none, []⟩, .comb "+", .cmp ⟨some none, []⟩]]
    = .ok [[.cmp ⟨none, ["a"]⟩, .comb "+", .cmp ⟨none, ["a"]⟩], [.cmp ⟨none, ["a"]⟩, .comb "+", .cmp ⟨none, ["b"]⟩],
           [.cmp ⟨none, ["b"]⟩, .comb "+", .cmp ⟨none, ["a"]⟩], [.cmp ⟨none, ["b"]⟩, .comb "+", .cmp ⟨none, ["b"]⟩]] :=
  rfl

/-! ### nested properties -/

/-- The name the visitor builds by carrying `declaration_name` (`format!("{}-{}")`) is the
    `-`-joined path of enclosing property names; values and order are those of the source. -/
theorem C04_nested_property_name (d : Decl) : visitDecl none d = declSpec [] d := visitDecl_none d

/-- `a: {b: {c: v}}` is the declaration `a-b-c: v`. -/
theorem C04_nested_property_name_abc (a b c v : String) :
    visitDecl none (.mk a none (.cons (.mk b none (.cons (.mk c (some v) .nil) .nil)) .nil))
      = [(a ++ "-" ++ b ++ "-" ++ c, v)] := by
  simp [visitDecl, visitDecls]

/-! ### invisibility -/

/-- **Empty rules vanish, and only they do.**  (1) a style rule without children is invisible;
    (2) nothing the top-level loop writes is invisible, and neither is anything `write_children`
    writes below it (`emit` applies the same test at every level); (3) skipping invisible
    statements never loses a block that has declarations: the observation is the same with and
    without the skipping. -/
theorem C04_finish_invisible (cs : List Css) (sel : SelList) :
    isInvisible (.mk (.rule sel) .nil) = true ∧
    (∀ c ∈ emitTop cs, isInvisible c = false) ∧
    (∀ c : Css, isInvisible (emit c) = isInvisible c) ∧
    blocksTop (emitTop cs) = blocksTop cs := by
  exact ⟨by simp [isInvisible, allInvisible], emitTop_visible cs, emit_invisible, blocksTop_emitTop cs⟩

example : blocksTop (emitTop [.mk (.rule [[.cmp ⟨none, ["a"]⟩]]) .nil,
    .mk (.media [[0]]) (.cons (.mk (.rule [[.cmp ⟨none, ["a"]⟩]]) .nil) .nil)]) = [] := by decide +kernel

/-! ### the tree algorithm against flattening by hand -/

-- `rulesOnlyL src`: style rules, declarations and nested properties only.

/-- **Style rules, declarations, nested properties.**  For every source tree of style rules (any selector lists, `&`
    anywhere), declarations and nested properties, to any depth and width, grass's algorithm —
    `add_child` with `through`, `with_parent`, declarations attached to the current parent, the
    mutating `finish` over the index-addressed tree, invisibility, blocks as the CSS reader sees
    them — yields exactly the block list flattening by hand yields, with the same error when a
    selector cannot be resolved or a declaration stands outside a rule.  It holds for the code as
    it stands and for every repaired variant (`af` arbitrary: the three deviations only concern
    @at-root).  Proof: the representation invariant `Wf` (ROOT → rules → declaration leaves) with
    the abstraction `viewI` (= blocks emitted so far, the open block being the entry of the
    current parent), preserved by every visitor step (`stmt_rel`/`stmts_rel`), and `finish_wf`. -/
theorem C04_treeBuild_eq_flattenSpec_rules (af : AsFound) (src : Stmts) (h : rulesOnlyL src = true) :
    compile af src = flattenSpec src := compile_eq_flattenSpec_rules af src h

/-- The same as P̂, the predicate the check evaluates on grass's own output. -/
theorem C04_specHolds_rules_partial (af : AsFound) (src : Stmts) (h : rulesOnlyL src = true) :
    specHolds src (compile af src) = true := by
  rw [C04_treeBuild_eq_flattenSpec_rules af src h]
  unfold specHolds
  cases flattenSpec src <;> simp

-- hypothesis satisfiable, non-trivially: `a, b { x: 1; & c { y: { z: 2 } } w: 3 }  d { }`
example : rulesOnlyL
    (.cons (.rule [[.cmp ⟨none, ["a"]⟩], [.cmp ⟨none, ["b"]⟩]]
      (.cons (.decl (.mk "x" (some "1") .nil))
        (.cons (.rule [[.cmp ⟨some none, []⟩, .cmp ⟨none, ["c"]⟩]]
          (.cons (.decl (.mk "y" none (.cons (.mk "z" (some "2") .nil) .nil))) .nil))
          (.cons (.decl (.mk "w" (some "3") .nil)) .nil))))
      (.cons (.rule [[.cmp ⟨none, ["d"]⟩]] .nil) .nil)) = true := by decide +kernel

/-- **Declaration order is preserved**: a rule whose body is a list of declarations and nested
    properties compiles to one block carrying exactly those declarations, in source order, under
    the resolved selector. -/
theorem C04_declaration_order (af : AsFound) (sel : SelList) (ds : Decls)
    (hsel : sel.any complexHasParent = false) (hne : declsSpec [] ds ≠ []) :
    compile af (.cons (.rule sel (declStmts ds)) .nil)
      = .ok [{ ctx := [], sel := some sel, decls := declsSpec [] ds }] := by
  rw [C04_treeBuild_eq_flattenSpec_rules af _ (by simp [rulesOnlyL, rulesOnly, rulesOnlyL_declStmts])]
  simp only [flattenSpec, specStmts, specStmt, SCtx.init, resolveList, hsel, Bool.false_eq_true, if_false]
  rw [specStmts_declStmts { frames := [], sel := some sel, exclStyle := false, inUnknown := false }
        (by simp [SCtx.ruleHere]) ds]
  cases hd : declsSpec [] ds with
  | nil => exact absurd hd hne
  | cons d rest => simp [wrapBlock, seqRes, SCtx.home, SCtx.ruleHere, Block.nonEmpty]

/-! ### bubbling @media / @supports / unknown at-rules -/

-- `bubOnlyL src`: no @at-root.  `readIdx`/`observeIdx`: the non-declaration nodes of the built tree in
-- index (= creation) order, context from the parent chain, declarations from the child list.

/-- **Bubbling (partial).**  For every tree of the bubbling fragment and every variant of the
    visitor that has the shallow sibling test of the code as it stands (`AsFound.code`,
    `AsFound.pinned`), the tree built by grass's algorithm — `add_child` with the three `through`
    closures (style rules; style rules and the @media rules already merged), the
    copy-when-following-sibling step, the style rule re-created inside every bubbling at-rule,
    nested @media merged with the nearest enclosing @media and lifted out of it, declarations
    attached to the current parent — contains, in creation order, exactly the blocks
    (at-rule context, selector, declarations) that flattening by hand yields, and fails with the
    same error where flattening by hand fails.
    Missing for the full statement (`C04_bubbling_full` below): that the mutating `finish` plus the
    serializer's invisibility rule emit the nodes of such a tree in creation order, each under the
    context its parent chain spells — `C04_finish_reads_index_order_full`.  That is exactly the
    part where the *position* of the copy (after the interstitial sibling) matters.  Of it, what
    `finish` returns is proved (`C04_finish_nested`); `C04_preorder_is_creation_order_full` is not. -/
theorem C04_treeBuild_eq_flattenSpec_bubbling_partial (af : AsFound) (h : af.shallowSibling = true)
    (src : Stmts) (hb : bubOnlyL src = true) : readIdx (treeBuild af src) = flattenSpec src :=
  readIdx_eq_flattenSpec_bubbling af h src hb

-- hypothesis satisfiable, non-trivially: `@media (f0) { a { @media (f1) { x: 1 } b { y: 2 } } }`
example : bubOnlyL
    (.cons (.media [[0]] (.cons (.rule [[.cmp ⟨none, ["a"]⟩]]
      (.cons (.media [[1]] (.cons (.decl (.mk "x" (some "1") .nil)) .nil))
        (.cons (.rule [[.cmp ⟨none, ["b"]⟩]] (.cons (.decl (.mk "y" (some "2") .nil)) .nil)) .nil))) .nil)) .nil) = true := by
  decide +kernel

/-- The missing link, stated exactly: `finish` + invisibility + the reader's block view return the
    index-order reading for every tree the visitor builds from the bubbling fragment. -/
def C04_finish_reads_index_order_full : Prop :=
  ∀ (af : AsFound) (src : Stmts) (t : Tree), af.shallowSibling = true → bubOnlyL src = true →
    treeBuild af src = .ok t → observeTree t = .ok (observeIdx t)

/-- The bubbling fragment in full (follows from the partial theorem and
    `C04_finish_reads_index_order_full`). -/
def C04_bubbling_full : Prop :=
  ∀ (af : AsFound) (src : Stmts), af.shallowSibling = true → bubOnlyL src = true →
    compile af src = flattenSpec src

theorem C04_bubbling_full_of_finish (hfin : C04_finish_reads_index_order_full) : C04_bubbling_full := by
  intro af src h hb
  have hp := C04_treeBuild_eq_flattenSpec_bubbling_partial af h src hb
  unfold compile observe
  cases ht : treeBuild af src with
  | error e => rw [ht] at hp; exact hp
  | ok t =>
    rw [ht] at hp
    simp only [readIdx] at hp
    show observeTree t = flattenSpec src
    rw [hfin af src t h hb ht]; exact hp

/-! ### the mutating `finish` -/

-- `Good t`: parents have smaller indices than their children, child lists and parent pointers describe
-- the same tree, declarations are leaves.  `nestedTop t`: the children of ROOT in index order, each
-- with the statements nested below it in child-list order.

/-- **`CssTree::finish` returns the nested reading.**  On every well-formed index tree — any kinds,
    any depth, at-rules included — the mutating loop of css_tree.rs:43 (`stmts[idx].take()`,
    recursive `apply_children` over the child map, `add_child_to_parent`, tombstones filtered out at
    the end; the loop bound `idx < len - 1` included) never reaches an `unreachable!()` and returns
    exactly the statements whose parent is ROOT, in index order, each carrying the statements nested
    below it in child-list order.  Proof: `applyChildren` completes one subtree and touches nothing
    outside it (`pspec_all`/`applyChildren_loop`, disjointness of sibling subtrees `desc_disjoint`), and the outer
    loop only ever starts at children of ROOT because everything else has been taken (`tstep`). -/
theorem C04_finish_nested (t : Tree) (gd : Good t) : finish t = some (nestedTop t) := finish_good t gd

/-- The observation of a well-formed tree is the block view of its nested reading (the serializer's
    skipping of invisible statements changes nothing, `C04_finish_invisible`). -/
theorem C04_observeTree_nested (t : Tree) (gd : Good t) : observeTree t = .ok (blocksTop (nestedTop t)) := by
  unfold observeTree
  rw [C04_finish_nested t gd]
  simp only [blocksTop_emitTop]

theorem C04_treeBuild_good_bubbling (af : AsFound) (h : af.shallowSibling = true) (src : Stmts)
    (hb : bubOnlyL src = true) (t : Tree) (ht : treeBuild af src = .ok t) : Good t := by
  have rel := stmtsB_rel af h src hb Tree.init SCtx.init VCtx.init good_init cohB_init
  unfold treeBuild at ht
  cases hs : specStmts SCtx.init src with
  | error e =>
    rw [hs] at rel
    simp only [RelB] at rel
    rw [rel] at ht; cases ht
  | ok x =>
    obtain ⟨ds, bs⟩ := x
    rw [hs] at rel
    obtain ⟨t', hb', gd', _⟩ := rel
    rw [hb'] at ht; injection ht with ht; subst ht; exact gd'

/-- `C04_finish_reads_index_order_full` minus what `C04_finish_nested` settles: reading the nested
    tree depth-first (what the serializer does) visits the nodes in creation order, i.e. every
    `add_child` of the bubbling fragment lands on the right-most branch of the tree (this is where
    the position of the copy made by the following-sibling test matters; C04-D3 is the case where it
    fails, and it needs @at-root).  NOT proved; covered by the correspondence. -/
def C04_preorder_is_creation_order_full : Prop :=
  ∀ (af : AsFound) (src : Stmts) (t : Tree), af.shallowSibling = true → bubOnlyL src = true →
    treeBuild af src = .ok t → blocksTop (nestedTop t) = observeIdx t

theorem C04_bubbling_full_of_preorder (hpre : C04_preorder_is_creation_order_full) : C04_bubbling_full := by
  apply C04_bubbling_full_of_finish
  intro af src t h hb ht
  rw [C04_observeTree_nested t (C04_treeBuild_good_bubbling af h src hb t ht), hpre af src t h hb ht]

/-- Not proved: @at-root (without and with queries) for the specified variant.  Missing:
    an invariant for `link_child_to_parent` trees (copies re-parented above one another) and the
    deep sibling test `addRawDeep`; covered by the correspondence only. -/
def C04_atroot_full : Prop :=
  ∀ src : Stmts, compile AsFound.specified src = flattenSpec src

/-! ### bubbling and @at-root: kernel-checked instances and witnesses -/

/-- DESIGN §8 example: `@media (f0) { a { @media (f1) { x: 1 } b { y: 2 } } }` — the inner @media
    bubbles out merged, and `a b` needs a *copy* of `@media (f0)` because the merged rule now
    follows it (copy-when-following-sibling). -/
def exBubble : Stmts :=
  .cons (.media [[0]] (.cons (.rule [[.cmp ⟨none, ["a"]⟩]]
    (.cons (.media [[1]] (.cons (.decl (.mk "x" (some "1") .nil)) .nil))
      (.cons (.rule [[.cmp ⟨none, ["b"]⟩]] (.cons (.decl (.mk "y" (some "2") .nil)) .nil)) .nil))) .nil)) .nil

example : specHolds exBubble (compile AsFound.code exBubble) = true ∧
    specHolds exBubble (.ok [⟨[.media [[0, 1]]], some [[.cmp ⟨none, ["a"]⟩]], [("x", "1")]⟩,
                            ⟨[.media [[0]]], some [[.cmp ⟨none, ["a"]⟩, .cmp ⟨none, ["b"]⟩]], [("y", "2")]⟩]) = true := by
  decide +kernel

-- non-vacuity of `C04_finish_nested` / `C04_treeBuild_good_bubbling`: the tree built for `exBubble`
-- (copy-when-following-sibling) is well-formed and `finish` on it is its nested reading:
-- `@media (f0) {a {}}  @media (f0) and (f1) {a {x: 1}}  @media (f0) {a b {y: 2}}`
example : ∃ t, treeBuild AsFound.code exBubble = .ok t ∧ Good t ∧ (nestedTop t).length = 3 ∧
    finish t = some (nestedTop t) := by
  have hlen : (treeBuild AsFound.code exBubble).toOption.map (fun t => (nestedTop t).length) = some 3 := by
    decide +kernel
  cases ht : treeBuild AsFound.code exBubble with
  | error e => rw [ht] at hlen; cases hlen
  | ok t =>
    rw [ht] at hlen
    have gd := C04_treeBuild_good_bubbling AsFound.code rfl exBubble (by decide +kernel) t ht
    exact ⟨t, rfl, gd, Option.some.inj hlen, C04_finish_nested t gd⟩

/-- `@media (f0) { @supports (s0: v) { a { @at-root (without: supports) { p0: v1 } } } }` -/
def witD1 : Stmts :=
  .cons (.media [[0]] (.cons (.supports "(s0: v)" (.cons (.rule [[.cmp ⟨none, ["a"]⟩]]
    (.cons (.atroot (some ⟨false, ["supports"]⟩) (.cons (.decl (.mk "p0" (some "v1") .nil)) .nil)) .nil)) .nil)) .nil)) .nil

/-- C04-D1 (fixed in /repo, c501619): with the outermost copy as the new parent the declaration
    lost its style rule; taking the innermost copy repairs it — and the code as it stands does. -/
theorem C04_asFound_D1_outerCopyParent :
    specHolds witD1 (compile AsFound.pinned witD1) = false ∧
    specHolds witD1 (compile { AsFound.pinned with outerCopyParent := false } witD1) = true ∧
    specHolds witD1 (compile AsFound.code witD1) = true := by decide +kernel

/-- `@foo { @at-root (without: all) { p0: v1 } }` -/
def witD2 : Stmts :=
  .cons (.unknown "foo" "" (.cons (.atroot (some ⟨false, ["all"]⟩) (.cons (.decl (.mk "p0" (some "v1") .nil)) .nil)) .nil)) .nil

/-- C04-D2 (fixed in /repo, ea0c00a): IN_UNKNOWN_AT_RULE survived the @at-root, so the declaration
    was accepted although nothing encloses it; the property (and dart-sass) ask for an error. -/
theorem C04_asFound_D2_keepInUnknown :
    specHolds witD2 (compile AsFound.pinned witD2) = false ∧
    specHolds witD2 (compile { AsFound.pinned with keepInUnknown := false } witD2) = true ∧
    specHolds witD2 (compile AsFound.code witD2) = true := by decide +kernel

/-- `@supports s { @supports t { a { @at-root (without: all) { & { p: 1 } } & { p: 2 } } } }` -/
def witD3 : Stmts :=
  .cons (.supports "s" (.cons (.supports "t" (.cons (.rule [[.cmp ⟨none, ["a"]⟩]]
    (.cons (.atroot (some ⟨false, ["all"]⟩)
        (.cons (.rule [[.cmp ⟨some none, []⟩]] (.cons (.decl (.mk "p" (some "1") .nil)) .nil)) .nil))
      (.cons (.rule [[.cmp ⟨some none, []⟩]] (.cons (.decl (.mk "p" (some "2") .nil)) .nil)) .nil))) .nil)) .nil)) .nil

/-- C04-D3: only the landing parent is tested for a following sibling (visitor.rs:1695), so the
    later `a { p: 2 }` is written before the @at-root's `a { p: 1 }`; testing the ancestors too
    keeps source order. -/
theorem C04_asFound_D3_shallowSibling : specHolds witD3 (compile AsFound.code witD3) = false := by
  decide +kernel

theorem C04_asFound_D3_repaired :
    specHolds witD3 (compile { AsFound.code with shallowSibling := false } witD3) = true := by decide +kernel

/-! ### declaration order with nested rules and at-rules in between -/

/-- **Declaration order is preserved across nested constructs** (hand-flattening side, bubbling
    fragment): whatever rules and at-rules stand between them, the declarations written directly in
    a body reach the enclosing block in source order — the own-declaration part of `specStmts` is
    `ownDecls`. -/
theorem C04_spec_own_declarations_in_source_order (c : SCtx) (ss : Stmts) (hb : bubOnlyL ss = true)
    (ds : List (String × String)) (bs : List Block) (h : specStmts c ss = .ok (ds, bs)) : ds = ownDecls ss :=
  specStmts_own c ss hb ds bs h

/-- **Declaration order, grass side** (generalises `C04_declaration_order` to bodies with nested
    rules in between): a top-level rule whose body consists of declarations, nested properties and
    nested rules (to any depth) compiles to a list that starts with ONE block carrying all the
    declarations written directly in the body, in source order — those after a nested rule
    included — followed by the blocks of the nested rules. -/
theorem C04_declaration_order_interleaved (af : AsFound) (sel : SelList) (body : Stmts)
    (hsel : sel.any complexHasParent = false) (hb : rulesOnlyL body = true)
    (ds : List (String × String)) (bs : List Block)
    (hspec : specStmts { frames := [], sel := some sel, exclStyle := false, inUnknown := false } body = .ok (ds, bs))
    (hne : ownDecls body ≠ []) :
    compile af (.cons (.rule sel body) .nil)
      = .ok ({ ctx := [], sel := some sel, decls := ownDecls body } :: bs.filter Block.nonEmpty) := by
  rw [C04_treeBuild_eq_flattenSpec_rules af _ (by simp [rulesOnlyL, rulesOnly, hb])]
  have hds := specStmts_own _ body (rulesOnlyL_bub body hb) ds bs hspec
  subst hds
  simp only [flattenSpec, specStmts, specStmt, SCtx.init, resolveList, hsel, Bool.false_eq_true, if_false, hspec]
  cases hd : ownDecls body with
  | nil => exact absurd hd hne
  | cons d rest => simp [wrapBlock, seqRes, SCtx.home, SCtx.ruleHere, Block.nonEmpty]

-- `a { x: 1; b { y: 2 } z: 3 }`: one block `a {x: 1; z: 3}`, then `a b {y: 2}`
example : (match compile AsFound.code (.cons (.rule [[.cmp ⟨none, ["a"]⟩]]
    (.cons (.decl (.mk "x" (some "1") .nil))
      (.cons (.rule [[.cmp ⟨none, ["b"]⟩]] (.cons (.decl (.mk "y" (some "2") .nil)) .nil))
        (.cons (.decl (.mk "z" (some "3") .nil)) .nil)))) .nil) with
    | .ok bs => bs == [⟨[], some [[.cmp ⟨none, ["a"]⟩]], [("x", "1"), ("z", "3")]⟩,
           ⟨[], some [[.cmp ⟨none, ["a"]⟩, .cmp ⟨none, ["b"]⟩]], [("y", "2")]⟩]
    | .error _ => false) = true := by decide +kernel

/-! ### empty-rule elimination -/

/-- **Empty-rule elimination.**  Nothing that is written — at the top level or nested to any depth
    — is a style rule, @media or @supports with zero written children: the serializer's skipping of
    invisible statements (`emitTop`/`emit`, the model of lib.rs:210 and serializer.rs:1121 with
    `CssStmt::is_invisible`, css.rs:54) removes a rule exactly when nothing visible is left in it,
    so rules that contain only empty rules vanish with them. -/
theorem C04_emitted_blocks_nonempty (cs : List Css) : ∀ c ∈ emitTop cs, noEmptyBlock c = true := by
  induction cs with
  | nil => intro c h; simp [emitTop] at h
  | cons a as ih =>
    intro c h
    by_cases ha : isInvisible a = true
    · simp only [emitTop, ha, if_true] at h; exact ih c h
    · have ha' : isInvisible a = false := by simpa using ha
      simp only [emitTop, ha', Bool.false_eq_true, if_false, List.mem_cons] at h
      rcases h with h | h
      · subst h; exact emit_noEmpty a ha'
      · exact ih c h

-- `a { b { } c { d { } } }  e { f { } x: 1 }`: the first rule vanishes entirely, the second keeps only `x: 1`
example : emitTop [.mk (.rule [[.cmp ⟨none, ["a"]⟩]])
      (.cons (.mk (.rule [[.cmp ⟨none, ["b"]⟩]]) .nil)
        (.cons (.mk (.rule [[.cmp ⟨none, ["c"]⟩]]) (.cons (.mk (.rule [[.cmp ⟨none, ["d"]⟩]]) .nil) .nil)) .nil)),
    .mk (.rule [[.cmp ⟨none, ["e"]⟩]])
      (.cons (.mk (.rule [[.cmp ⟨none, ["f"]⟩]]) .nil) (.cons (.mk (.decl "x" "1") .nil) .nil))]
    = [.mk (.rule [[.cmp ⟨none, ["e"]⟩]]) (.cons (.mk (.decl "x" "1") .nil) .nil)] :=
  rfl

end Grass.CssTree
