import GrassProofs.Lemmas.Num
/-
  Lemmas for C07 and C08: what a finite result of `D.ofExact` is (the arithmetic clause), and the
  prefix scanner `scanNumber` against the grammar `parseLit`.
-/
namespace Grass.Num

theorem inf_ne_fin (b : Bool) (r : Rat) : D.inf b ≠ D.fin r := by cases b <;> simp [D.inf]

theorem ofExact_fin (q : Rat) (z : Bool) (r : Rat) (hq : q ≠ 0) (h : D.ofExact q z = some (.fin r)) :
    r = rnd53 q ∧ absQ (r - q) * 9007199254740992 ≤ absQ q ∧ absQ r < pow2 1024 ∧ -1022 ≤ expOf r := by
  unfold D.ofExact at h
  rw [if_neg hq] at h
  unfold D.ofNonzero at h
  simp only at h
  split at h
  · injection h with h; exact absurd h (inf_ne_fin _ _)
  · rename_i h1
    split at h
    · cases h
    · rename_i h2
      injection h with h; injection h with h
      subst h
      exact ⟨rfl, rnd53_relative q, by grind, by grind⟩

theorem ofExact_fin_eq (q : Rat) (z : Bool) (r : Rat) (h : D.ofExact q z = some (.fin r)) : r = rnd53 q := by
  by_cases hq : q = 0
  · subst hq
    cases z <;> simp [D.ofExact, D.zero] at h
    rw [← h, rnd53_zero]
  · exact (ofExact_fin q z r hq h).1

theorem div_fin_fin (x y : Rat) (hy : y ≠ 0) :
    D.div (.fin x) (.fin y) = D.ofExact (x / y) (decide (x < 0) != decide (y < 0)) := by
  simp [D.div, D.isInf, D.isZero, D.toRat?, D.isNeg, hy]

theorem sub_fin_fin (x y : Rat) (hy : y ≠ 0) : D.sub (.fin x) (.fin y) = D.ofExact (x - y) false := by
  simp [D.sub, D.neg, hy, D.add, Rat.sub_eq_add_neg]

/-! ### the scanner against the grammar -/

theorem tw_all (ds : List Char) (h : ds.all isDigit = true) :
    ds.takeWhile isDigit = ds ∧ ds.dropWhile isDigit = [] := by
  have h' : ∀ c ∈ ds, isDigit c = true := by simpa using h
  have := takeWhile_digits ds [] h' (Or.inl rfl)
  simpa using this

theorem scanExp_of_parseExp (s : List Char) (e : Int) (h : parseExp s = some e) : scanExp s = some (e, []) := by
  revert h
  fun_cases parseExp s <;> intro h <;> simp_all [scanExp, tw_all]

theorem dw_of_tw_nil (s : List Char) (h : s.takeWhile isDigit = []) : s.dropWhile isDigit = s := by
  cases s with
  | nil => rfl
  | cons c r =>
    cases hc : isDigit c
    · simp [List.dropWhile, hc]
    · simp [List.takeWhile, hc] at h

theorem scanBody_of_parseBody (neg : Bool) (s : List Char) (l : Lit) (h : parseBody neg s = some l) :
    scanBody neg s = .ok l [] := by
  unfold parseBody at h
  unfold scanBody
  simp only at h ⊢
  split at h
  · cases h
  · rename_i hg
    have hg' : ¬ (List.takeWhile isDigit s = [] ∧ s.head? ≠ some '.') := by
      intro ⟨a, b⟩
      exact hg ⟨a, by rw [dw_of_tw_nil s a]; exact b⟩
    rw [if_neg hg']
    split at h
    · rename_i r heq
      split at h
      · cases h
      · rename_i hf
        cases hr : r with
        | nil => simp [hr] at hf
        | cons c r' =>
          have hc : isDigit c = true := by
            cases hcd : isDigit c
            · simp [hr, hcd] at hf
            · rfl
          simp only [hc, if_true]
          rw [hr] at h
          cases hp : parseExp (List.dropWhile isDigit (c :: r')) with
          | none => simp [hp] at h
          | some e =>
            rw [scanExp_of_parseExp _ e hp]
            simp [hp] at h
            simp [← h]
    · rename_i hnd
      cases hp : parseExp (List.dropWhile isDigit s) with
      | none => simp [hp] at h
      | some e =>
        simp [hp] at h
        have hs := scanExp_of_parseExp _ e hp
        rw [hs]; simp [← h]

end Grass.Num
