import GrassProofs.Lemmas.ColorRoundTrip
/-
  Helper lemmas for C15: rgb → hwb → rgb and the accessor-based hsl round trip
  (`hue()` uses a red-first case order, `as_hsla` a blue-first one), in exact rationals.
-/
namespace Grass.Color

/-- `whiteness()`/`blackness()` nest min/max the other way round than `min3`/`max3`. -/
theorem nmin_assoc_div (a b c : Rat) :
    nmin (nmin a b) c / 255 = min3 (a / 255) (b / 255) (c / 255) ∧
    nmax (nmax a b) c / 255 = max3 (a / 255) (b / 255) (c / 255) := by
  simp only [min3, max3, nmin_assoc, nmax_assoc, nmin_div, nmax_div, and_self]

/-- the `hue()` accessor (color/mod.rs:227) on scaled channels, with exact comparisons -/
def hueE (x y z : Rat) : Rat :=
  let mn := min3 x y z; let mx := max3 x y z
  let hue :=
    if mn = mx then 0
    else if mx = x then 60 * (y - z) / (mx - mn)
    else if mx = y then 120 + 60 * (z - x) / (mx - mn)
    else 240 + 60 * (x - y) / (mx - mn)
  sassMod hue 360

theorem hueE_mod (x y z : Rat) : sassMod (hueE x y z) 360 = hueE x y z := sassMod_idem _

/-- `hue()` scales a sextant position by 60 without wrapping a negative one first. -/
theorem hue_sextant {p : Rat} (h0 : -1 ≤ p) (h1 : p < 6) :
    sassMod (p * 60) 360 / 360 = (if p < 0 then p + 6 else p) / 6 := by
  split
  · rw [← sextant_turns (-1) (by grind) (by grind)]; congr 2; simp; grind
  · rw [← sextant_turns 0 (by grind) h1]; congr 2; simp; grind

theorem hueE_sextant {x y z : Rat} (hne : min3 x y z ≠ max3 x y z) :
    ∃ p, IsSextant x y z (min3 x y z) (max3 x y z) p ∧ hueE x y z / 360 = (if p < 0 then p + 6 else p) / 6 := by
  have F := minmax_facts x y z
  simp only [hueE, if_neg hne]
  generalize min3 x y z = mn at *
  generalize max3 x y z = mx at *
  have hlt : mn < mx := by unfold IsMinMax at F; grind
  have hp : IsSextant x y z mn mx (if mx = x then (y - z) / (mx - mn)
      else if mx = y then 2 + (z - x) / (mx - mn) else 4 + (x - y) / (mx - mn)) := by
    unfold IsSextant
    split
    · exact Or.inl ⟨Eq.symm ‹_›, rfl⟩
    · split
      · exact Or.inr (Or.inl ⟨Eq.symm ‹_›, rfl⟩)
      · exact Or.inr (Or.inr ⟨by unfold IsMinMax at F; grind, rfl⟩)
  have e : (if mx = x then 60 * (y - z) / (mx - mn) else if mx = y then 120 + 60 * (z - x) / (mx - mn)
        else 240 + 60 * (x - y) / (mx - mn)) =
      (if mx = x then (y - z) / (mx - mn) else if mx = y then 2 + (z - x) / (mx - mn)
        else 4 + (x - y) / (mx - mn)) * 60 := by
    split
    · grind
    · split <;> grind
  have ⟨b0, b1⟩ := sextant_range F hlt hp
  exact ⟨_, hp, by rw [e]; exact hue_sextant b0 b1⟩

theorem hwb_roundtripE {x y z : Rat} (x0 : 0 ≤ x) (x1 : x ≤ 1) (y0 : 0 ≤ y) (y1 : y ≤ 1) :
    hwbToRgbExact (hueE x y z) (min3 x y z * 100) ((1 - max3 x y z) * 100) = (x * 255, y * 255, z * 255) := by
  have F := minmax_facts x y z
  have H := hueE_sextant (x := x) (y := y) (z := z)
  simp only [hwbToRgbExact, hueE_mod]
  generalize min3 x y z = mn at *
  generalize max3 x y z = mx at *
  have hsum : ¬ (mn * 100 / 100 + (1 - mx) * 100 / 100 > 1) := by unfold IsMinMax at F; grind
  have ew : mn * 100 / 100 = mn := by grind
  have ef : 1 - mn - (1 - mx) * 100 / 100 = mx - mn := by grind
  simp only [if_neg hsum]
  simp only [ew, ef, hueToRgb_affine]
  by_cases he : mn = mx
  · unfold IsMinMax at F
    have hx : x = mn := by grind
    have hy : y = mn := by grind
    have hz : z = mn := by grind
    subst he hx hy hz
    simp only [hueToRgb_const]
  · obtain ⟨p, hp, hh⟩ := H he
    have ⟨e1, e2, e3⟩ := hueToRgb_recovers F (by unfold IsMinMax at F; grind) hp rfl
    rw [hh, e1, e2, e3]

theorem roundtripE_acc {x y z : Rat} (x0 : 0 ≤ x) (x1 : x ≤ 1) (y0 : 0 ≤ y) (y1 : y ≤ 1) (z0 : 0 ≤ z) (z1 : z ≤ 1) :
    hslToRgbExact (hueE x y z) (rgbToHslE x y z).2.1 (rgbToHslE x y z).2.2 = (x * 255, y * 255, z * 255) :=
  hslToRgbExact_recovers x0 x1 y0 y1 z0 z1 hueE_sextant

end Grass.Color
