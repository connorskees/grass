import GrassProofs.Lemmas.CssTreeBubble
/-
  C04: what the mutating `CssTree::finish` (css_tree.rs:43, `apply_children` :63, `add_child_to_parent`
  :80) returns on any `Good` index tree, whatever the kinds and depth: the children of ROOT in index
  order, each with the statements nested below it in child-list order (`nestedTop`).  Trees with
  `link_child_to_parent` (@at-root copies, parent index > child index) are outside `Good`.
-/
namespace Grass.CssTree

def pushSub (g : Nat → Option Css) (acc : CssList) (c : Nat) : CssList :=
  match g c with
  | some x => acc.snoc x
  | none => acc

/-- the statement nested below node `i` (fuel = bound on the depth) -/
def subF (t : Tree) : Nat → Nat → Option Css
  | 0, _ => none
  | f + 1, i =>
    match kindAt t i with
    | none => none
    | some k => some (.mk k ((childrenOf t i).foldl (pushSub (fun c => subF t f c)) .nil))

/-- the nested reading of an index tree: children of ROOT in index order -/
def nestedTop (t : Tree) : List Css :=
  (List.range t.length).filterMap (fun j => if parentOf t j = some 0 then subF t t.length j else none)

/-- `a` is `j` or an ancestor of `j` -/
inductive Desc (t : Tree) (a : Nat) : Nat → Prop
  | refl : Desc t a a
  | step (j g : Nat) : parentOf t j = some g → Desc t a g → Desc t a j

theorem desc_le (t : Tree) (gd : Good t) (a j : Nat) (h : Desc t a j) : a ≤ j := by
  induction h with
  | refl => exact Nat.le_refl _
  | step j g hg _ ih => have := gd.po j g hg; omega

theorem desc_lt_len (t : Tree) (a j : Nat) (h : Desc t a j) (ha : a < t.length) : j < t.length := by
  induction h with
  | refl => exact ha
  | step j g hg _ _ =>
    rcases Nat.lt_or_ge j t.length with h | h
    · exact h
    · rw [parentOf_none_of_ge t j h] at hg; cases hg

theorem desc_trans (t : Tree) (a b j : Nat) (h1 : Desc t a b) (h2 : Desc t b j) : Desc t a j := by
  induction h2 with
  | refl => exact h1
  | step j g hg _ ih => exact .step j g hg ih

theorem desc_child (t : Tree) (c j : Nat) (h : Desc t c j) (hne : j ≠ c) :
    ∃ c', parentOf t c' = some c ∧ Desc t c' j := by
  induction h with
  | refl => exact absurd rfl hne
  | step j g hg hd ih =>
    by_cases hgc : g = c
    · subst hgc; exact ⟨j, hg, .refl⟩
    · obtain ⟨c', h1, h2⟩ := ih hgc
      exact ⟨c', h1, .step j g hg h2⟩

theorem desc_disjoint (t : Tree) (gd : Good t) (c c' p : Nat) (hc : parentOf t c = some p)
    (hc' : parentOf t c' = some p) (hne : c ≠ c') (j : Nat) (h1 : Desc t c j) (h2 : Desc t c' j) : False := by
  induction h1 with
  | refl =>
    cases h2 with
    | refl => exact hne rfl
    | step _ g hg hd =>
      rw [hc] at hg; injection hg with hg; subst hg
      have := desc_le t gd c' _ hd; have := gd.po c' _ hc'; omega
  | step j g hg hd ih =>
    cases h2 with
    | refl =>
      rw [hc'] at hg; injection hg with hg; subst hg
      have := desc_le t gd c _ hd; have := gd.po c _ hc; omega
    | step _ g' hg' hd' =>
      rw [hg] at hg'; injection hg' with hg'; subst hg'
      exact ih hd'

theorem desc_leaf (t : Tree) (gd : Good t) (c j : Nat) (hleaf : childrenOf t c = []) (h : Desc t c j) : j = c := by
  induction h with
  | refl => rfl
  | step j g hg _ ih =>
    subst ih
    have := gd.pc j g hg
    rw [hleaf] at this; cases this

theorem top_exists (t : Tree) (gd : Good t) : ∀ j, 0 < j → j < t.length → ∃ a, parentOf t a = some 0 ∧ Desc t a j := by
  intro j
  induction j using Nat.strongRecOn with
  | _ j ih =>
    intro h0 hl
    obtain ⟨g, hg⟩ := gd.pars j h0 hl
    by_cases hg0 : g = 0
    · subst hg0; exact ⟨j, hg, .refl⟩
    · have := gd.po j g hg
      obtain ⟨a, h1, h2⟩ := ih g this (by omega) (by omega)
      exact ⟨a, h1, .step j g hg h2⟩

/-! ### `apply_children` completes one subtree -/

def proc (t : Tree) (f c : Nat) (s : FState) : Option FState :=
  if hasChildren t c then applyChildren t f c s else some s

def acStep (t : Tree) (f p : Nat) (s : FState) (c : Nat) : Option FState :=
  match proc t f c s with
  | none => none
  | some s1 => takeInto s1 c p

theorem applyChildren_succ (t : Tree) (f p : Nat) (s : FState) :
    applyChildren t (f + 1) p s = (childrenOf t p).foldlM (acStep t f p) s := rfl

/-- `stmts[j]` has not been touched yet -/
def Fresh (t : Tree) (s : FState) (j : Nat) : Prop := s[j]? = some ((kindAt t j).map (Css.mk · .nil))

/-- node `c` has been completed in `s'` (from `s`): it carries everything nested below it, its
    proper descendants are taken, nothing else has changed -/
structure Done (t : Tree) (f : Nat) (s s' : FState) (c : Nat) : Prop where
  len : s'.length = s.length
  self : s'[c]? = some (subF t f c)
  below : ∀ j, Desc t c j → j ≠ c → s'[j]? = some none
  frame : ∀ j, ¬ Desc t c j → s'[j]? = s[j]?

def PSpec (t : Tree) (f : Nat) : Prop :=
  ∀ c s, 0 < c → c < t.length → t.length ≤ c + f → (∀ j, Desc t c j → Fresh t s j) →
    ∃ s1, proc t f c s = some s1 ∧ Done t f s s1 c

/-- the `for &child in children` loop of `apply_children` for parent `p` -/
theorem applyChildren_loop (t : Tree) (gd : Good t) (f : Nat) (hP : PSpec t f) (p : Nat) (k : Kind) (hk : ∀ n v, k ≠ .decl n v)
    (hpl : p < t.length) (hfuel : t.length ≤ p + f + 1) :
    ∀ (cs : List Nat) (s : FState) (b : CssList),
      (∀ c ∈ cs, parentOf t c = some p) → cs.Nodup → s[p]? = some (some (.mk k b)) →
      (∀ c ∈ cs, ∀ j, Desc t c j → Fresh t s j) →
      ∃ s', cs.foldlM (acStep t f p) s = some s' ∧ s'.length = s.length ∧
        s'[p]? = some (some (.mk k (cs.foldl (pushSub (fun c => subF t f c)) b))) ∧
        (∀ c ∈ cs, ∀ j, Desc t c j → s'[j]? = some none) ∧
        (∀ j, j ≠ p → (∀ c ∈ cs, ¬ Desc t c j) → s'[j]? = s[j]?)
  | [], s, b, _, _, hp, _ => ⟨s, rfl, rfl, by simpa using hp, by simp, fun _ _ _ => rfl⟩
  | c :: cs, s, b, hpar, hnd, hp, hfr => by
    have hcp := hpar c (by simp)
    have hpc : p < c := gd.po c p hcp
    have hcl : c < t.length := gd.cv p c (gd.pc c p hcp)
    simp only [List.nodup_cons] at hnd
    obtain ⟨s1, hproc, d1⟩ := hP c s (by omega) hcl (by omega) (hfr c (by simp))
    obtain ⟨kc, hkc⟩ := gd.kinds c (by omega) hcl
    obtain ⟨f', hf'⟩ : ∃ f', f = f' + 1 := ⟨f - 1, by omega⟩
    obtain ⟨x, hx⟩ : ∃ x, subF t f c = some x := by
      rw [hf']; simp only [subF, hkc]; exact ⟨_, rfl⟩
    have hnd_cp : ¬ Desc t c p := fun h => by have := desc_le t gd c p h; omega
    have h1c : s1[c]? = some (some x) := by rw [d1.self, hx]
    have h1p : s1[p]? = some (some (.mk k b)) := by rw [d1.frame p hnd_cp]; exact hp
    have htake := takeInto_node s1 c p x k b hk h1c h1p
    have hstep : acStep t f p s c = some ((s1.set c none).set p (some (.mk k (b.snoc x)))) := by
      simp only [acStep, hproc]; exact htake
    have hplen : p < s1.length := lt_length_of_get _ _ _ h1p
    have hclen : c < s1.length := lt_length_of_get _ _ _ h1c
    let s2 := (s1.set c none).set p (some (.mk k (b.snoc x)))
    have h2p : s2[p]? = some (some (.mk k (b.snoc x))) := by simp [s2, hplen]
    have h2other : ∀ j, j ≠ p → j ≠ c → s2[j]? = s1[j]? := by
      intro j h1 h2
      simp only [s2, List.getElem?_set]
      rw [if_neg (Ne.symm h1), if_neg (Ne.symm h2)]
    have hfr2 : ∀ c' ∈ cs, ∀ j, Desc t c' j → Fresh t s2 j := by
      intro c' hc' j hd
      have hc'p := hpar c' (by simp [hc'])
      have hne : c ≠ c' := fun h => hnd.1 (h ▸ hc')
      have hjp : j ≠ p := by have := desc_le t gd c' j hd; have := gd.po c' p hc'p; omega
      have hjc : j ≠ c := by
        intro h; subst h
        exact desc_disjoint t gd j c' p hcp hc'p hne j .refl hd
      have hndj : ¬ Desc t c j := fun h => desc_disjoint t gd c c' p hcp hc'p hne j h hd
      unfold Fresh
      rw [h2other j hjp hjc, d1.frame j hndj]
      exact hfr c' (by simp [hc']) j hd
    obtain ⟨s', hfold, hlen, hsp, hbelow, hframe⟩ := applyChildren_loop t gd f hP p k hk hpl hfuel cs s2 (b.snoc x)
      (fun c' h => hpar c' (by simp [h])) hnd.2 h2p hfr2
    refine ⟨s', ?_, ?_, ?_, ?_, ?_⟩
    · simp only [List.foldlM_cons, hstep]; exact hfold
    · rw [hlen]; simp [s2, d1.len]
    · rw [hsp]; simp only [List.foldl_cons, pushSub, hx]
    · intro c0 hc0 j hd
      simp only [List.mem_cons] at hc0
      rcases hc0 with h | hc0
      · subst h
        have hjp : j ≠ p := by have := desc_le t gd c0 j hd; omega
        have hno : ∀ c' ∈ cs, ¬ Desc t c' j := by
          intro c' hc' h
          exact desc_disjoint t gd c0 c' p hcp (hpar c' (by simp [hc'])) (fun h => hnd.1 (h ▸ hc')) j hd h
        rw [hframe j hjp hno]
        by_cases hjc : j = c0
        · subst hjc
          simp only [s2, List.getElem?_set]
          rw [if_neg (Ne.symm hjp)]
          simp [hclen]
        · rw [h2other j hjp hjc]; exact d1.below j hd hjc
      · exact hbelow c0 hc0 j hd
    · intro j hjp hno
      have hjc : j ≠ c := fun h => hno c (by simp) (h ▸ .refl)
      rw [hframe j hjp (fun c' hc' => hno c' (by simp [hc'])), h2other j hjp hjc, d1.frame j (hno c (by simp))]

theorem pspec_all (t : Tree) (gd : Good t) : ∀ f, PSpec t f
  | 0 => by intro c s _ hcl hfu _; omega
  | f + 1 => by
    intro c s hc0 hcl hfu hfr
    obtain ⟨kc, hkc⟩ := gd.kinds c hc0 hcl
    have hself : s[c]? = some (some (.mk kc .nil)) := by
      have := hfr c .refl
      unfold Fresh at this; rw [this, hkc]; rfl
    by_cases hch : hasChildren t c = true
    · have hne : childrenOf t c ≠ [] := by
        intro h; simp [hasChildren, h] at hch
      have hk : ∀ n v, kc ≠ .decl n v := by
        obtain ⟨c', hc'⟩ := List.exists_mem_of_ne_nil _ hne
        intro n v h; subst h; exact gd.ndp c c' hc' n v hkc
      obtain ⟨s', hfold, hlen, hsc, hbelow, hframe⟩ := applyChildren_loop t gd f (pspec_all t gd f) c kc hk hcl (by omega)
        (childrenOf t c) s .nil (fun c' h => gd.cp c c' h) (gd.cnd c) hself
        (fun c' h j hd => hfr j (desc_trans t c c' j (.step c' c (gd.cp c c' h) .refl) hd))
      refine ⟨s', ?_, hlen, ?_, ?_, ?_⟩
      · simp only [proc, hch, if_true, applyChildren_succ]; exact hfold
      · rw [hsc]; simp only [subF, hkc]
      · intro j hd hne
        obtain ⟨c', h1, h2⟩ := desc_child t c j hd hne
        exact hbelow c' (gd.pc c' c h1) j h2
      · intro j hnd
        have hjc : j ≠ c := fun h => hnd (h ▸ .refl)
        exact hframe j hjc (fun c' hc' h => hnd (desc_trans t c c' j (.step c' c (gd.cp c c' hc') .refl) h))
    · have hch' : hasChildren t c = false := by simpa using hch
      have hnil := childrenOf_of_no_children t c hch'
      refine ⟨s, by simp [proc, hch'], rfl, ?_, ?_, fun _ _ => rfl⟩
      · rw [hself]; simp [subF, hkc, hnil]
      · intro j hd hne; exact absurd (desc_leaf t gd c j hnil hd) hne

/-! ### the outer loop of `finish` -/

/-- state of `stmts` when the outer loop reaches index `i` -/
structure TInv (t : Tree) (i : Nat) (s : FState) : Prop where
  len : s.length = t.length
  done : ∀ j, parentOf t j = some 0 → j < i → s[j]? = some (subF t t.length j)
  below : ∀ a j, parentOf t a = some 0 → a < i → Desc t a j → j ≠ a → s[j]? = some none
  fresh : ∀ j, j < t.length → (∀ a, parentOf t a = some 0 → a < i → ¬ Desc t a j) → Fresh t s j

theorem subF_leaf (t : Tree) (f j : Nat) (k : Kind) (hk : kindAt t j = some k) (hnil : childrenOf t j = []) :
    subF t (f + 1) j = some (.mk k .nil) := by
  simp [subF, hk, hnil]

theorem tstep (t : Tree) (gd : Good t) (i : Nat) (s : FState) (hi0 : 0 < i) (hi : i < t.length) (inv : TInv t i s) :
    ∃ s', finishLoop t [i] s = some s' ∧ TInv t (i + 1) s' := by
  obtain ⟨kc, hkc⟩ := gd.kinds i hi0 hi
  obtain ⟨f0, hf0⟩ : ∃ f0, t.length = f0 + 1 := ⟨t.length - 1, by omega⟩
  by_cases htop : parentOf t i = some 0
  · have hfr : ∀ j, Desc t i j → Fresh t s j := by
      intro j hd
      exact inv.fresh j (desc_lt_len t i j hd hi)
        (fun a ha hai hda => desc_disjoint t gd a i 0 ha htop (by omega) j hda hd)
    have hsi : s[i]? = some (some (.mk kc .nil)) := by
      have := hfr i .refl
      unfold Fresh at this; rw [this, hkc]; rfl
    by_cases hch : hasChildren t i = true
    · obtain ⟨s', hp, d⟩ := pspec_all t gd t.length i s hi0 hi (by omega) hfr
      have happ : applyChildren t t.length i s = some s' := by simpa [proc, hch] using hp
      refine ⟨s', finishLoop_apply t i s s' _ hsi hch happ, ?_⟩
      · refine ⟨by rw [d.len, inv.len], ?_, ?_, ?_⟩
        · intro j hj hji
          by_cases h : j = i
          · subst h; exact d.self
          · rw [d.frame j (fun hd => desc_disjoint t gd i j 0 htop hj (Ne.symm h) j hd .refl)]
            exact inv.done j hj (by omega)
        · intro a j ha hai hd hne
          by_cases h : a = i
          · subst h; exact d.below j hd hne
          · rw [d.frame j (fun hd' => desc_disjoint t gd a i 0 ha htop h j hd hd')]
            exact inv.below a j ha (by omega) hd hne
        · intro j hjl hno
          have hni : ¬ Desc t i j := hno i htop (by omega)
          have := inv.fresh j hjl (fun a ha hai => hno a ha (by omega))
          unfold Fresh at this ⊢
          rw [d.frame j hni]; exact this
    · have hch' : hasChildren t i = false := by simpa using hch
      have hnil := childrenOf_of_no_children t i hch'
      refine ⟨s, finishLoop_skip t i s (Or.inr hch'), inv.len, ?_, ?_, ?_⟩
      · intro j hj hji
        by_cases h : j = i
        · subst h
          rw [hsi, hf0, subF_leaf t f0 j kc hkc hnil]
        · exact inv.done j hj (by omega)
      · intro a j ha hai hd hne
        by_cases h : a = i
        · subst h; exact absurd (desc_leaf t gd a j hnil hd) hne
        · exact inv.below a j ha (by omega) hd hne
      · intro j hjl hno; exact inv.fresh j hjl (fun a ha hai => hno a ha (by omega))
  · obtain ⟨a, ha, hd⟩ := top_exists t gd i hi0 hi
    have hai : a ≠ i := fun h => htop (h ▸ ha)
    have hlt : a < i := by have := desc_le t gd a i hd; omega
    have hsi : s[i]? = some none := inv.below a i ha hlt hd (Ne.symm hai)
    refine ⟨s, finishLoop_skip t i s (Or.inl (by rw [hsi]; rfl)), inv.len, ?_, ?_, ?_⟩
    · intro j hj hji
      have : j ≠ i := fun h => htop (h ▸ hj)
      exact inv.done j hj (by omega)
    · intro a' j ha' hai' hd' hne
      have : a' ≠ i := fun h => htop (h ▸ ha')
      exact inv.below a' j ha' (by omega) hd' hne
    · intro j hjl hno; exact inv.fresh j hjl (fun a' ha' hai' => hno a' ha' (by omega))

theorem no_top_zero (t : Tree) (gd : Good t) : parentOf t 0 ≠ some 0 := by
  intro h; have := gd.po 0 0 h; omega

theorem tinit (t : Tree) (gd : Good t) : TInv t 1 (t.map (fun r => r.stmt.map (Css.mk · .nil))) := by
  refine ⟨by simp, ?_, ?_, ?_⟩
  · intro j hj hj1
    have : j = 0 := by omega
    subst this; exact absurd hj (no_top_zero t gd)
  · intro a j ha ha1
    have : a = 0 := by omega
    subst this; exact absurd ha (no_top_zero t gd)
  · intro j hjl _
    have hr : t[j]? = some t[j] := by simp [hjl]
    simp [Fresh, kindAt, List.getElem?_map, hr]

theorem finish_good (t : Tree) (gd : Good t) : finish t = some (nestedTop t) := by
  obtain ⟨s', hf, inv⟩ := finish_of_inv t gd.pos (TInv t) (tinit t gd) (tstep t gd)
  rw [hf]
  congr 1
  have hcell : ∀ j, j < t.length →
      s'[j]? = some (if parentOf t j = some 0 then subF t t.length j else none) := by
    intro j hjl
    obtain ⟨f0, hf0⟩ : ∃ f0, t.length = f0 + 1 := ⟨t.length - 1, by omega⟩
    by_cases hj0 : j = 0
    · subst hj0
      rw [if_neg (no_top_zero t gd)]
      have := inv.fresh 0 hjl (fun a ha _ hd => by
        have := desc_le t gd a 0 hd
        have : a = 0 := by omega
        subst this; exact no_top_zero t gd ha)
      unfold Fresh at this
      rw [this, gd.root]; rfl
    · by_cases htop : parentOf t j = some 0
      · rw [if_pos htop]
        by_cases hji : j < 1 + (t.length - 2)
        · exact inv.done j htop hji
        · obtain ⟨kc, hkc⟩ := gd.kinds j (by omega) hjl
          have hnil : childrenOf t j = [] := by
            cases h : childrenOf t j with
            | nil => rfl
            | cons c cs =>
              exfalso
              have hc : c ∈ childrenOf t j := by simp [h]
              have := gd.cv j c hc
              have := gd.po c j (gd.cp j c hc)
              omega
          have := inv.fresh j hjl (fun a ha hai hd =>
            desc_disjoint t gd a j 0 ha htop (by omega) j hd .refl)
          unfold Fresh at this
          rw [this, hkc, hf0, subF_leaf t f0 j kc hkc hnil]; rfl
      · rw [if_neg htop]
        obtain ⟨a, ha, hd⟩ := top_exists t gd j (by omega) hjl
        have haj : a ≠ j := fun h => htop (h ▸ ha)
        have hlt : a < j := by have := desc_le t gd a j hd; omega
        exact inv.below a j ha (by omega) hd (Ne.symm haj)
  have hs' : s' = (List.range t.length).map
      (fun j => if parentOf t j = some 0 then subF t t.length j else none) :=
    eq_map_range s' _ _ inv.len hcell
  rw [hs', List.filterMap_map]
  unfold nestedTop
  apply filterMap_congr'
  intro j _
  simp [Function.comp]

end Grass.CssTree
