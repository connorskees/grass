import Grass.Scope
/- `find` depends on the heap only through which frames hold the name (`find_congr`); what a write,
   a fresh frame or another name do to the scan follows from that. -/
namespace Grass.Scope

theorem putAt_length (h : Heap) (fid n v) : (putAt h fid n v).length = h.length := by
  unfold putAt; split <;> simp

theorem getAt_putAt (h : Heap) (fid g : Nat) (n m : Name) (v : Val) (hf : fid < h.length) :
    getAt (putAt h fid n v) g m = if g = fid ∧ m = n then some v else getAt h g m := by
  unfold putAt
  have hget : h[fid]? = some h[fid] := List.getElem?_eq_getElem hf
  rw [hget]
  simp only [getAt]
  by_cases hg : g = fid
  · subst hg
    simp only [List.getElem?_set_self hf, Frame.get?, true_and]
    by_cases hm : m = n
    · subst hm; simp
    · have : (n == m) = false := by simp; exact fun e => hm e.symm
      simp [this, hm, hget]
  · have : (h.set fid ((n, v) :: h[fid]))[g]? = h[g]? := by
      rw [List.getElem?_set_ne]; exact fun e => hg e.symm
    simp [this, hg]

theorem hasAt_putAt (h : Heap) (fid g : Nat) (n m : Name) (v : Val) (hf : fid < h.length) :
    hasAt (putAt h fid n v) g m = (hasAt h g m || (g == fid && m == n)) := by
  unfold hasAt
  rw [getAt_putAt h fid g n m v hf]
  by_cases hc : g = fid ∧ m = n
  · simp [hc]
  · simp only [hc, if_false]
    have : (g == fid && m == n) = false := by
      simp only [Bool.and_eq_false_iff, beq_eq_false_iff_ne]; grind
    simp [this]

theorem hasAt_putAt_of_has (h : Heap) (fid g : Nat) (n : Name) (v : Val)
    (hh : hasAt h fid n = true) : hasAt (putAt h fid n v) g n = hasAt h g n := by
  have hf : fid < h.length := by
    unfold hasAt getAt at hh
    by_cases c : fid < h.length
    · exact c
    · simp [List.getElem?_eq_none (Nat.le_of_not_lt c)] at hh
  rw [hasAt_putAt h fid g n n v hf]
  by_cases e : g = fid
  · subst e; simp [hh]
  · simp [e]

theorem getAt_append_nil (h : Heap) (g : Nat) (m : Name) : getAt (h ++ [[]]) g m = getAt h g m := by
  unfold getAt
  by_cases c : g < h.length
  · rw [List.getElem?_append_left c]
  · have c' : h.length ≤ g := Nat.le_of_not_lt c
    rw [List.getElem?_eq_none c']
    by_cases e : g = h.length
    · subst e; simp [Frame.get?]
    · rw [List.getElem?_eq_none (by simp; omega)]

theorem hasAt_append_nil (h : Heap) (g : Nat) (m : Name) : hasAt (h ++ [[]]) g m = hasAt h g m := by
  unfold hasAt; rw [getAt_append_nil]

theorem frameAt_lt : ∀ (vs : List Nat) (i f : Nat), frameAt vs i = some f → i < vs.length
  | [], _, _, h => by simp [frameAt] at h
  | g :: gs, i, f, h => by
    unfold frameAt at h
    split at h
    · simp; omega
    · have := frameAt_lt gs i f h; simp; omega

theorem frameAt_mem : ∀ (vs : List Nat) (i f : Nat), frameAt vs i = some f → f ∈ vs
  | [], _, _, h => by simp [frameAt] at h
  | g :: gs, i, f, h => by
    unfold frameAt at h
    split at h
    · simp at h; simp [h]
    · have := frameAt_mem gs i f h; simp [this]

theorem frameAt_of_lt : ∀ (vs : List Nat) (i : Nat), i < vs.length → ∃ f, frameAt vs i = some f
  | [], _, h => by simp at h
  | g :: gs, i, h => by
    unfold frameAt
    split
    · exact ⟨g, rfl⟩
    · apply frameAt_of_lt gs i; simp at h; omega

theorem frameAt_zero : ∀ (vs : List Nat), frameAt vs 0 = vs.getLast?
  | [] => rfl
  | [g] => by simp [frameAt]
  | g :: g' :: gs => by
    have := frameAt_zero (g' :: gs)
    simp only [frameAt] at this ⊢
    simp [this, List.getLast?_cons_cons]

theorem frameAt_top (g : Nat) (gs : List Nat) : frameAt (g :: gs) gs.length = some g := by
  simp [frameAt]

theorem find_lt : ∀ (h : Heap) (vs : List Nat) (n : Name) (i : Nat), find h vs n = some i → i < vs.length
  | _, [], _, _, e => by simp [find] at e
  | h, g :: gs, n, i, e => by
    unfold find at e
    split at e
    · simp at e; simp; omega
    · have := find_lt h gs n i e; simp; omega

theorem find_getD_le (h : Heap) (vs : List Nat) (n : Name) : (find h vs n).getD 0 ≤ vs.length - 1 := by
  cases hf : find h vs n with
  | none => exact Nat.zero_le _
  | some i => exact Nat.le_sub_one_of_lt (find_lt h vs n i hf)

theorem find_frameAt : ∀ (h : Heap) (vs : List Nat) (n : Name) (i : Nat), find h vs n = some i →
    ∃ fid, frameAt vs i = some fid ∧ hasAt h fid n = true
  | _, [], _, _, e => by simp [find] at e
  | h, g :: gs, n, i, e => by
    unfold find at e
    split at e
    · rename_i hg
      simp at e; subst e
      exact ⟨g, frameAt_top g gs, hg⟩
    · obtain ⟨fid, h1, h2⟩ := find_frameAt h gs n i e
      have := find_lt h gs n i e
      refine ⟨fid, ?_, h2⟩
      unfold frameAt
      have : i ≠ gs.length := by omega
      simp [this, h1]

theorem find_none_hasAt : ∀ (h : Heap) (vs : List Nat) (n : Name), find h vs n = none →
    ∀ f ∈ vs, hasAt h f n = false
  | _, [], _, _, f, hf => by simp at hf
  | h, g :: gs, n, e, f, hf => by
    unfold find at e
    split at e
    · simp at e
    · rename_i hg
      simp at hf
      rcases hf with rfl | hf
      · simpa using hg
      · exact find_none_hasAt h gs n e f hf

theorem find_congr (h h' : Heap) (n : Name) : ∀ (vs : List Nat),
    (∀ f ∈ vs, hasAt h' f n = hasAt h f n) → find h' vs n = find h vs n
  | [], _ => rfl
  | g :: gs, hyp => by
    unfold find
    rw [hyp g (by simp), find_congr h h' n gs (fun f hf => hyp f (by simp [hf]))]

theorem find_putAt_other (h : Heap) (fid : Nat) (n m : Name) (v : Val) (vs : List Nat)
    (hf : fid < h.length) (hm : m ≠ n) : find (putAt h fid n v) vs m = find h vs m := by
  apply find_congr
  intro f _
  rw [hasAt_putAt h fid f n m v hf]
  simp [hm]

theorem find_putAt_has (h : Heap) (fid : Nat) (n : Name) (v : Val) (vs : List Nat)
    (hh : hasAt h fid n = true) : find (putAt h fid n v) vs n = find h vs n := by
  apply find_congr
  intro f _
  exact hasAt_putAt_of_has h fid f n v hh

/-- the innermost frame holding the name is now at the higher of `j` and where it was -/
theorem find_putAt_same (h : Heap) (fid : Nat) (n : Name) (v : Val) (hf : fid < h.length) :
    ∀ (vs : List Nat) (j : Nat), vs.Nodup → frameAt vs j = some fid →
      find (putAt h fid n v) vs n = some (max ((find h vs n).getD 0) j)
  | g :: gs, j, nd, fj => by
    obtain ⟨hg, nd'⟩ := List.nodup_cons.mp nd
    unfold frameAt at fj
    unfold find
    rw [hasAt_putAt h fid g n n v hf]
    split at fj
    next hj =>
      obtain rfl := Option.some.inj fj
      have hle : (if hasAt h g n then some gs.length else find h gs n).getD 0 ≤ gs.length :=
        find_getD_le h (g :: gs) n
      rw [hj, Nat.max_eq_right hle]
      simp
    next =>
      have hne : (g == fid) = false := beq_false_of_ne fun e => hg (e ▸ frameAt_mem gs j fid fj)
      rw [hne, Bool.false_and, Bool.or_false]
      split
      · rw [Option.getD_some, Nat.max_eq_left (Nat.le_of_lt (frameAt_lt gs j fid fj))]
      · exact find_putAt_same h fid n v hf gs j nd' fj

theorem find_append_nil (h : Heap) (vs : List Nat) (n : Name) : find (h ++ [[]]) vs n = find h vs n := by
  apply find_congr
  intro f _
  exact hasAt_append_nil h f n

/-- `enter_new_scope`: the fresh frame is empty, so the scan passes it. -/
theorem find_enter (h : Heap) (vs : List Nat) (n : Name) :
    find (h ++ [[]]) (h.length :: vs) n = find h vs n := by
  have hnew : hasAt (h ++ [[]]) h.length n = false := by
    rw [hasAt_append_nil, hasAt, getAt, List.getElem?_eq_none (Nat.le_refl _)]; rfl
  rw [find, hnew, find_append_nil]; rfl

theorem lookupSpec_ne_panic (h : Heap) (n : Name) : ∀ (vs : List Nat), lookupSpec h vs n ≠ .panic
  | [] => by simp [lookupSpec]
  | f :: fs => by
    unfold lookupSpec
    split
    · simp
    · exact lookupSpec_ne_panic h n fs

theorem lookupSpec_none : ∀ (h : Heap) (vs : List Nat) (n : Name), find h vs n = none →
    lookupSpec h vs n = .undefined
  | _, [], _, _ => rfl
  | h, g :: gs, n, e => by
    unfold find at e
    split at e
    · simp at e
    · rename_i hg
      unfold lookupSpec
      have : getAt h g n = none := by
        unfold hasAt at hg; simpa using hg
      rw [this]
      exact lookupSpec_none h gs n e

theorem lookupSpec_some : ∀ (h : Heap) (vs : List Nat) (n : Name) (i : Nat), find h vs n = some i →
    ∃ fid v, frameAt vs i = some fid ∧ getAt h fid n = some v ∧ lookupSpec h vs n = .val v
  | h, g :: gs, n, i, e => by
    unfold find at e
    unfold lookupSpec
    split at e
    next hg =>
      obtain rfl := Option.some.inj e
      cases hv : getAt h g n with
      | none => simp [hasAt, hv] at hg
      | some v => exact ⟨g, v, frameAt_top g gs, hv, rfl⟩
    next hg =>
      obtain ⟨fid, v, h1, h2, h3⟩ := lookupSpec_some h gs n i e
      have hi : i ≠ gs.length := Nat.ne_of_lt (find_lt h gs n i e)
      have hn : getAt h g n = none := by simpa [hasAt] using hg
      exact ⟨fid, v, by rw [frameAt, if_neg hi, h1], h2, by rw [hn]; exact h3⟩

end Grass.Scope
