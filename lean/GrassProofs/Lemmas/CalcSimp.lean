import GrassProofs.Lemmas.CalcUnits
/-
  `operate` is `foldNums` when both simplified operands are numbers and `unfolded` otherwise
  (`operate_eq`).
-/
namespace Grass.Calc

theorem comparable_symm (a b : CUnit) (ha : a.isNone = false) (hb : b.isNone = false)
    (h : comparable a b = true) : comparable b a = true :=
  comparable_comm a b ▸ h

theorem Res.bind_eq_ok {α β : Type} {r : Res α} {f : α → Res β} {b : β} :
    r.bind f = .ok b ↔ ∃ a, r = .ok a ∧ f a = .ok b := by
  cases r <;> simp [Res.bind]

theorem Res.bind_ne_panic {α β : Type} {r : Res α} {f : α → Res β} (hr : r ≠ .panic)
    (hf : ∀ a, f a ≠ .panic) : r.bind f ≠ .panic := by
  cases r with
  | ok a => exact hf a
  | err e => nofun
  | panic => exact absurd rfl hr

/-- `numAdd` and `numSub` are this function of the operation on the magnitudes. -/
def linNum (op : Rat → Rat → Rat) (a b : Num) : Res Num :=
  if a.u == b.u then .ok ⟨op a.n b.n, a.u⟩
  else if a.u.isNone then .ok ⟨op a.n b.n, b.u⟩
  else if b.u.isNone then .ok ⟨op a.n b.n, a.u⟩
  else match convert b.n b.u a.u with
    | some c => .ok ⟨op a.n c, a.u⟩
    | Option.none => .panic

theorem numAdd_eq (a b : Num) : numAdd a b = linNum (· + ·) a b := rfl
theorem numSub_eq (a b : Num) : numSub a b = linNum (· - ·) a b := rfl

theorem linNum_eq (op : Rat → Rat → Rat) (a b : Num) :
    linNum op a b = match convert b.n b.u a.u with
      | some c => .ok ⟨op a.n c, if a.u.isNone then b.u else a.u⟩
      | Option.none => .panic := by
  unfold linNum
  split
  · next e =>
    have e := beq_iff_eq.mp e
    rw [convert_id _ (.inr e.symm)]
    simp [e]
  · split
    · next e => rw [convert_id _ (.inl (.inr e))]
    · split
      · next e => rw [convert_id _ (.inl (.inl e))]
      · rfl

theorem linNum_ne_panic (op : Rat → Rat → Rat) (a b : Num) (hc : comparable a.u b.u = true) :
    linNum op a b ≠ .panic := by
  have := convert_isSome b.n b.u a.u (Or.inr hc)
  rw [linNum_eq]
  split
  · simp
  · simp_all

theorem linNum_ne_err (op : Rat → Rat → Rat) (a b : Num) (e : Err) : linNum op a b ≠ .err e := by
  rw [linNum_eq]
  split <;> simp

theorem linNum_compatible (op : Rat → Rat → Rat) (a b : Num) (hc : compatible a.u b.u = true) :
    ∃ c, (∀ ρ, c * unitVal ρ a.u = b.n * unitVal ρ b.u) ∧ linNum op a b = .ok ⟨op a.n c, a.u⟩ := by
  have hu : (if a.u.isNone = true then b.u else a.u) = a.u := by
    split
    · next e =>
      rw [isNone_iff] at e
      rw [e] at hc ⊢
      exact compatible_none_right _ (compatible_symm _ _ hc)
    · rfl
  obtain ⟨c, hcv, hv⟩ := convert_compatible b.n (compatible_symm _ _ hc)
  exact ⟨c, hv, by rw [linNum_eq, hu, hcv]⟩

theorem numMul_value (ρ : Env) (hw : ρ.wf) (a b : Num) : (numMul a b).val ρ = a.val ρ * b.val ρ := by
  unfold numMul
  split
  · rename_i e; simp at e; simp only [Num.val, e, unitVal_none]; grind
  · rename_i e
    rw [multiplyUnits_value ρ hw a.u b.u _ (Bool.eq_false_iff.mpr e)]
    simp only [Num.val]; grind

theorem unitVal_pos (ρ : Env) (hw : ρ.wf) (u : CUnit) : 0 < unitVal ρ u := by
  unfold unitVal
  rw [Rat.div_def]; exact Rat.mul_pos (prodSize_pos ρ hw _) (Rat.inv_pos.mpr (prodSize_pos ρ hw _))

theorem unitVal_invert (ρ : Env) (hw : ρ.wf) (u : CUnit) : unitVal ρ u.invert * unitVal ρ u = 1 := by
  have h1 := prodSize_pos ρ hw u.numer
  have h2 := prodSize_pos ρ hw u.denom
  simp only [unitVal, CUnit.invert]; grind

theorem numDiv_value (ρ : Env) (hw : ρ.wf) (a b r : Num) (h : numDiv a b = .ok r) :
    b.val ρ ≠ 0 ∧ r.val ρ = a.val ρ / b.val ρ := by
  have hu := unitVal_pos ρ hw b.u
  unfold numDiv at h
  split at h; · cases h
  rename_i hn
  have hb : b.val ρ ≠ 0 := by
    simp only [Num.val]; intro e
    rcases Rat.mul_eq_zero.mp e with e | e
    · exact hn e
    · grind
  refine ⟨hb, ?_⟩
  split at h
  · rename_i e; simp at e; injection h with h; subst h
    simp only [Num.val, e, unitVal_none] at hb ⊢; grind
  · rename_i e
    injection h with h; subst h
    have hi : b.u.invert.isNone = false := by
      rcases hbu : b.u with ⟨n, d⟩
      rw [hbu] at e
      cases n <;> cases d <;> simp_all [CUnit.invert, CUnit.isNone]
    rw [multiplyUnits_value ρ hw a.u b.u.invert _ hi]
    have := unitVal_invert ρ hw b.u
    simp only [Num.val] at hb ⊢; grind

theorem numDiv_no_panic (a b : Num) : numDiv a b ≠ .panic := by
  unfold numDiv; split <;> (try split) <;> simp

theorem numDiv_nonFinite_iff (a b : Num) : numDiv a b = .err .nonFinite ↔ b.n = 0 := by
  unfold numDiv
  constructor
  · intro h; split at h
    · assumption
    · split at h <;> cases h
  · intro h; simp [h]

theorem simplify_value (ρ : Env) (a : CalcArg) : evalCalc ρ (simplify a) = evalCalc ρ a := by
  unfold simplify
  split
  · rename_i a
    simp only [evalCalc, evalArgs]
    cases evalCalc ρ a <;> simp [evalFn]
  · rfl

theorem eval_operation_congr (ρ : Env) (l r l' r' : CalcArg) (op : Op)
    (hl : evalCalc ρ l' = evalCalc ρ l) (hr : evalCalc ρ r' = evalCalc ρ r) :
    evalCalc ρ (.operation l' op r') = evalCalc ρ (.operation l op r) := by
  simp only [evalCalc, hl, hr]

theorem sign_flip_value (ρ : Env) (l : CalcArg) (op : Op) (n : Rat) (u : CUnit)
    (hop : op = .plus ∨ op = .minus) :
    evalCalc ρ (.operation l op.flip (.number (-n) u)) = evalCalc ρ (.operation l op (.number n u)) := by
  simp only [evalCalc]
  cases evalCalc ρ l with
  | none => rfl
  | some x =>
    rcases hop with e | e <;> subst e <;> simp only [Op.flip, applyOp] <;> congr 1 <;> grind

theorem verifyCompatible_cases (s : Bool) (args : List CalcArg) :
    verifyCompatible s args = .ok () ∨ verifyCompatible s args = .err .complexInCalc ∨
      verifyCompatible s args = .err .incompatible := by
  unfold verifyCompatible
  split
  · exact .inr (.inl rfl)
  · split
    · exact .inr (.inr rfl)
    · exact .inl rfl

theorem verifyCompatible_no_panic (s : Bool) (args : List CalcArg) : verifyCompatible s args ≠ .panic := by
  rcases verifyCompatible_cases s args with h | h | h <;> simp [h]

theorem verifyLength_no_panic (args : List CalcArg) (n : Nat) : verifyLength args n ≠ .panic := by
  unfold verifyLength; split <;> (try split) <;> simp

/-- what `operate` leaves standing: `+`/`-` pass `verify_compatible_numbers` and lose a negative sign -/
def unfolded (cfg : Cfg) (op : Op) (L R : CalcArg) : Res Out :=
  match op with
  | .mul | .div => .ok ⟨.operation L op R, false⟩
  | _ =>
    (verifyCompatible cfg.strict [L, R]).bind fun _ =>
      match R with
      | .number n u =>
        if n < 0 then .ok ⟨.operation L op.flip (.number (-n) u), false⟩
        else .ok ⟨.operation L op R, false⟩
      | _ => .ok ⟨.operation L op R, false⟩

theorem unfolded_cases (cfg : Cfg) (op : Op) (L R : CalcArg) :
    (∃ a, unfolded cfg op L R = .ok ⟨a, false⟩ ∧ ∀ ρ, evalCalc ρ a = evalCalc ρ (.operation L op R)) ∨
      unfolded cfg op L R = .err .complexInCalc ∨ unfolded cfg op L R = .err .incompatible := by
  by_cases hop : op = .plus ∨ op = .minus
  · have hu : unfolded cfg op L R = (verifyCompatible cfg.strict [L, R]).bind fun _ =>
        match R with
        | .number n u =>
          if n < 0 then .ok ⟨.operation L op.flip (.number (-n) u), false⟩
          else .ok ⟨.operation L op R, false⟩
        | _ => .ok ⟨.operation L op R, false⟩ := by
      rcases hop with rfl | rfl <;> rfl
    rw [hu]
    rcases verifyCompatible_cases cfg.strict [L, R] with h | h | h <;> rw [h]
    · left
      simp only [Res.bind]
      split
      · split
        · exact ⟨_, rfl, fun ρ => sign_flip_value ρ L op _ _ hop⟩
        · exact ⟨_, rfl, fun _ => rfl⟩
      · exact ⟨_, rfl, fun _ => rfl⟩
    · exact .inr (.inl rfl)
    · exact .inr (.inr rfl)
  · have hu : unfolded cfg op L R = .ok ⟨.operation L op R, false⟩ := by
      cases op <;> simp at hop <;> rfl
    exact .inl ⟨_, hu, fun _ => rfl⟩

def Op.lin : Op → Rat → Rat → Rat
  | .plus => (· + ·)
  | _ => (· - ·)

/-- when `+`/`-` folds two numbers: inside `min()`/`max()` under `is_comparable_to`, elsewhere under
    `has_compatible_units` (calculation.rs:345,347). -/
def sumGuard (imm : Bool) (a b : CUnit) : Bool := if imm then comparable a b else compatible a b

theorem sumGuard_comparable {imm : Bool} {a b : CUnit} (h : sumGuard imm a b = true) :
    comparable a b = true := by
  cases imm
  · exact compatible_comparable _ _ h
  · exact h

theorem sumGuard_of_compatible (imm : Bool) {a b : CUnit} (h : compatible a b = true) :
    sumGuard imm a b = true := by
  cases imm
  · exact h
  · exact compatible_comparable _ _ h

def foldSum (cfg : Cfg) (imm : Bool) (op : Op) (x y : Num) : Res Out :=
  if sumGuard imm x.u y.u then
    (linNum op.lin x y).bind fun r => .ok ⟨.number r.n r.u, !compatible x.u y.u⟩
  else unfolded cfg op (.number x.n x.u) (.number y.n y.u)

def foldNums (cfg : Cfg) (imm : Bool) (op : Op) (x y : Num) : Res Out :=
  match op with
  | .mul => .ok ⟨.number (numMul x y).n (numMul x y).u, false⟩
  | .div => (numDiv x y).bind fun r => .ok ⟨.number r.n r.u, false⟩
  | _ => foldSum cfg imm op x y

theorem operate_eq (cfg : Cfg) (imm : Bool) (op : Op) (l r : CalcArg) :
    operate cfg imm op l r =
      match simplify l, simplify r with
      | .number a ua, .number b ub => foldNums cfg imm op ⟨a, ua⟩ ⟨b, ub⟩
      | L, R => unfolded cfg op L R := by
  unfold operate
  simp only []
  generalize simplify l = L
  generalize simplify r = R
  cases op <;> cases L <;> cases R <;> rfl

theorem foldSum_compatible (cfg : Cfg) (imm : Bool) (op : Op) (x y : Num) (hc : compatible x.u y.u = true) :
    ∃ c, (∀ ρ, c * unitVal ρ x.u = y.n * unitVal ρ y.u) ∧
      foldSum cfg imm op x y = .ok ⟨.number (op.lin x.n c) x.u, false⟩ := by
  obtain ⟨c, hv, hl⟩ := linNum_compatible op.lin x y hc
  exact ⟨c, hv, by simp [foldSum, sumGuard_of_compatible imm hc, hc, hl, Res.bind]⟩

theorem foldSum_value (ρ : Env) (cfg : Cfg) (imm : Bool) (op : Op) (hop : op = .plus ∨ op = .minus)
    (x y : Num) (o : Out) (h : foldSum cfg imm op x y = .ok o) (hco : o.coerced = false) :
    evalCalc ρ o.arg = applyOp op (x.val ρ) (y.val ρ) := by
  by_cases hc : compatible x.u y.u = true
  · obtain ⟨c, hv, ho⟩ := foldSum_compatible cfg imm op x y hc
    rw [h] at ho
    cases ho
    simp only [evalCalc, Num.val, ← hv ρ]
    rcases hop with rfl | rfl <;> simp only [applyOp, Op.lin] <;> congr 1 <;> grind
  · -- not compatible: a folded result would be marked as coerced
    unfold foldSum at h
    split at h
    · obtain ⟨r, -, ho⟩ := Res.bind_eq_ok.mp h
      cases ho
      simp [hc] at hco
    · rcases unfolded_cases cfg op (.number x.n x.u) (.number y.n y.u) with ⟨a, ha, hv⟩ | ha | ha <;>
        rw [ha] at h <;> cases h
      exact hv ρ

theorem foldSum_ne_panic (cfg : Cfg) (imm : Bool) (op : Op) (x y : Num) : foldSum cfg imm op x y ≠ .panic := by
  unfold foldSum
  split
  · next hg => exact Res.bind_ne_panic (linNum_ne_panic _ _ _ (sumGuard_comparable hg)) fun _ => nofun
  · rcases unfolded_cases cfg op (.number x.n x.u) (.number y.n y.u) with ⟨a, ha, -⟩ | ha | ha <;> simp [ha]

theorem foldSum_ne_nonFinite (cfg : Cfg) (imm : Bool) (op : Op) (x y : Num) :
    foldSum cfg imm op x y ≠ .err .nonFinite := by
  unfold foldSum
  split
  · have := linNum_ne_err op.lin x y
    cases h : linNum op.lin x y <;> simp_all [Res.bind]
  · rcases unfolded_cases cfg op (.number x.n x.u) (.number y.n y.u) with ⟨a, ha, -⟩ | ha | ha <;> simp [ha]

theorem foldNums_value (ρ : Env) (hw : ρ.wf) (cfg : Cfg) (imm : Bool) (op : Op) (x y : Num) (o : Out)
    (h : foldNums cfg imm op x y = .ok o) (hco : o.coerced = false) :
    evalCalc ρ o.arg = applyOp op (x.val ρ) (y.val ρ) := by
  cases op
  · exact foldSum_value ρ cfg imm .plus (.inl rfl) x y o h hco
  · exact foldSum_value ρ cfg imm .minus (.inr rfl) x y o h hco
  · cases h
    simp only [evalCalc, applyOp]
    exact congrArg some (numMul_value ρ hw x y)
  · obtain ⟨r, hr, ho⟩ := Res.bind_eq_ok.mp h
    cases ho
    obtain ⟨hb, hv⟩ := numDiv_value ρ hw x y r hr
    simp only [evalCalc, applyOp, hb, if_false]
    exact congrArg some hv

theorem foldNums_ne_panic (cfg : Cfg) (imm : Bool) (op : Op) (x y : Num) : foldNums cfg imm op x y ≠ .panic := by
  cases op
  · exact foldSum_ne_panic cfg imm .plus x y
  · exact foldSum_ne_panic cfg imm .minus x y
  · simp [foldNums]
  · exact Res.bind_ne_panic (numDiv_no_panic _ _) fun _ => nofun

theorem foldNums_nonFinite_iff (cfg : Cfg) (imm : Bool) (op : Op) (x y : Num) :
    foldNums cfg imm op x y = .err .nonFinite ↔ op = .div ∧ y.n = 0 := by
  cases op
  · simpa [foldNums] using foldSum_ne_nonFinite cfg imm .plus x y
  · simpa [foldNums] using foldSum_ne_nonFinite cfg imm .minus x y
  · simp [foldNums]
  · rw [← numDiv_nonFinite_iff x y]
    cases h : numDiv x y <;> simp [foldNums, h, Res.bind]

theorem operate_no_panic (cfg : Cfg) (imm : Bool) (op : Op) (l r : CalcArg) :
    operate cfg imm op l r ≠ .panic := by
  rw [operate_eq]
  split
  · exact foldNums_ne_panic cfg imm op _ _
  · rcases unfolded_cases cfg op (simplify l) (simplify r) with ⟨a, ha, -⟩ | ha | ha <;> simp [ha]

end Grass.Calc
