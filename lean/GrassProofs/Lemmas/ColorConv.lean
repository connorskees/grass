import GrassProofs.Lemmas.ColorNum
/-
  Helper lemmas for C15: bounds of the hsl/hwb → rgb conversions.
-/
namespace Grass.Color

theorem interp_bounds {m1 m2 t : Rat} (h : m1 ≤ m2) (t0 : 0 ≤ t) (t1 : t ≤ 1) :
    m1 ≤ (m2 - m1) * t + m1 ∧ (m2 - m1) * t + m1 ≤ m2 := by
  have d0 : 0 ≤ m2 - m1 := by grind
  have p0 : 0 ≤ (m2 - m1) * t := Rat.mul_nonneg d0 t0
  have p1 : (m2 - m1) * t ≤ (m2 - m1) * 1 := Rat.mul_le_mul_of_nonneg_left t1 d0
  constructor <;> grind

/-- `hue_to_rgb` returns a value between `m1` and `m2` for every hue grass passes (−1…2). -/
theorem hueToRgb_bounds {m1 m2 hue : Rat} (h : m1 ≤ m2) (h0 : -1 ≤ hue) (h1 : hue ≤ 2) :
    m1 ≤ hueToRgb m1 m2 hue ∧ hueToRgb m1 m2 hue ≤ m2 := by
  unfold hueToRgb
  simp only []
  generalize hu1 : (if hue < 0 then hue + 1 else hue) = u1
  have a1 : 0 ≤ u1 ∧ u1 ≤ 2 := by subst hu1; split <;> grind
  generalize hu2 : (if u1 > 1 then u1 - 1 else u1) = u2
  have a2 : 0 ≤ u2 ∧ u2 ≤ 1 := by subst hu2; split <;> grind
  split
  · have := @interp_bounds m1 m2 (u2 * 6) h (by grind) (by grind)
    grind
  · split
    · grind
    · split
      · have := @interp_bounds m1 m2 ((2/3 - u2) * 6) h (by grind) (by grind)
        grind
      · grind

/-- `m1 ≤ m2` and both in [0,1] for saturation and lightness in [0,1] (from_hsla, color/mod.rs:383). -/
theorem m1m2_bounds {ss sl : Rat} (s0 : 0 ≤ ss) (s1 : ss ≤ 1) (l0 : 0 ≤ sl) (l1 : sl ≤ 1) :
    let m2 := if sl ≤ 1/2 then sl * (ss + 1) else sl * (-ss) + (sl + ss)
    let m1 := sl * 2 + (-m2)
    0 ≤ m1 ∧ m1 ≤ m2 ∧ m2 ≤ 1 := by
  intro m2 m1
  have p := Rat.mul_nonneg l0 s0
  have q : sl * ss ≤ sl * 1 := Rat.mul_le_mul_of_nonneg_left s1 l0
  have r : (1 - sl) * ss ≤ (1 - sl) * 1 := Rat.mul_le_mul_of_nonneg_left s1 (by grind)
  have r0 : 0 ≤ (1 - sl) * ss := Rat.mul_nonneg (by grind) s0
  simp only [m1, m2]
  split <;> grind

theorem hslToRgbExact_bounds {hue sat light : Rat} (h0 : 0 ≤ hue) (h1 : hue < 360) :
    let (r, g, b) := hslToRgbExact hue sat light
    (0 ≤ r ∧ r ≤ 255) ∧ (0 ≤ g ∧ g ≤ 255) ∧ (0 ≤ b ∧ b ≤ 255) := by
  unfold hslToRgbExact
  simp only []
  have ⟨s0, s1⟩ := clamp_bounds sat 0 1 (by decide +kernel)
  have ⟨l0, l1⟩ := clamp_bounds light 0 1 (by decide +kernel)
  have ⟨a, b, c⟩ := m1m2_bounds s0 s1 l0 l1
  try simp only [] at a b c
  have x1 := hueToRgb_bounds (hue := hue / 360 + 1/3) b (by grind) (by grind)
  have x2 := hueToRgb_bounds (hue := hue / 360) b (by grind) (by grind)
  have x3 := hueToRgb_bounds (hue := hue / 360 - 1/3) b (by grind) (by grind)
  refine ⟨⟨?_, ?_⟩, ⟨?_, ?_⟩, ⟨?_, ?_⟩⟩ <;> grind

theorem hwbToRgbExact_bounds {hue white black : Rat} (w0 : 0 ≤ white) (b0 : 0 ≤ black) :
    let (r, g, b) := hwbToRgbExact hue white black
    (0 ≤ r ∧ r ≤ 255) ∧ (0 ≤ g ∧ g ≤ 255) ∧ (0 ≤ b ∧ b ≤ 255) := by
  unfold hwbToRgbExact
  simp only []
  have ⟨h0, h1⟩ := sassMod_bounds hue
  generalize sassMod hue 360 = hm at h0 h1
  generalize hsw : (if white / 100 + black / 100 > 1 then white / 100 / (white / 100 + black / 100) else white / 100) = sw
  generalize hsb : (if white / 100 + black / 100 > 1 then black / 100 / (white / 100 + black / 100) else black / 100) = sb
  have key : 0 ≤ sw ∧ 0 ≤ sb ∧ sw + sb ≤ 1 := by
    subst hsw hsb
    split
    · rename_i hs
      have hpos : 0 < white / 100 + black / 100 := by grind
      have a := div_nonneg' (a := white / 100) (by grind) hpos
      have b := div_nonneg' (a := black / 100) (by grind) hpos
      refine ⟨a, b, ?_⟩
      have : white / 100 + black / 100 ≠ 0 := by grind
      grind
    · grind
  obtain ⟨k0, k1, k2⟩ := key
  have f0 : 0 ≤ 1 - sw - sb := by grind
  have bound : ∀ t : Rat, 0 ≤ t → t ≤ 1 → 0 ≤ (t * (1 - sw - sb) + sw) * 255 ∧ (t * (1 - sw - sb) + sw) * 255 ≤ 255 := by
    intro t t0 t1
    have p0 := Rat.mul_nonneg t0 f0
    have p1 : (1 - sw - sb) * t ≤ (1 - sw - sb) * 1 := Rat.mul_le_mul_of_nonneg_left t1 f0
    constructor <;> grind
  have x1 := hueToRgb_bounds (m1 := 0) (m2 := 1) (hue := hm / 360 + 1/3) (by decide +kernel) (by grind) (by grind)
  have x2 := hueToRgb_bounds (m1 := 0) (m2 := 1) (hue := hm / 360) (by decide +kernel) (by grind) (by grind)
  have x3 := hueToRgb_bounds (m1 := 0) (m2 := 1) (hue := hm / 360 - 1/3) (by decide +kernel) (by grind) (by grind)
  exact ⟨bound _ x1.1 x1.2, bound _ x2.1 x2.2, bound _ x3.1 x3.2⟩

end Grass.Color
