import Grass.Color
/-
  Helper lemmas for C15: facts about the number helpers of Grass/Color.lean
  (floor/ceil, `fuzzyRound`, `roundQ`, `clamp`, `sassMod`, `fuzzyEq`).
-/
namespace Grass.Color

theorem floor_eq {x : Rat} {n : Int} (h1 : (n : Rat) ≤ x) (h2 : x < ((n + 1 : Int) : Rat)) : x.floor = n := by
  have a := Rat.le_floor_iff.mpr h1
  have b := Rat.floor_lt_iff.mpr h2
  omega

theorem isInt_intCast (n : Int) : isInt (n : Rat) = true := by
  simp [isInt, Rat.den_intCast]

theorem isInt_natCast (n : Nat) : isInt (n : Rat) = true := by
  simp [isInt, Rat.den_natCast]

theorem eq_intCast_of_isInt {x : Rat} (h : isInt x = true) : x = ((x.num : Int) : Rat) := by
  apply Rat.ext
  · simp [Rat.num_intCast]
  · simp [isInt] at h; simp [Rat.den_intCast, h]

theorem floor_le_ceil (x : Rat) : x.floor ≤ x.ceil := by
  have h1 := Rat.floor_le x
  have h2 := @Rat.le_ceil x
  have : ((x.floor : Int) : Rat) ≤ ((x.ceil : Int) : Rat) := Rat.le_trans h1 h2
  exact Rat.intCast_le_intCast.mp this

theorem floor_nonneg {x : Rat} (h : 0 ≤ x) : 0 ≤ x.floor := by
  have : ((0 : Int) : Rat) ≤ x := by simpa using h
  exact Rat.le_floor_iff.mpr this

theorem ceil_le_of_le {x : Rat} {n : Int} (h : x ≤ (n : Rat)) : x.ceil ≤ n := Rat.ceil_le_iff.mpr h

theorem fuzzyRoundI_cases (x : Rat) : fuzzyRoundI x = x.floor ∨ fuzzyRoundI x = x.ceil := by
  unfold fuzzyRoundI
  split <;> split <;> simp

theorem fuzzyRoundI_bounds {x : Rat} {n : Int} (h0 : 0 ≤ x) (h1 : x ≤ (n : Rat)) :
    0 ≤ fuzzyRoundI x ∧ fuzzyRoundI x ≤ n := by
  have a := floor_nonneg h0
  have b := ceil_le_of_le h1
  have c := floor_le_ceil x
  rcases fuzzyRoundI_cases x with h | h <;> rw [h] <;> omega

theorem fuzzyRound_isInt (x : Rat) : isInt (fuzzyRound x) = true := isInt_intCast _

theorem roundQ_isInt (x : Rat) : isInt (roundQ x) = true := isInt_intCast _

theorem fuzzyRound_bounds {x : Rat} (h0 : 0 ≤ x) (h1 : x ≤ 255) :
    0 ≤ fuzzyRound x ∧ fuzzyRound x ≤ 255 := by
  have h1' : x ≤ ((255 : Int) : Rat) := by simpa using h1
  have ⟨a, b⟩ := fuzzyRoundI_bounds h0 h1'
  unfold fuzzyRound
  constructor
  · exact Rat.intCast_nonneg.mpr a
  · have : ((fuzzyRoundI x : Int) : Rat) ≤ ((255 : Int) : Rat) := Rat.intCast_le_intCast.mpr b
    simpa using this

theorem chanOk_fuzzyRound {x : Rat} (h0 : 0 ≤ x) (h1 : x ≤ 255) : chanOk (fuzzyRound x) = true := by
  have ⟨a, b⟩ := fuzzyRound_bounds h0 h1
  simp [chanOk, fuzzyRound_isInt, a, b]

theorem clamp_cases (x lo hi : Rat) (h : lo ≤ hi) :
    (clamp x lo hi = x ∧ lo ≤ x ∧ x ≤ hi) ∨ (clamp x lo hi = lo ∧ x ≤ lo) ∨ (clamp x lo hi = hi ∧ hi ≤ x) := by
  unfold clamp
  grind

theorem clamp_bounds (x lo hi : Rat) (h : lo ≤ hi) : lo ≤ clamp x lo hi ∧ clamp x lo hi ≤ hi := by
  rcases clamp_cases x lo hi h with ⟨e, a, b⟩ | ⟨e, _⟩ | ⟨e, _⟩ <;> rw [e] <;> grind

theorem clamp_id {x lo hi : Rat} (h0 : lo ≤ x) (h1 : x ≤ hi) : clamp x lo hi = x := by
  unfold clamp
  grind

theorem chanOk_clamp {x : Rat} (h : isInt x = true) : chanOk (clamp x 0 255) = true := by
  rcases clamp_cases x 0 255 (by decide +kernel) with ⟨e, a, b⟩ | ⟨e, _⟩ | ⟨e, _⟩ <;> rw [e]
  · simp [chanOk, h, a, b]
  · decide +kernel
  · decide +kernel

theorem chanOk_bounds {x : Rat} (h : chanOk x = true) : isInt x = true ∧ 0 ≤ x ∧ x ≤ 255 := by
  simpa [chanOk, and_assoc] using h

theorem clamp_chanOk {x : Rat} (h : chanOk x = true) : clamp x 0 255 = x := by
  have ⟨_, a, b⟩ := chanOk_bounds h
  exact clamp_id a b

theorem clamp_idem (x lo hi : Rat) (h : lo ≤ hi) : clamp (clamp x lo hi) lo hi = clamp x lo hi := by
  have ⟨a, b⟩ := clamp_bounds x lo hi h
  exact clamp_id a b

theorem fmod1_intCast (n : Int) : fmod1 (n : Rat) = 0 := by
  unfold fmod1
  split <;> simp [Rat.floor_intCast, Rat.ceil_intCast] <;> grind

theorem fuzzyEq_self (x : Rat) : fuzzyEq x x = true := by simp [fuzzyEq]

theorem fuzzyRoundI_intCast (n : Int) : fuzzyRoundI (n : Rat) = n := by
  unfold fuzzyRoundI
  rw [fmod1_intCast]
  have h1 : fuzzyLt 0 (1/2) = true := by decide +kernel
  have h2 : fuzzyLe 0 (1/2) = true := by decide +kernel
  simp [h1, h2, Rat.floor_intCast]

theorem fuzzyRound_intCast (n : Int) : fuzzyRound (n : Rat) = (n : Rat) := by
  simp [fuzzyRound, fuzzyRoundI_intCast]

theorem fuzzyRound_of_isInt {x : Rat} (h : isInt x = true) : fuzzyRound x = x := by
  rw [eq_intCast_of_isInt h]; exact fuzzyRound_intCast _

theorem roundI_intCast (n : Int) : roundI (n : Rat) = n := by
  unfold roundI
  split
  · apply floor_eq <;> (try simp) <;> grind
  · have : (-(n:Rat) + 1/2).floor = -n := by
      apply floor_eq <;> (try simp) <;> grind
    rw [this]; omega

theorem roundQ_of_isInt {x : Rat} (h : isInt x = true) : roundQ x = x := by
  rw [eq_intCast_of_isInt h]; simp [roundQ, roundI_intCast]

theorem sassMod_bounds (a : Rat) : 0 ≤ sassMod a 360 ∧ sassMod a 360 < 360 := by
  unfold sassMod
  have h1 := Rat.floor_le (a / 360)
  have h2 := Rat.lt_floor_add_one (a / 360)
  simp at h2
  constructor <;> grind

theorem sassMod_id {a : Rat} (h0 : 0 ≤ a) (h1 : a < 360) : sassMod a 360 = a := by
  unfold sassMod
  have : (a / 360).floor = 0 := by
    apply floor_eq <;> (try simp) <;> grind
  rw [this]; simp; grind

theorem nmin_ind {P : Rat → Prop} {a b : Rat} (ha : P a) (hb : P b) : P (nmin a b) := by
  unfold nmin; split <;> assumption

theorem nmax_ind {P : Rat → Prop} {a b : Rat} (ha : P a) (hb : P b) : P (nmax a b) := by
  unfold nmax; split <;> assumption

theorem nmin_assoc (a b c : Rat) : nmin (nmin a b) c = nmin a (nmin b c) := by
  unfold nmin; grind

theorem nmax_assoc (a b c : Rat) : nmax (nmax a b) c = nmax a (nmax b c) := by
  unfold nmax; grind

theorem nmin_div (a b : Rat) : nmin a b / 255 = nmin (a / 255) (b / 255) := by
  unfold nmin; grind

theorem nmax_div (a b : Rat) : nmax a b / 255 = nmax (a / 255) (b / 255) := by
  unfold nmax; grind

theorem sassMod_idem (a : Rat) : sassMod (sassMod a 360) 360 = sassMod a 360 := by
  have ⟨h0, h1⟩ := sassMod_bounds a
  exact sassMod_id h0 h1

theorem sassMod_add_int (h : Rat) (j : Int) : sassMod (h + 360 * (j : Rat)) 360 = sassMod h 360 := by
  unfold sassMod
  have e : (h + 360 * (j : Rat)) / 360 = h / 360 + (j : Rat) := by grind
  rw [e, Rat.floor_add_intCast]
  simp [Rat.intCast_add]
  grind

/-! ### Quotients by a positive number -/

theorem div_nonneg' {a b : Rat} (ha : 0 ≤ a) (hb : 0 < b) : 0 ≤ a / b := by
  rw [Rat.div_def]
  exact Rat.mul_nonneg ha (Rat.le_of_lt (Rat.inv_pos.mpr hb))

theorem div_le_one' {d q : Rat} (hq : 0 < q) (h : d ≤ q) : d / q ≤ 1 := by
  rw [Rat.div_def]
  have i0 : 0 ≤ q⁻¹ := Rat.le_of_lt (Rat.inv_pos.mpr hq)
  have := Rat.mul_le_mul_of_nonneg_right h i0
  have e : q * q⁻¹ = 1 := by grind
  grind

theorem diff_div_bounds {a b mn mx : Rat} (a0 : mn ≤ a) (a1 : a ≤ mx) (b0 : mn ≤ b) (b1 : b ≤ mx)
    (hlt : mn < mx) : -1 ≤ (a - b) / (mx - mn) ∧ (a - b) / (mx - mn) ≤ 1 := by
  have d0 : 0 < mx - mn := by grind
  have h1 := div_le_one' (d := a - b) d0 (by grind)
  have h2 := div_le_one' (d := b - a) d0 (by grind)
  have e : (b - a) / (mx - mn) = -((a - b) / (mx - mn)) := by grind
  grind

theorem frac_between {w mn mx : Rat} (h0 : mn ≤ w) (h1 : w ≤ mx) (hlt : mn < mx) :
    0 ≤ (w - mn) / (mx - mn) ∧ (w - mn) / (mx - mn) ≤ 1 ∧ w = (mx - mn) * ((w - mn) / (mx - mn)) + mn := by
  have d0 : 0 < mx - mn := by grind
  exact ⟨div_nonneg' (by grind) d0, div_le_one' d0 (by grind), by grind⟩

theorem div_le_self_of_nonpos {a d : Rat} (ha : a ≤ 0) (d0 : 0 < d) (d1 : d ≤ 1) : a / d ≤ a := by
  rw [Rat.div_def]
  have i0 : 0 < d⁻¹ := Rat.inv_pos.mpr d0
  have e : d * d⁻¹ = 1 := by grind
  have i1 : 1 ≤ d⁻¹ := by
    have := Rat.mul_le_mul_of_nonneg_right d1 (Rat.le_of_lt i0)
    grind
  have : (-a) * 1 ≤ (-a) * d⁻¹ := Rat.mul_le_mul_of_nonneg_left i1 (by grind)
  grind

end Grass.Color
