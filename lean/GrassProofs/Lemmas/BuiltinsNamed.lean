import Grass.Builtins
import GrassProofs.Lemmas.Builtins

/-!
For C14.  Key paths reduce to the single-level case through `subMap`; named calls to positional ones
through `callN_fixed`.
-/

namespace Grass.Builtins
open Grass.Value

/-! ## `indexOf` -/

theorem indexOf_some (e : Grass.Value.Sw) (l : VList) (v : Value) (i : Nat) (h : indexOf e l v = some i) :
    (∃ x, l.toList[i]? = some x ∧ veq e x v = true) ∧
      ∀ j, j < i → ∀ y, l.toList[j]? = some y → veq e y v = false := by
  fun_induction indexOf e l v generalizing i with
  | case1 => cases h
  | case2 a t v ha =>
    cases h
    exact ⟨⟨a, rfl, ha⟩, fun j hj => absurd hj (Nat.not_lt_zero j)⟩
  | case3 a t v ha ih =>
    cases ht : indexOf e t v with
    | none => rw [ht] at h; cases h
    | some k =>
      rw [ht] at h
      cases h
      obtain ⟨hx, hlt⟩ := ih k ht
      refine ⟨hx, fun j hj y hy => ?_⟩
      cases j with
      | zero =>
        cases hy
        exact Bool.eq_false_iff.mpr ha
      | succ j => exact hlt j (Nat.lt_of_succ_lt_succ hj) y hy

theorem indexOf_none (e : Grass.Value.Sw) (l : VList) (v : Value) :
    indexOf e l v = none ↔ ∀ y, y ∈ l.toList → veq e y v = false := by
  fun_induction indexOf e l v with
  | case1 => simp [VList.toList]
  | case2 a t v ha => simp [VList.toList, ha]
  | case3 a t v ha ih => simp [VList.toList, ha, ih]

theorem indexF_eq (sw : Sw) (l v : Value) :
    indexF sw [l, v] =
      .ok (match indexOf sw.eq (asList l) v with
        | some i => natV (i + 1)
        | none => .null) := by
  simp only [indexF]
  cases indexOf sw.eq (asList l) v <;> rfl

/-! ## `string.split` -/

theorem joinWith_cons (sep p : List Char) (rest : List (List Char)) (h : rest ≠ []) :
    joinWith sep (p :: rest) = p ++ sep ++ joinWith sep rest := by
  cases rest with
  | nil => exact absurd rfl h
  | cons q t => rfl

theorem splitAux_ne_nil (sep : List Char) (lim skip : Nat) (acc t : List Char) :
    splitAux sep lim skip acc t ≠ [] := by
  fun_induction splitAux sep lim skip acc t <;> simp_all

theorem joinWith_splitAux (sep : List Char) (hsep : sep ≠ []) (lim skip : Nat) (acc t : List Char) :
    joinWith sep (splitAux sep lim skip acc t) = acc.reverse ++ t.drop skip := by
  fun_induction splitAux sep lim skip acc t with
  | case1 lim skip acc => simp [joinWith]
  | case2 lim skip acc c t ih => simpa using ih
  | case3 acc c t ih => simpa using ih
  | case4 lim acc c t hp ih =>
    obtain ⟨t', ht'⟩ := List.isPrefixOf_iff_prefix.mp hp
    cases sep with
    | nil => exact absurd rfl hsep
    | cons s0 sep' =>
      cases ht'
      rw [joinWith_cons _ _ _ (splitAux_ne_nil _ _ _ _ _), ih]
      simp
  | case5 lim acc c t hp ih => simpa using ih

theorem length_splitAux_le (sep : List Char) (lim skip : Nat) (acc t : List Char) :
    (splitAux sep lim skip acc t).length ≤ lim + 1 := by
  fun_induction splitAux sep lim skip acc t <;> simp_all <;> omega

theorem splitEmptyRest_ne_nil (k : Nat) (s : List Char) : splitEmptyRest k s ≠ [] := by
  fun_induction splitEmptyRest k s <;> simp

theorem joinWith_nil_splitEmptyRest (k : Nat) (s : List Char) : joinWith [] (splitEmptyRest k s) = s := by
  fun_induction splitEmptyRest k s with
  | case1 => rfl
  | case2 => rfl
  | case3 k c t ih =>
    rw [joinWith_cons _ _ _ (splitEmptyRest_ne_nil _ _), ih]
    simp

theorem length_splitEmptyRest_le (k : Nat) (s : List Char) : (splitEmptyRest k s).length ≤ k + 1 := by
  fun_induction splitEmptyRest k s <;> simp_all

theorem length_splitEmptyRest_full (k : Nat) (s : List Char) (h : s.length < k) :
    (splitEmptyRest k s).length = s.length + 1 := by
  fun_induction splitEmptyRest k s <;> simp_all

theorem joinWith_splitPieces (sep : List Char) (lim : Nat) (s : List Char) :
    joinWith sep (splitPieces sep lim s) = s := by
  unfold splitPieces
  split
  · rename_i h
    subst h
    cases lim with
    | zero => rfl
    | succ k =>
      simp only [splitEmpty]
      rw [joinWith_cons _ _ _ (splitEmptyRest_ne_nil _ _), joinWith_nil_splitEmptyRest]
      simp
  · rename_i h
    rw [joinWith_splitAux sep h lim 0 [] s]
    simp

theorem length_splitPieces_le (sep : List Char) (lim : Nat) (s : List Char) :
    (splitPieces sep lim s).length ≤ lim + 1 := by
  unfold splitPieces
  split
  · cases lim with
    | zero => simp [splitEmpty]
    | succ k => exact Nat.succ_le_succ (length_splitEmptyRest_le k s)
  · exact length_splitAux_le _ _ _ _ _

theorem length_splitPieces_pos (sep : List Char) (lim : Nat) (s : List Char) :
    1 ≤ (splitPieces sep lim s).length := by
  apply List.length_pos_iff.mpr
  unfold splitPieces
  split
  · cases lim <;> simp [splitEmpty]
  · exact splitAux_ne_nil _ _ _ _ _

theorem strsOf_map (ps : List (List Char)) : strsOf (ps.map (fun p => Value.str p true)) = some ps := by
  induction ps with
  | nil => rfl
  | cons p t ih => simp [strsOf, ih]

theorem limitArg_nat (k : Nat) (h : 1 ≤ k) : limitArg (some (numI (k : Int) .none)) = .ok (some k) := by
  have : ¬ ((k : Int) < 1) := by omega
  simp [limitArg, numI, asInt_intCast, this]

theorem lawSplitJoin_splitPieces (s sep : List Char) (q q' : Bool) (lim : Option Nat) (n : Nat)
    (h : ∀ k, lim = some k → n = k) :
    lawSplitJoin (.str s q) (.str sep q') lim
      (mkList ((splitPieces sep n s).map (fun p => Value.str p true)) .comma true) = true := by
  simp only [lawSplitJoin, strOf, mkList, toList_ofList, strsOf_map, joinWith_splitPieces, decide_true, Bool.true_and,
    length_splitPieces_pos]
  cases lim with
  | none => rfl
  | some k =>
    rw [← h k rfl]
    simpa using length_splitPieces_le sep n s

theorem splitEmptyRest_all (k : Nat) (s : List Char) (h : s.length ≤ k) :
    splitEmptyRest k s = s.map (fun c => [c]) ++ [[]] := by
  fun_induction splitEmptyRest k s <;> simp_all

/-! ## key paths -/

/-- the nested map a key path leads to (`none`: a key is missing or its value is not a map) -/
def subMap (sw : Sw) : List Value → Value → Option VPairs
  | [], v => tryMap v
  | k :: ks, v =>
    match tryMap v with
    | none => none
    | some m =>
      match get sw.eq m k with
      | none => none
      | some v' => subMap sw ks v'

theorem getPath_null (sw : Sw) (ks : List Value) (h : ks ≠ []) : getPath sw ks .null = .null := by
  cases ks with
  | nil => exact absurd rfl h
  | cons k t => rfl

theorem getPath_snoc (sw : Sw) (ks : List Value) (k v : Value) :
    getPath sw (ks ++ [k]) v =
      match subMap sw ks v with
      | some m => getD sw m k
      | none => .null := by
  fun_induction subMap sw ks v with
  | case1 v => simp only [List.nil_append, getPath]; cases tryMap v <;> rfl
  | case2 k1 ks v hv => simp only [List.cons_append, getPath, hv]
  | case3 k1 ks v m hv hg =>
    simp only [List.cons_append, getPath, hv, getD, hg, Option.getD_none,
      getPath_null sw _ (List.append_ne_nil_of_right_ne_nil _ (List.cons_ne_nil _ _))]
  | case4 k1 ks v m hv v' hg ih => simp only [List.cons_append, getPath, hv, getD, hg, Option.getD_some, ih]

theorem hasPath_snoc (sw : Sw) (ks : List Value) (k v : Value) :
    hasPath sw (ks ++ [k]) v =
      match subMap sw ks v with
      | some m => (get sw.eq m k).isSome
      | none => false := by
  fun_induction subMap sw ks v with
  | case1 v =>
    simp only [List.nil_append, hasPath]
    cases tryMap v with
    | none => rfl
    | some m => cases hg : get sw.eq m k <;> simp [hg]
  | case2 k1 ks v hv => simp only [List.cons_append, hasPath, hv]
  | case3 k1 ks v m hv hg => simp only [List.cons_append, hasPath, hv, hg]
  | case4 k1 ks v m hv v' hg ih => simp only [List.cons_append, hasPath, hv, hg, ih]

/-! ## named arguments -/

theorem slotsOf_nil_pos (nm : Named) (ps : List String) : slotsOf nm ps [] = ps.map nm.get := by
  induction ps with
  | nil => rfl
  | cons p ps ih => simp [slotsOf, ih]

theorem slotsOf_prefix (nm : Named) (pre rest : List String) (pos : List Value)
    (hlen : pre.length = pos.length) (hpre : ∀ p, p ∈ pre → nm.get p = none) :
    slotsOf nm (pre ++ rest) pos = pos.map some ++ rest.map nm.get := by
  induction pre generalizing pos with
  | nil =>
    have : pos = [] := List.eq_nil_of_length_eq_zero hlen.symm
    subst this
    simp [slotsOf_nil_pos]
  | cons p pre ih =>
    cases pos with
    | nil => simp at hlen
    | cons v pos =>
      simp only [List.cons_append, slotsOf, hpre p (by simp), List.map_cons]
      rw [ih pos (by simpa using hlen) (fun q hq => hpre q (List.mem_cons_of_mem _ hq))]

theorem fillSlots_none (xs ds : List (Option Value)) (h : ∀ x, x ∈ xs → x = none) :
    fillSlots xs ds = [] := by
  fun_cases fillSlots xs ds with
  | case1 => rfl
  | case2 v rest ds => cases h _ List.mem_cons_self
  | case3 rest d ds hany =>
    obtain ⟨y, hy, hs⟩ := List.any_eq_true.mp hany
    rw [h y (List.mem_cons_of_mem _ hy)] at hs
    cases hs
  | case4 => rfl
  | case5 => rfl

theorem callN_eq_callCode (sw : Sw) (f : String) (pos : List Value) (nm : Named) (hne : nm.isEmpty = false)
    (hmm : (f == "map-merge") = false) (hms : (f == "map-set") = false)
    (hstrict : sw.namedStrict = true → namesKnown f nm = true ∧ namesFresh f pos.length nm = true) :
    callN sw f pos nm = callCode sw f pos nm := by
  unfold callN
  cases hs : sw.namedStrict with
  | false => simp [hne]
  | true => simp [hne, hmm, hms, hstrict hs]

theorem callCode_fixed (sw : Sw) (f : String) (sg : Sig) (mx : Nat) (pos : List Value) (nm : Named)
    (hsig : sigOf f = some sg) (hmax : sg.max = some mx)
    (hf : (f == "slash") = false ∧ (f == "map-merge") = false ∧ (f == "map-set") = false)
    (hlen : pos.length + nm.length ≤ mx) :
    callCode sw f pos nm = call sw f (fillSlots (slotsOf nm sg.params pos) sg.defaults) := by
  simp [callCode, hf, hsig, hmax, Nat.not_lt.mpr hlen]

theorem fillSlots_some_append (vs : List Value) (rest ds : List (Option Value)) :
    fillSlots (vs.map some ++ rest) ds = vs ++ fillSlots rest (ds.drop vs.length) := by
  induction vs generalizing ds with
  | nil => rfl
  | cons v vs ih => simp [fillSlots, ih]

theorem fillSlots_defaults (gs : List Value) (rest ds : List (Option Value)) (h : rest.any Option.isSome = true) :
    fillSlots (List.replicate gs.length none ++ rest) (gs.map some ++ ds) = gs ++ fillSlots rest ds := by
  induction gs with
  | nil => rfl
  | cons g gs ih => simp [List.replicate_succ, fillSlots, h, ih]

/-- parameters `pre ++ gap ++ mid ++ post`: `pre` given by position, `mid` by name (`vals` in parameter
    order), `gap` absent with defaults `gapds`, `post` absent -/
theorem callN_fixed (sw : Sw) (f : String) (sg : Sig) (pre gap mid post : List String)
    (pos gapds vals : List Value) (ds : List (Option Value)) (nm : Named)
    (hsig : sigOf f = some sg) (hmax : sg.max = some sg.params.length)
    (hpar : sg.params = pre ++ (gap ++ (mid ++ post)))
    (hdef : sg.defaults.drop pos.length = gapds.map some ++ ds)
    (hf : (f == "slash") = false ∧ (f == "map-merge") = false ∧ (f == "map-set") = false)
    (hpos : pre.length = pos.length) (hgap : gap.length = gapds.length)
    (hnm : nm.length = mid.length) (hne : nm.isEmpty = false)
    (hpre : ∀ p, p ∈ pre → nm.get p = none) (hgapn : ∀ p, p ∈ gap → nm.get p = none)
    (hmid : mid.map nm.get = vals.map some) (hpost : ∀ p, p ∈ post → nm.get p = none)
    (hstrict : sw.namedStrict = true → namesKnown f nm = true ∧ namesFresh f pos.length nm = true) :
    callN sw f pos nm = call sw f (pos ++ (gapds ++ vals)) := by
  have hgapm : gap.map nm.get = List.replicate gapds.length none :=
    List.eq_replicate_iff.mpr ⟨by rw [List.length_map, hgap], fun x hx => by
      obtain ⟨p, hp, rfl⟩ := List.mem_map.mp hx
      exact hgapn p hp⟩
  have hvals : (vals.map some ++ post.map nm.get).any Option.isSome = true := by
    have hl : vals.length = nm.length := by
      have := congrArg List.length hmid
      simpa [hnm] using this.symm
    cases vals with
    | nil =>
      rw [List.eq_nil_of_length_eq_zero hl.symm] at hne
      cases hne
    | cons v vals => rfl
  have hslots : fillSlots (slotsOf nm sg.params pos) sg.defaults = pos ++ (gapds ++ vals) := by
    rw [hpar, slotsOf_prefix nm pre _ pos hpos hpre, List.map_append, List.map_append, hmid, hgapm,
      fillSlots_some_append, hdef, fillSlots_defaults _ _ _ hvals, fillSlots_some_append, fillSlots_none,
      List.append_nil]
    intro x hx
    obtain ⟨p, hp, rfl⟩ := List.mem_map.mp hx
    exact hpost p hp
  have hlen : pos.length + nm.length ≤ sg.params.length := by
    rw [hpar, hnm, ← hpos]
    simp only [List.length_append]
    omega
  rw [callN_eq_callCode sw f pos nm hne hf.2.1 hf.2.2 hstrict, callCode_fixed sw f sg _ pos nm hsig hmax hf hlen,
    hslots]

theorem sigOf_join : sigOf "join" =
    some ⟨["list1", "list2", "separator", "bracketed"], some 4, [none, none, some autoV, some autoV]⟩ := by
  simp [sigOf, sigTable, List.lookup]

/-! ## `map.deep-remove` along a path -/

theorem subMap_cons_not_map (sw : Sw) (k : Value) (ks : List Value) (v : Value) (h : tryMap v = none) :
    subMap sw (k :: ks) v = none := by
  simp [subMap, h]

theorem deepRemoveF_path (sw : Sw) (m : VPairs) (ks : List Value) (hne : ks ≠ []) (last : Value) :
    deepRemoveF sw (.map m :: (ks ++ [last])) = .ok (.map (modNested sw last ks m)) := by
  have hl : (ks ++ [last]).getLast?.getD .null = last := by simp
  have hd : (ks ++ [last]).dropLast = ks := by simp
  cases ks with
  | nil => exact absurd rfl hne
  | cons k1 ks =>
    simp only [List.cons_append] at hl hd
    simp only [List.cons_append, deepRemoveF, assertMap, tryMap, hl, hd]

theorem dropKey_get (sw : Sw) (h : sw.eq.removeEq = true) (last v : Value) (m' : VPairs)
    (hm : tryMap (dropKey sw last v) = some m') : get sw.eq m' last = none := by
  unfold dropKey at hm
  cases hv : tryMap v with
  | none =>
    rw [hv] at hm
    exact absurd (hv.symm.trans hm) (by simp)
  | some nm =>
    simp only [hv] at hm
    by_cases hc : contains sw.eq nm last = true
    · rw [if_pos hc] at hm
      cases hm
      exact get_remove_self sw.eq h nm last
    · rw [if_neg hc, hv] at hm
      cases hm
      rw [contains_eq_isSome] at hc
      simpa using hc

theorem subMap_modNested (sw : Sw) (h : sw.eq.removeEq = true) (last : Value) (ks : List Value) (hne : ks ≠ [])
    (hr : ∀ x, x ∈ ks → veq sw.eq x x = true) (m m' : VPairs)
    (hs : subMap sw ks (.map (modNested sw last ks m)) = some m') : get sw.eq m' last = none := by
  fun_induction modNested sw last ks m with
  | case1 m => exact absurd rfl hne
  | case2 key m =>
    simp only [subMap, tryMap_map, get_insert_self sw.eq m key _ (hr key List.mem_cons_self)] at hs
    exact dropKey_get sw h last _ m' hs
  | case3 key rest m hrest hb =>
    cases hg : get sw.eq m key with
    | none => simp [subMap, tryMap_map, hg] at hs
    | some v' =>
      rw [hg] at hb
      cases rest with
      | nil => exact absurd rfl hrest
      | cons k2 rest' =>
        have hv : tryMap v' = none := hb
        simp [subMap, tryMap_map, hg, hv] at hs
  | case4 key rest m hrest nm hb ih =>
    simp only [subMap, tryMap_map, get_insert_self sw.eq m key _ (hr key List.mem_cons_self)] at hs
    exact ih (fun h => hrest (h ▸ rfl)) (fun x hx => hr x (List.mem_cons_of_mem _ hx)) hs

end Grass.Builtins
