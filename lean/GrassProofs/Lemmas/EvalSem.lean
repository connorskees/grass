import Grass.Eval
import GrassProofs.Lemmas.EvalScope
/- Unfolding lemmas: the monad, and what a block, `$n: e`, a variable, `@return` and a call /
   `@include` / `@content` without parameters do to the environment. -/
namespace Grass.Eval

/-- the semi-global flag survives only through control flow (`semi = true`), never through a style
    rule, a mixin, a function or a content block -/
theorem inScope_eq {α : Type} (ctx : Ctx) (semi : Bool) (body : Ctx → M α) (st : St) :
    inScope ctx semi body st =
      body { ctx with env := st.heap.size :: ctx.env, semi := semi && ctx.semi }
        { st with heap := st.heap.push {} } := rfl

theorem var_stmt_eq (r : Rec) (ctx : Ctx) (n : String) (e : Expr) (glob : Bool) (st : St) :
    stmtF r ctx (.var n e glob false) st =
      match r.expr ctx e st with
      | .ok v st1 =>
        match assignTarget st1.heap ctx.env n glob ctx.semi with
        | some fid => .ok none { st1 with heap := setV st1.heap fid n v }
        | none => .err .unsupported st1
      | .err er st1 => .err er st1
      | .oof => .oof := by
  unfold stmtF
  show M.bind getSt _ st = _
  simp only [M.bind, getSt, Bool.false_and, Bool.false_eq_true, if_false]
  show M.bind (r.expr ctx e) _ st = _
  unfold M.bind
  cases r.expr ctx e st with
  | ok v st1 =>
    simp only []
    show M.bind getSt _ st1 = _
    simp only [M.bind, getSt]
    cases assignTarget st1.heap ctx.env n glob ctx.semi with
    | some fid => rfl
    | none => rfl
  | err er st1 => rfl
  | oof => rfl

theorem assignTarget_global (h : Array Frame) (env : List Nat) (n : String) (semi : Bool) :
    assignTarget h env n true semi = env.getLast? := by
  simp [assignTarget]

theorem bind_ok {α β : Type} (x : M α) (f : α → M β) (st st1 : St) (a : α) (h : x st = .ok a st1) :
    (x >>= f) st = f a st1 := by
  show M.bind x f st = _
  unfold M.bind; rw [h]

theorem bind_err {α β : Type} (x : M α) (f : α → M β) (st st1 : St) (e : Err) (h : x st = .err e st1) :
    (x >>= f) st = .err e st1 := by
  show M.bind x f st = _
  unfold M.bind; rw [h]

theorem bind_oof {α β : Type} (x : M α) (f : α → M β) (st : St) (h : x st = .oof) :
    (x >>= f) st = .oof := by
  show M.bind x f st = _
  unfold M.bind; rw [h]

theorem evalArgs_nil (r : Rec) (ctx : Ctx) (st : St) :
    evalArgs r ctx ⟨[], [], none⟩ st = .ok { pos := [], named := [] } st := rfl

theorem invoke_nil {α : Type} (r : Rec) (dev : Dev) (mk : Nat → Ctx) (body : Ctx → M α) (st : St) :
    invoke r dev mk ⟨[], none⟩ { pos := [], named := [] } body st =
      (body (mk st.heap.size) >>= fun out => pure out) { st with heap := st.heap.push {} } := rfl

theorem tick_ok (st : St) (hw : st.work ≠ 0) : tick st = .ok () { st with work := st.work - 1 } := by
  unfold tick
  have : (st.work == 0) = false := by simpa using hw
  simp [this]

theorem forEachM_cons {α : Type} (f : α → M (Option Value)) (a : α) (as : List α) (st : St) :
    forEachM f (a :: as) st = match f a st with
      | .ok (some v) s => .ok (some v) s
      | .ok none s => forEachM f as s
      | .err e s => .err e s
      | .oof => .oof := by
  show M.bind (f a) _ st = _
  unfold M.bind
  cases f a st with
  | ok r s => cases r <;> rfl
  | err e s => rfl
  | oof => rfl

theorem forEachM_singleton {α : Type} (f : α → M (Option Value)) (a : α) (st : St) :
    forEachM f [a] st = f a st := by
  show M.bind (f a) _ st = _
  unfold M.bind
  cases f a st with
  | ok r st' => cases r <;> rfl
  | err e st' => rfl
  | oof => rfl

theorem block_singleton (n : Nat) (ctx : Ctx) (s : Stmt) (st : St) (hw : st.work ≠ 0) :
    (run (n + 1)).block ctx [s] st = stmtF (run n) ctx s { st with work := st.work - 1 } :=
  (forEachM_singleton (fun s => do tick; stmtF (run n) ctx s) s st).trans (bind_ok tick _ _ _ _ (tick_ok st hw))

theorem var_eq (r : Rec) (ctx : Ctx) (x : String) (st : St) :
    exprF r ctx (.var x) st = match lookupVar st.heap ctx.env x with
      | some v => .ok v st
      | none => .err .undefinedVariable st := by
  unfold exprF
  show M.bind getSt _ st = _
  simp only [M.bind, getSt]
  cases lookupVar st.heap ctx.env x <;> rfl

theorem ret_eq (r : Rec) (ctx : Ctx) (e : Expr) (st : St) (hf : ctx.inFn = true) :
    stmtF r ctx (.ret e) st = match r.expr ctx e st with
      | .ok v s => .ok (some v) s
      | .err er s => .err er s
      | .oof => .oof := by
  unfold stmtF
  simp only [hf, Bool.not_true, Bool.false_eq_true, if_false]
  show M.bind (r.expr ctx e) _ st = _
  unfold M.bind
  cases r.expr ctx e st <;> rfl

theorem call_nil_eq (r : Rec) (ctx : Ctx) (f : String) (body : List Stmt) (denv : List Nat) (st : St)
    (hfn : lookupFn st.heap ctx.env f = some { params := ⟨[], none⟩, body := body, env := denv }) :
    exprF r ctx (.call f [] [] none) st =
      match r.block { dev := ctx.dev, env := st.heap.size :: denv, semi := false, content := none,
                      sel := ctx.sel, inFn := true } body { st with heap := st.heap.push {} } with
      | .ok (some v) s => .ok v s
      | .ok none s => .err .noReturn s
      | .err e s => .err e s
      | .oof => .oof := by
  unfold exprF
  show (evalArgs r ctx ⟨[], [], none⟩ >>= _) st = _
  rw [bind_ok _ _ _ _ _ (evalArgs_nil r ctx st)]
  show (getSt >>= _) st = _
  rw [bind_ok getSt _ st st st rfl]
  simp only [hfn]
  rw [invoke_nil]
  show M.bind (M.bind (r.block _ body) _) _ _ = _
  unfold M.bind
  cases r.block _ body { st with heap := st.heap.push {} } with
  | ok o s => cases o <;> rfl
  | err e s => rfl
  | oof => rfl

/-- the body runs in a child frame of the chain the mixin was defined in; the including site
    contributes the style rule and the content block -/
theorem incl_nil_eq (r : Rec) (ctx : Ctx) (m : String) (mb : List Stmt) (denv : List Nat)
    (content : Option (Params × List Stmt)) (st : St)
    (hm : lookupMixin st.heap ctx.env m = some { params := ⟨[], none⟩, body := mb, env := denv })
    (hc : (content.isSome && !blockHasContent mb) = false) :
    stmtF r ctx (.incl m ⟨[], [], none⟩ content) st =
      match r.block { dev := ctx.dev, env := st.heap.size :: denv, semi := false,
                      content := content.map fun (ps, body) => Content.mk ps body ctx.env ctx.content,
                      sel := ctx.sel, inFn := false } mb { st with heap := st.heap.push {} } with
      | .ok _ s => .ok none s
      | .err e s => .err e s
      | .oof => .oof := by
  unfold stmtF
  show (getSt >>= _) st = _
  rw [bind_ok getSt _ st st st rfl]
  simp only [hm, hc, Bool.false_eq_true, if_false]
  show (evalArgs r ctx ⟨[], [], none⟩ >>= _) st = _
  rw [bind_ok _ _ _ _ _ (evalArgs_nil r ctx st), invoke_nil]
  show M.bind (M.bind (r.block _ mb) _) _ _ = _
  unfold M.bind
  cases r.block _ mb { st with heap := st.heap.push {} } <;> rfl

theorem content_nil_eq (r : Rec) (ctx : Ctx) (body : List Stmt) (env : List Nat) (outer : Option Content) (st : St)
    (hc : ctx.content = some (.mk ⟨[], none⟩ body env outer)) :
    stmtF r ctx (.content ⟨[], [], none⟩) st =
      match r.block { dev := ctx.dev, env := st.heap.size :: env, semi := false, content := outer,
                      sel := ctx.sel, inFn := false } body { st with heap := st.heap.push {} } with
      | .ok _ s => .ok none s
      | .err e s => .err e s
      | .oof => .oof := by
  unfold stmtF
  simp only [hc]
  show (evalArgs r ctx ⟨[], [], none⟩ >>= _) st = _
  rw [bind_ok _ _ _ _ _ (evalArgs_nil r ctx st), invoke_nil]
  show M.bind (M.bind (r.block _ body) _) _ _ = _
  unfold M.bind
  cases r.block _ body { st with heap := st.heap.push {} } <;> rfl

/-- the fresh frames a call pushes hide nothing (one frame, and two) -/
theorem lookupVar_fresh_child (h : Array Frame) (env : List Nat) (x : String) (hv : ∀ g ∈ env, g < h.size) :
    lookupVar (h.push {}) (h.size :: env) x = lookupVar h env x ∧
    lookupVar ((h.push {}).push {}) ((h.size + 1) :: env) x = lookupVar h env x := by
  constructor
  · rw [lookupVar_cons, getV_push]; simp only [if_true]
    exact lookupVar_push h env x hv
  · have hv' : ∀ g ∈ env, g < (h.push ({} : Frame)).size := fun g hg => by simp; have := hv g hg; omega
    have hs : h.size + 1 = (h.push ({} : Frame)).size := by simp
    rw [hs, lookupVar_cons, getV_push]; simp only [if_true]
    rw [lookupVar_push _ env x hv', lookupVar_push h env x hv]

theorem intOf_int (a : Int) (st : St) : intOf (.num (a : Rat)) st = .ok a st := by
  unfold intOf
  simp
  rfl

end Grass.Eval
