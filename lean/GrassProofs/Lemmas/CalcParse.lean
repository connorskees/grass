import Grass.Calc
/-
  Fuel of the reader `pSum`: more is harmless and `parseFuel ts = 4·|ts| + 3` suffices whenever any
  does; hence the big-step rules "for some fuel" (`PAtom` … `PArgs`).
-/
namespace Grass.Calc

abbrev PR := Option (CalcArg × List Tok)

theorem pAtom_succ (f : Nat) (ts : List Tok) : pAtom (f + 1) ts =
    match ts with
    | .num n u :: ts => some (.number n u, ts)
    | .atom id :: ts => some (.str id false, ts)
    | .lp :: ts =>
      match pSum f ts with
      | some (e, .rp :: ts') => some (e, ts')
      | _ => Option.none
    | .fn name :: ts =>
      match pArgs f ts with
      | some (as, .rp :: ts') => some (.calculation name as, ts')
      | _ => Option.none
    | _ => Option.none := rfl

theorem pProdLoop_succ (f : Nat) (acc : CalcArg) (ts : List Tok) : pProdLoop (f + 1) acc ts =
    match ts with
    | .op .mul :: ts' =>
      match pAtom f ts' with
      | some (b, ts'') => pProdLoop f (.operation acc .mul b) ts''
      | Option.none => Option.none
    | .op .div :: ts' =>
      match pAtom f ts' with
      | some (b, ts'') => pProdLoop f (.operation acc .div b) ts''
      | Option.none => Option.none
    | _ => some (acc, ts) := rfl

theorem pProd_succ (f : Nat) (ts : List Tok) : pProd (f + 1) ts =
    match pAtom f ts with
    | some (a, ts') => pProdLoop f a ts'
    | Option.none => Option.none := rfl

theorem pSumLoop_succ (f : Nat) (acc : CalcArg) (ts : List Tok) : pSumLoop (f + 1) acc ts =
    match ts with
    | .op .plus :: ts' =>
      match pProd f ts' with
      | some (b, ts'') => pSumLoop f (.operation acc .plus b) ts''
      | Option.none => Option.none
    | .op .minus :: ts' =>
      match pProd f ts' with
      | some (b, ts'') => pSumLoop f (.operation acc .minus b) ts''
      | Option.none => Option.none
    | _ => some (acc, ts) := rfl

theorem pSum_succ (f : Nat) (ts : List Tok) : pSum (f + 1) ts =
    match pProd f ts with
    | some (a, ts') => pSumLoop f a ts'
    | Option.none => Option.none := rfl

theorem pArgs_succ (f : Nat) (ts : List Tok) : pArgs (f + 1) ts =
    match pSum f ts with
    | some (a, .comma :: ts') =>
      match pArgs f ts' with
      | some (as, ts'') => some (.cons a as, ts'')
      | Option.none => Option.none
    | some (a, ts') => some (.cons a .nil, ts')
    | Option.none => Option.none := rfl

/-- every successful call consumes input (loops: does not produce input) -/
def Cons (f : Nat) : Prop :=
  (∀ ts a ts', pAtom f ts = some (a, ts') → ts'.length < ts.length) ∧
  (∀ acc ts a ts', pProdLoop f acc ts = some (a, ts') → ts'.length ≤ ts.length) ∧
  (∀ ts a ts', pProd f ts = some (a, ts') → ts'.length < ts.length) ∧
  (∀ acc ts a ts', pSumLoop f acc ts = some (a, ts') → ts'.length ≤ ts.length) ∧
  (∀ ts a ts', pSum f ts = some (a, ts') → ts'.length < ts.length) ∧
  (∀ ts as ts', pArgs f ts = some (as, ts') → ts'.length < ts.length)

theorem cons_all : ∀ f, Cons f := by
  intro f
  induction f with
  | zero => refine ⟨?_, ?_, ?_, ?_, ?_, ?_⟩ <;> intros <;> rename_i h <;> cases h
  | succ f ih =>
    obtain ⟨hA, hPL, hP, hSL, hS, hAr⟩ := ih
    refine ⟨?_, ?_, ?_, ?_, ?_, ?_⟩
    · intro ts a ts' h
      rw [pAtom_succ] at h
      split at h
      · simp at h; obtain ⟨_, e⟩ := h; subst e; simp
      · simp at h; obtain ⟨_, e⟩ := h; subst e; simp
      · split at h
        · rename_i e ts2 heq
          simp at h; obtain ⟨_, e'⟩ := h; subst e'
          have := hS _ _ _ heq
          simp only [List.length_cons] at this ⊢; omega
        · cases h
      · split at h
        · rename_i as ts2 heq
          simp at h; obtain ⟨_, e'⟩ := h; subst e'
          have := hAr _ _ _ heq
          simp only [List.length_cons] at this ⊢; omega
        · cases h
      · cases h
    · intro acc ts a ts' h
      rw [pProdLoop_succ] at h
      split at h
      · split at h
        · rename_i b ts2 heq
          have h1 := hA _ _ _ heq
          have h2 := hPL _ _ _ _ h
          simp only [List.length_cons]; omega
        · cases h
      · split at h
        · rename_i b ts2 heq
          have h1 := hA _ _ _ heq
          have h2 := hPL _ _ _ _ h
          simp only [List.length_cons]; omega
        · cases h
      · simp at h; obtain ⟨_, e⟩ := h; subst e; exact Nat.le_refl _
    · intro ts a ts' h
      rw [pProd_succ] at h
      split at h
      · rename_i b ts2 heq
        have h1 := hA _ _ _ heq
        have h2 := hPL _ _ _ _ h
        omega
      · cases h
    · intro acc ts a ts' h
      rw [pSumLoop_succ] at h
      split at h
      · split at h
        · rename_i b ts2 heq
          have h1 := hP _ _ _ heq
          have h2 := hSL _ _ _ _ h
          simp only [List.length_cons]; omega
        · cases h
      · split at h
        · rename_i b ts2 heq
          have h1 := hP _ _ _ heq
          have h2 := hSL _ _ _ _ h
          simp only [List.length_cons]; omega
        · cases h
      · simp at h; obtain ⟨_, e⟩ := h; subst e; exact Nat.le_refl _
    · intro ts a ts' h
      rw [pSum_succ] at h
      split at h
      · rename_i b ts2 heq
        have h1 := hP _ _ _ heq
        have h2 := hSL _ _ _ _ h
        omega
      · cases h
    · intro ts as ts' h
      rw [pArgs_succ] at h
      split at h
      · rename_i a ts2 heq
        split at h
        · rename_i as2 ts3 heq2
          simp at h; obtain ⟨_, e⟩ := h; subst e
          have h1 := hS _ _ _ heq
          have h2 := hAr _ _ _ heq2
          simp only [List.length_cons] at h1; omega
        · cases h
      · rename_i a ts2 _ heq
        simp at h; obtain ⟨_, e⟩ := h; subst e
        exact hS _ _ _ heq
      · cases h

/-- `4·|ts| + k`, `k` the depth of the function in the grammar: a call consumes a token before it gets
    back to the same function -/
def Suff (f : Nat) : Prop :=
  (∀ ts r g, pAtom f ts = some r → f ≤ g ∨ 4 * ts.length + 1 ≤ g → pAtom g ts = some r) ∧
  (∀ acc ts r g, pProdLoop f acc ts = some r → f ≤ g ∨ 4 * ts.length + 1 ≤ g → pProdLoop g acc ts = some r) ∧
  (∀ ts r g, pProd f ts = some r → f ≤ g ∨ 4 * ts.length + 2 ≤ g → pProd g ts = some r) ∧
  (∀ acc ts r g, pSumLoop f acc ts = some r → f ≤ g ∨ 4 * ts.length + 1 ≤ g → pSumLoop g acc ts = some r) ∧
  (∀ ts r g, pSum f ts = some r → f ≤ g ∨ 4 * ts.length + 3 ≤ g → pSum g ts = some r) ∧
  (∀ ts r g, pArgs f ts = some r → f ≤ g ∨ 4 * ts.length + 4 ≤ g → pArgs g ts = some r)

theorem enough_pred {f g b b' : Nat} (hg : f + 1 ≤ g + 1 ∨ b ≤ g + 1) (hb : b' + 1 ≤ b) : f ≤ g ∨ b' ≤ g := by
  omega

theorem suff_all : ∀ f, Suff f := by
  intro f
  induction f with
  | zero => refine ⟨?_, ?_, ?_, ?_, ?_, ?_⟩ <;> intros <;> rename_i h _ <;> cases h
  | succ f ih =>
    obtain ⟨hA, hPL, hP, hSL, hS, hAr⟩ := ih
    obtain ⟨cA, cPL, cP, cSL, cS, cAr⟩ := cons_all f
    refine ⟨?_, ?_, ?_, ?_, ?_, ?_⟩
    · intro ts r g h hg
      obtain ⟨g, rfl⟩ : ∃ g', g = g' + 1 := ⟨g - 1, by omega⟩
      rw [pAtom_succ] at h ⊢
      split at h
      · exact h
      · exact h
      · split at h
        · rename_i heq
          simp only [hS _ _ g heq (enough_pred hg (by simp only [List.length_cons]; omega))]
          exact h
        · cases h
      · split at h
        · rename_i heq
          simp only [hAr _ _ g heq (enough_pred hg (by simp only [List.length_cons]; omega))]
          exact h
        · cases h
      · cases h
    · intro acc ts r g h hg
      obtain ⟨g, rfl⟩ : ∃ g', g = g' + 1 := ⟨g - 1, by omega⟩
      rw [pProdLoop_succ] at h ⊢
      split at h
      · split at h
        · rename_i heq
          have l1 := cA _ _ _ heq
          simp only [hA _ _ g heq (enough_pred hg (by simp only [List.length_cons]; omega))]
          exact hPL _ _ _ g h (enough_pred hg (by simp only [List.length_cons]; omega))
        · cases h
      · split at h
        · rename_i heq
          have l1 := cA _ _ _ heq
          simp only [hA _ _ g heq (enough_pred hg (by simp only [List.length_cons]; omega))]
          exact hPL _ _ _ g h (enough_pred hg (by simp only [List.length_cons]; omega))
        · cases h
      · exact h
    · intro ts r g h hg
      obtain ⟨g, rfl⟩ : ∃ g', g = g' + 1 := ⟨g - 1, by omega⟩
      rw [pProd_succ] at h ⊢
      split at h
      · rename_i heq
        have l1 := cA _ _ _ heq
        simp only [hA _ _ g heq (enough_pred hg (by omega))]
        exact hPL _ _ _ g h (enough_pred hg (by omega))
      · cases h
    · intro acc ts r g h hg
      obtain ⟨g, rfl⟩ : ∃ g', g = g' + 1 := ⟨g - 1, by omega⟩
      rw [pSumLoop_succ] at h ⊢
      split at h
      · split at h
        · rename_i heq
          have l1 := cP _ _ _ heq
          simp only [hP _ _ g heq (enough_pred hg (by simp only [List.length_cons]; omega))]
          exact hSL _ _ _ g h (enough_pred hg (by simp only [List.length_cons]; omega))
        · cases h
      · split at h
        · rename_i heq
          have l1 := cP _ _ _ heq
          simp only [hP _ _ g heq (enough_pred hg (by simp only [List.length_cons]; omega))]
          exact hSL _ _ _ g h (enough_pred hg (by simp only [List.length_cons]; omega))
        · cases h
      · exact h
    · intro ts r g h hg
      obtain ⟨g, rfl⟩ : ∃ g', g = g' + 1 := ⟨g - 1, by omega⟩
      rw [pSum_succ] at h ⊢
      split at h
      · rename_i heq
        have l1 := cP _ _ _ heq
        simp only [hP _ _ g heq (enough_pred hg (by omega))]
        exact hSL _ _ _ g h (enough_pred hg (by omega))
      · cases h
    · intro ts r g h hg
      obtain ⟨g, rfl⟩ : ∃ g', g = g' + 1 := ⟨g - 1, by omega⟩
      rw [pArgs_succ] at h ⊢
      split at h
      · rename_i heq
        have l1 := cS _ _ _ heq
        simp only [hS _ _ g heq (enough_pred hg (by omega))]
        split at h
        · rename_i heq2
          simp only [hAr _ _ g heq2 (enough_pred hg (by simp only [List.length_cons] at l1; omega))]
          exact h
        · cases h
      · rename_i heq
        simp only [hS _ _ g heq (enough_pred hg (by omega))]
        exact h
      · cases h

theorem mono_le {f g : Nat} (h : f ≤ g) :
    (∀ ts r, pAtom f ts = some r → pAtom g ts = some r) ∧
    (∀ acc ts r, pProdLoop f acc ts = some r → pProdLoop g acc ts = some r) ∧
    (∀ ts r, pProd f ts = some r → pProd g ts = some r) ∧
    (∀ acc ts r, pSumLoop f acc ts = some r → pSumLoop g acc ts = some r) ∧
    (∀ ts r, pSum f ts = some r → pSum g ts = some r) ∧
    (∀ ts r, pArgs f ts = some r → pArgs g ts = some r) := by
  obtain ⟨a1, a2, a3, a4, a5, a6⟩ := suff_all f
  exact ⟨fun _ _ hr => a1 _ _ g hr (.inl h), fun _ _ _ hr => a2 _ _ _ g hr (.inl h),
    fun _ _ hr => a3 _ _ g hr (.inl h), fun _ _ _ hr => a4 _ _ _ g hr (.inl h),
    fun _ _ hr => a5 _ _ g hr (.inl h), fun _ _ hr => a6 _ _ g hr (.inl h)⟩

theorem parseToks_of_fuel (ts : List Tok) (f : Nat) (a : CalcArg) (h : pSum f ts = some (a, [])) :
    parseToks ts = some a := by
  unfold parseToks parseFuel
  rw [(suff_all f).2.2.2.2.1 _ _ _ h (.inr (Nat.le_refl _))]

/-! ### big-step rules: "for some fuel" -/
def PAtom (ts : List Tok) (r : CalcArg × List Tok) : Prop := ∃ f, pAtom f ts = some r
def PProdLoop (acc : CalcArg) (ts : List Tok) (r : CalcArg × List Tok) : Prop := ∃ f, pProdLoop f acc ts = some r
def PProd (ts : List Tok) (r : CalcArg × List Tok) : Prop := ∃ f, pProd f ts = some r
def PSumLoop (acc : CalcArg) (ts : List Tok) (r : CalcArg × List Tok) : Prop := ∃ f, pSumLoop f acc ts = some r
def PSum (ts : List Tok) (r : CalcArg × List Tok) : Prop := ∃ f, pSum f ts = some r
def PArgs (ts : List Tok) (r : CalcArgs × List Tok) : Prop := ∃ f, pArgs f ts = some r

theorem PAtom.num (n : Rat) (u : CUnit) (ts : List Tok) : PAtom (.num n u :: ts) (.number n u, ts) := ⟨1, rfl⟩
theorem PAtom.atom (id : Nat) (ts : List Tok) : PAtom (.atom id :: ts) (.str id false, ts) := ⟨1, rfl⟩

theorem PAtom.paren {ts ts' : List Tok} {e : CalcArg} (h : PSum ts (e, .rp :: ts')) :
    PAtom (.lp :: ts) (e, ts') := by
  obtain ⟨f, hf⟩ := h
  exact ⟨f + 1, by rw [pAtom_succ]; simp only [hf]⟩

theorem PAtom.call {ts ts' : List Tok} {nm : CName} {as : CalcArgs} (h : PArgs ts (as, .rp :: ts')) :
    PAtom (.fn nm :: ts) (.calculation nm as, ts') := by
  obtain ⟨f, hf⟩ := h
  exact ⟨f + 1, by rw [pAtom_succ]; simp only [hf]⟩

def notMulDiv : List Tok → Bool
  | .op .mul :: _ => false
  | .op .div :: _ => false
  | _ => true

def notPlusMinus : List Tok → Bool
  | .op .plus :: _ => false
  | .op .minus :: _ => false
  | _ => true

def notComma : List Tok → Bool
  | .comma :: _ => false
  | _ => true

theorem PProdLoop.stop (acc : CalcArg) (ts : List Tok) (h : notMulDiv ts = true) : PProdLoop acc ts (acc, ts) := by
  refine ⟨1, ?_⟩
  rw [pProdLoop_succ]
  split <;> simp_all [notMulDiv]

theorem PSumLoop.stop (acc : CalcArg) (ts : List Tok) (h : notPlusMinus ts = true) : PSumLoop acc ts (acc, ts) := by
  refine ⟨1, ?_⟩
  rw [pSumLoop_succ]
  split <;> simp_all [notPlusMinus]

def isMulDiv : Op → Bool
  | .mul | .div => true
  | _ => false

def isPlusMinus : Op → Bool
  | .plus | .minus => true
  | _ => false

theorem PProdLoop.step {acc b : CalcArg} {o : Op} {ts ts' : List Tok} {r : CalcArg × List Tok}
    (ho : isMulDiv o = true) (h1 : PAtom ts (b, ts')) (h2 : PProdLoop (.operation acc o b) ts' r) :
    PProdLoop acc (.op o :: ts) r := by
  obtain ⟨f1, h1⟩ := h1
  obtain ⟨f2, h2⟩ := h2
  have m1 := (mono_le (Nat.le_max_left f1 f2)).1 _ _ h1
  have m2 := (mono_le (Nat.le_max_right f1 f2)).2.1 _ _ _ h2
  refine ⟨max f1 f2 + 1, ?_⟩
  rw [pProdLoop_succ]
  cases o <;> simp [isMulDiv] at ho <;> simp only [m1, m2]

theorem PProd.intro {a : CalcArg} {ts ts' : List Tok} {r : CalcArg × List Tok}
    (h1 : PAtom ts (a, ts')) (h2 : PProdLoop a ts' r) : PProd ts r := by
  obtain ⟨f1, h1⟩ := h1
  obtain ⟨f2, h2⟩ := h2
  have m1 := (mono_le (Nat.le_max_left f1 f2)).1 _ _ h1
  have m2 := (mono_le (Nat.le_max_right f1 f2)).2.1 _ _ _ h2
  exact ⟨max f1 f2 + 1, by rw [pProd_succ]; simp only [m1, m2]⟩

theorem PSumLoop.step {acc b : CalcArg} {o : Op} {ts ts' : List Tok} {r : CalcArg × List Tok}
    (ho : isPlusMinus o = true) (h1 : PProd ts (b, ts')) (h2 : PSumLoop (.operation acc o b) ts' r) :
    PSumLoop acc (.op o :: ts) r := by
  obtain ⟨f1, h1⟩ := h1
  obtain ⟨f2, h2⟩ := h2
  have m1 := (mono_le (Nat.le_max_left f1 f2)).2.2.1 _ _ h1
  have m2 := (mono_le (Nat.le_max_right f1 f2)).2.2.2.1 _ _ _ h2
  refine ⟨max f1 f2 + 1, ?_⟩
  rw [pSumLoop_succ]
  cases o <;> simp [isPlusMinus] at ho <;> simp only [m1, m2]

theorem PSum.intro {a : CalcArg} {ts ts' : List Tok} {r : CalcArg × List Tok}
    (h1 : PProd ts (a, ts')) (h2 : PSumLoop a ts' r) : PSum ts r := by
  obtain ⟨f1, h1⟩ := h1
  obtain ⟨f2, h2⟩ := h2
  have m1 := (mono_le (Nat.le_max_left f1 f2)).2.2.1 _ _ h1
  have m2 := (mono_le (Nat.le_max_right f1 f2)).2.2.2.1 _ _ _ h2
  exact ⟨max f1 f2 + 1, by rw [pSum_succ]; simp only [m1, m2]⟩

theorem PArgs.one {a : CalcArg} {ts ts' : List Tok} (h : PSum ts (a, ts')) (hc : notComma ts' = true) :
    PArgs ts (.cons a .nil, ts') := by
  obtain ⟨f, hf⟩ := h
  refine ⟨f + 1, ?_⟩
  rw [pArgs_succ]; simp only [hf]
  split <;> simp_all [notComma]

theorem PArgs.more {a : CalcArg} {as : CalcArgs} {ts ts' ts'' : List Tok}
    (h1 : PSum ts (a, .comma :: ts')) (h2 : PArgs ts' (as, ts'')) : PArgs ts (.cons a as, ts'') := by
  obtain ⟨f1, h1⟩ := h1
  obtain ⟨f2, h2⟩ := h2
  have m1 := (mono_le (Nat.le_max_left f1 f2)).2.2.2.2.1 _ _ h1
  have m2 := (mono_le (Nat.le_max_right f1 f2)).2.2.2.2.2 _ _ h2
  exact ⟨max f1 f2 + 1, by rw [pArgs_succ]; simp only [m1, m2]⟩

end Grass.Calc
