import Grass.Serialize
/- C05, byte level: the UTF-8 encoder by length class, the validator, and what can be read off the bytes. -/
namespace Grass.Serialize

theorem char_range (c : Char) : c.toNat < 0xD800 ∨ (0xDFFF < c.toNat ∧ c.toNat < 0x110000) := by
  have := c.valid
  simp [UInt32.isValidChar, Nat.isValidChar] at this
  exact this

theorem bt (k : Nat) (h : k < 256) : (UInt8.ofNat k).toNat = k := by
  rw [UInt8.toNat_ofNat']; omega

theorem cont_byte (x : Nat) : (UInt8.ofNat (0x80 + x % 64)).toNat = 0x80 + x % 64 :=
  bt _ (by omega)

theorem encodeChar_cases (c : Char) :
    (c.toNat < 0x80 ∧ ∃ b, encodeChar c = [b] ∧ b.toNat = c.toNat) ∨
    (0x80 ≤ c.toNat ∧ c.toNat < 0x800 ∧ ∃ b0 b1, encodeChar c = [b0, b1] ∧
      b0.toNat = 0xC0 + c.toNat / 64 ∧ b1.toNat = 0x80 + c.toNat % 64 ∧ 0xC2 ≤ b0.toNat ∧ b0.toNat ≤ 0xDF) ∨
    (0x800 ≤ c.toNat ∧ c.toNat < 0x10000 ∧ ∃ b0 b1 b2, encodeChar c = [b0, b1, b2] ∧
      b0.toNat = 0xE0 + c.toNat / 4096 ∧ b1.toNat = 0x80 + c.toNat / 64 % 64 ∧ b2.toNat = 0x80 + c.toNat % 64 ∧
      0xE0 ≤ b0.toNat ∧ b0.toNat ≤ 0xEF) ∨
    (0x10000 ≤ c.toNat ∧ ∃ b0 b1 b2 b3, encodeChar c = [b0, b1, b2, b3] ∧
      b0.toNat = 0xF0 + c.toNat / 262144 ∧ b1.toNat = 0x80 + c.toNat / 4096 % 64 ∧
      b2.toNat = 0x80 + c.toNat / 64 % 64 ∧ b3.toNat = 0x80 + c.toNat % 64 ∧ 0xF0 ≤ b0.toNat ∧ b0.toNat ≤ 0xF4) := by
  have hr : c.toNat < 0x110000 := by have := char_range c; omega
  by_cases h1 : c.toNat < 0x80
  · have e : encodeChar c = [UInt8.ofNat c.toNat] := by unfold encodeChar; exact if_pos h1
    exact .inl ⟨h1, _, e, bt _ (by omega)⟩
  by_cases h2 : c.toNat < 0x800
  · have e : encodeChar c = [UInt8.ofNat (0xC0 + c.toNat / 64), UInt8.ofNat (0x80 + c.toNat % 64)] := by
      unfold encodeChar; exact (if_neg h1).trans (if_pos h2)
    have hb : 0xC0 + c.toNat / 64 < 256 ∧ 0xC2 ≤ 0xC0 + c.toNat / 64 ∧ 0xC0 + c.toNat / 64 ≤ 0xDF := by omega
    have e0 := bt _ hb.1
    exact .inr (.inl ⟨Nat.le_of_not_lt h1, h2, _, _, e, e0, cont_byte _, e0.symm ▸ hb.2⟩)
  by_cases h3 : c.toNat < 0x10000
  · have e : encodeChar c = [UInt8.ofNat (0xE0 + c.toNat / 4096), UInt8.ofNat (0x80 + c.toNat / 64 % 64),
        UInt8.ofNat (0x80 + c.toNat % 64)] := by
      unfold encodeChar; exact (if_neg h1).trans ((if_neg h2).trans (if_pos h3))
    have hb : 0xE0 + c.toNat / 4096 < 256 ∧ 0xE0 ≤ 0xE0 + c.toNat / 4096 ∧ 0xE0 + c.toNat / 4096 ≤ 0xEF := by omega
    have e0 := bt _ hb.1
    exact .inr (.inr (.inl ⟨Nat.le_of_not_lt h2, h3, _, _, _, e, e0, cont_byte _, cont_byte _, e0.symm ▸ hb.2⟩))
  · have e : encodeChar c = [UInt8.ofNat (0xF0 + c.toNat / 262144), UInt8.ofNat (0x80 + c.toNat / 4096 % 64),
        UInt8.ofNat (0x80 + c.toNat / 64 % 64), UInt8.ofNat (0x80 + c.toNat % 64)] := by
      unfold encodeChar; exact (if_neg h1).trans ((if_neg h2).trans (if_neg h3))
    have hb : 0xF0 + c.toNat / 262144 < 256 ∧ 0xF0 ≤ 0xF0 + c.toNat / 262144 ∧ 0xF0 + c.toNat / 262144 ≤ 0xF4 := by
      omega
    have e0 := bt _ hb.1
    exact .inr (.inr (.inr ⟨Nat.le_of_not_lt h3, _, _, _, _, e, e0, cont_byte _, cont_byte _, cont_byte _,
      e0.symm ▸ hb.2⟩))

/-! The sequences the validator accepts from its initial state (table of RFC 3629 §4).  What the
    initial state does on a lead byte is a table over the 256 byte values. -/

theorem lead2_table : ∀ n, n < 256 → 0xC2 ≤ n → n ≤ 0xDF →
    utf8Step U8St.init (UInt8.ofNat n) = some ⟨1, 0x80, 0xBF⟩ := by decide +kernel

theorem lead3_table : ∀ n, n < 256 → 0xE0 ≤ n → n ≤ 0xEF →
    utf8Step U8St.init (UInt8.ofNat n) =
      some ⟨2, if n = 0xE0 then 0xA0 else 0x80, if n = 0xED then 0x9F else 0xBF⟩ := by decide +kernel

theorem lead4_table : ∀ n, n < 256 → 0xF0 ≤ n → n ≤ 0xF4 →
    utf8Step U8St.init (UInt8.ofNat n) =
      some ⟨3, if n = 0xF0 then 0x90 else 0x80, if n = 0xF4 then 0x8F else 0xBF⟩ := by decide +kernel

theorem utf8Run_1 (b : UInt8) (r : Bytes) (h : b.toNat < 0x80) :
    utf8Run U8St.init (b :: r) = utf8Run U8St.init r := by
  simp [utf8Run, utf8Step, U8St.init, h]

theorem utf8Run_cont (need lo hi : Nat) (b : UInt8) (r : Bytes) (hn : need ≠ 0) (h1 : lo ≤ b.toNat) (h2 : b.toNat ≤ hi) :
    utf8Run ⟨need, lo, hi⟩ (b :: r) = utf8Run ⟨need - 1, 0x80, 0xBF⟩ r := by
  simp [utf8Run, utf8Step, hn, h1, h2]

theorem utf8Run_2 (a b : UInt8) (r : Bytes) (ha : 0xC2 ≤ a.toNat ∧ a.toNat ≤ 0xDF)
    (hb : 0x80 ≤ b.toNat ∧ b.toNat ≤ 0xBF) : utf8Run U8St.init (a :: b :: r) = utf8Run U8St.init r := by
  have e := lead2_table a.toNat a.toNat_lt ha.1 ha.2
  rw [UInt8.ofNat_toNat] at e
  rw [utf8Run, e]
  exact utf8Run_cont _ _ _ _ _ (by decide) hb.1 hb.2

theorem utf8Run_3 (a b c : UInt8) (r : Bytes) (ha : 0xE0 ≤ a.toNat ∧ a.toNat ≤ 0xEF)
    (hb : 0x80 ≤ b.toNat ∧ b.toNat ≤ 0xBF) (hE0 : a.toNat = 0xE0 → 0xA0 ≤ b.toNat)
    (hED : a.toNat = 0xED → b.toNat ≤ 0x9F) (hc : 0x80 ≤ c.toNat ∧ c.toNat ≤ 0xBF) :
    utf8Run U8St.init (a :: b :: c :: r) = utf8Run U8St.init r := by
  have e := lead3_table a.toNat a.toNat_lt ha.1 ha.2
  rw [UInt8.ofNat_toNat] at e
  rw [utf8Run, e]
  show utf8Run _ (b :: c :: r) = _
  rw [utf8Run_cont _ _ _ _ _ (by decide) (by split; exact hE0 ‹_›; exact hb.1) (by split; exact hED ‹_›; exact hb.2)]
  exact utf8Run_cont _ _ _ _ _ (by decide) hc.1 hc.2

theorem utf8Run_4 (a b c d : UInt8) (r : Bytes) (ha : 0xF0 ≤ a.toNat ∧ a.toNat ≤ 0xF4)
    (hb : 0x80 ≤ b.toNat ∧ b.toNat ≤ 0xBF) (hF0 : a.toNat = 0xF0 → 0x90 ≤ b.toNat)
    (hF4 : a.toNat = 0xF4 → b.toNat ≤ 0x8F) (hc : 0x80 ≤ c.toNat ∧ c.toNat ≤ 0xBF)
    (hd : 0x80 ≤ d.toNat ∧ d.toNat ≤ 0xBF) :
    utf8Run U8St.init (a :: b :: c :: d :: r) = utf8Run U8St.init r := by
  have e := lead4_table a.toNat a.toNat_lt ha.1 ha.2
  rw [UInt8.ofNat_toNat] at e
  rw [utf8Run, e]
  show utf8Run _ (b :: c :: d :: r) = _
  rw [utf8Run_cont _ _ _ _ _ (by decide) (by split; exact hF0 ‹_›; exact hb.1) (by split; exact hF4 ‹_›; exact hb.2),
    utf8Run_cont _ _ _ _ _ (by decide) hc.1 hc.2]
  exact utf8Run_cont _ _ _ _ _ (by decide) hd.1 hd.2

theorem utf8Run_encodeChar (c : Char) (r : Bytes) :
    utf8Run U8St.init (encodeChar c ++ r) = utf8Run U8St.init r := by
  have hr := char_range c
  have cont : ∀ (b : UInt8) (x : Nat), b.toNat = 0x80 + x % 64 → 0x80 ≤ b.toNat ∧ b.toNat ≤ 0xBF := by
    intro b x h; omega
  rcases encodeChar_cases c with ⟨h, b, e, hb⟩ | ⟨_, _, b0, b1, e, h0, h1, hl⟩ |
    ⟨hc1, hc2, b0, b1, b2, e, h0, h1, h2, hl⟩ | ⟨hc, b0, b1, b2, b3, e, h0, h1, h2, h3, hl⟩ <;> rw [e]
  · exact utf8Run_1 b r (hb ▸ h)
  · exact utf8Run_2 b0 b1 r hl (cont _ _ h1)
  · -- no overlong form (lead byte `E0`), no surrogate (`ED`)
    have : (b0.toNat = 0xE0 → 0xA0 ≤ b1.toNat) ∧ (b0.toNat = 0xED → b1.toNat ≤ 0x9F) := by omega
    exact utf8Run_3 b0 b1 b2 r hl (cont _ _ h1) this.1 this.2 (cont _ _ h2)
  · -- no overlong form (`F0`), nothing above U+10FFFF (`F4`)
    have : (b0.toNat = 0xF0 → 0x90 ≤ b1.toNat) ∧ (b0.toNat = 0xF4 → b1.toNat ≤ 0x8F) := by omega
    exact utf8Run_4 b0 b1 b2 b3 r hl (cont _ _ h1) this.1 this.2 (cont _ _ h2) (cont _ _ h3)

theorem utf8Run_encode (s : Str) (r : Bytes) :
    utf8Run U8St.init (encodeUtf8 s ++ r) = utf8Run U8St.init r := by
  induction s with
  | nil => rfl
  | cons c cs ih => simp only [encodeUtf8, List.append_assoc]; rw [utf8Run_encodeChar, ih]

theorem encodeUtf8_append (a b : Str) : encodeUtf8 (a ++ b) = encodeUtf8 a ++ encodeUtf8 b := by
  induction a with
  | nil => rfl
  | cons c cs ih => simp [encodeUtf8, ih]

theorem encodeChar_length (c : Char) : (encodeChar c).length = utf8Len c := by
  unfold encodeChar utf8Len
  simp only
  split
  · rfl
  · split
    · rfl
    · split <;> rfl

theorem encodeChar_head (c : Char) : ∃ b r, encodeChar c = b :: r ∧
    (if c.toNat < 0x80 then b.toNat = c.toNat ∧ r = [] else 0xC0 ≤ b.toNat) := by
  rcases encodeChar_cases c with ⟨h, b, e, hb⟩ | ⟨h, _, b, _, e, _, _, hl, _⟩ | ⟨h, _, b, _, _, e, _, _, _, hl, _⟩ |
    ⟨h, b, _, _, _, e, _, _, _, _, hl, _⟩
  · exact ⟨b, _, e, by rw [if_pos h]; exact ⟨hb, rfl⟩⟩
  all_goals exact ⟨b, _, e, by rw [if_neg (by omega)]; omega⟩

theorem slice_encode (a m z : Str) :
    sliceB (encodeUtf8 (a ++ m ++ z)) (encodeUtf8 a).length ((encodeUtf8 a).length + (encodeUtf8 m).length)
      = encodeUtf8 m := by
  simp [sliceB, encodeUtf8_append, List.take_append]

theorem char_eq_of_toNat {a c : Char} (h : a.toNat = c.toNat) : a = c := by
  rw [← Char.ofNat_toNat a, ← Char.ofNat_toNat c, h]

theorem prefix_encode (p s : Str) (hp : isAsciiStr p = true) :
    (encodeUtf8 p).isPrefixOf (encodeUtf8 s) = p.isPrefixOf s := by
  induction p generalizing s with
  | nil => simp [encodeUtf8]
  | cons a p ih =>
    simp only [isAsciiStr, List.all_cons, Bool.and_eq_true, decide_eq_true_eq] at hp
    have ih' := fun s => ih s (by simpa [isAsciiStr] using hp.2)
    obtain ⟨ba, ra, hea, hba⟩ := encodeChar_head a
    rw [if_pos hp.1] at hba
    obtain ⟨hba1, hra⟩ := hba
    subst hra
    cases s with
    | nil => simp [encodeUtf8, hea]
    | cons c s =>
      obtain ⟨bc, rc, hec, hbc⟩ := encodeChar_head c
      simp only [encodeUtf8, hea, hec, List.cons_append, List.nil_append, List.isPrefixOf]
      split at hbc
      · next hc =>
        obtain ⟨hbc1, hrc⟩ := hbc
        subst hrc
        simp only [List.nil_append, ih']
        congr 1
        by_cases e : a = c
        · subst e
          have : ba = bc := UInt8.toNat_inj.mp (by omega)
          subst this; simp
        · have : ba ≠ bc := by
            intro hb; apply e; apply char_eq_of_toNat; rw [← hba1, ← hbc1, hb]
          rw [beq_eq_false_iff_ne.mpr this, beq_eq_false_iff_ne.mpr e]
      · next hc =>
        have h1 : ba ≠ bc := by intro hb; rw [hb] at hba1; omega
        have h2 : a ≠ c := by intro hb; rw [hb] at hp; omega
        rw [beq_eq_false_iff_ne.mpr h1, beq_eq_false_iff_ne.mpr h2]; rfl

theorem any_nonAscii_char (c : Char) : (encodeChar c).any nonAsciiB = isNonAscii c := by
  obtain ⟨b, r, e, hb⟩ := encodeChar_head c
  rw [e]
  unfold isNonAscii
  split at hb
  · obtain ⟨hb, hr⟩ := hb
    have : ¬ 128 ≤ c.toNat := by omega
    simp [hr, nonAsciiB, hb, this]
  · have h1 : 128 ≤ b.toNat := by omega
    have h2 : 128 ≤ c.toNat := by omega
    simp [nonAsciiB, h1, h2]

theorem any_nonAscii (s : Str) : (encodeUtf8 s).any nonAsciiB = s.any isNonAscii := by
  induction s with
  | nil => rfl
  | cons c cs ih => simp [encodeUtf8, List.any_append, any_nonAscii_char, ih]

theorem encode_bom : encodeChar bom = bomB := by decide

theorem bom_prefix_char (c : Char) (r : Bytes) : bomB.isPrefixOf (encodeChar c ++ r) = (c == bom) := by
  by_cases e : c = bom
  · subst e; rw [encode_bom]; simp [bomB, List.isPrefixOf]
  · have hne : c.toNat ≠ 0xFEFF := by
      intro h; apply e; apply char_eq_of_toNat; rw [h]; decide
    rw [beq_eq_false_iff_ne.mpr e]
    apply Bool.eq_false_iff.mpr
    intro hpf
    have first : ∀ (b : UInt8) (t : Bytes), bomB.isPrefixOf (b :: t) = true → b.toNat = 0xEF := by
      intro b t h
      simp only [bomB, List.isPrefixOf, Bool.and_eq_true, beq_iff_eq] at h
      rw [← h.1]; rfl
    rcases encodeChar_cases c with ⟨h, b, eq, hb⟩ | ⟨_, _, b, _, eq, _, _, hl⟩ | ⟨_, _, b0, b1, b2, eq, h0, h1, h2, _⟩ |
      ⟨_, b, _, _, _, eq, _, _, _, _, hl⟩ <;> rw [eq] at hpf
    · have := first _ _ hpf; omega
    · have := first _ _ hpf; omega
    · simp only [bomB, List.cons_append, List.isPrefixOf, Bool.and_eq_true, beq_iff_eq] at hpf
      have e0 : b0.toNat = 0xEF := by rw [← hpf.1]; rfl
      have e1 : b1.toNat = 0xBB := by rw [← hpf.2.1]; rfl
      have e2 : b2.toNat = 0xBF := by rw [← hpf.2.2.1]; rfl
      omega
    · have := first _ _ hpf; omega

theorem bom_prefix (s : Str) : bomB.isPrefixOf (encodeUtf8 s) = (s.head? == some bom) := by
  cases s with
  | nil => rfl
  | cons c cs => simp only [encodeUtf8, bom_prefix_char, List.head?_cons]; simp

theorem hasCharsetOrBomB_encode (s : Str) : hasCharsetOrBomB (encodeUtf8 s) = hasCharsetOrBom s := by
  unfold hasCharsetOrBomB hasCharsetOrBom charsetPrefixB startsWith
  rw [prefix_encode _ _ (by decide), bom_prefix]
  cases s with
  | nil => simp
  | cons c cs => by_cases e : c = bom <;> simp [e]

theorem encode_isEmpty (s : Str) : (encodeUtf8 s).isEmpty = s.isEmpty := by
  cases s with
  | nil => rfl
  | cons c cs =>
    obtain ⟨b, r, he, _⟩ := encodeChar_head c
    simp [encodeUtf8, he]

theorem optNlB_encode (st : Style) : optNlB st = encodeUtf8 (optNl st) := by
  cases st <;> decide

theorem finishB_encode (st : Style) (cs : Bool) (t : Top) :
    finishB st cs (encodeUtf8 t.buf) t.prevSemi = encodeUtf8 (finish st cs t) := by
  unfold finishB finish
  simp only [any_nonAscii]
  have e1 : (if t.prevSemi = true then encodeUtf8 t.buf ++ [0x3B] else encodeUtf8 t.buf)
      = encodeUtf8 (if t.prevSemi = true then t.buf ++ [';'] else t.buf) := by
    split
    · rw [encodeUtf8_append]; rfl
    · rfl
  rw [e1]
  generalize (if t.prevSemi = true then t.buf ++ [';'] else t.buf) = b1
  have e2 : (if (!(encodeUtf8 b1).isEmpty) = true then encodeUtf8 b1 ++ optNlB st else encodeUtf8 b1)
      = encodeUtf8 (if (!b1.isEmpty) = true then b1 ++ optNl st else b1) := by
    rw [encode_isEmpty]
    split
    · rw [encodeUtf8_append, optNlB_encode]
    · rfl
  rw [e2]
  generalize (if (!b1.isEmpty) = true then b1 ++ optNl st else b1) = b2
  split
  · show bomB ++ encodeUtf8 b2 = encodeUtf8 (bom :: b2)
    rw [← encode_bom]; rfl
  · split
    · rw [encodeUtf8_append]; rfl
    · rfl

theorem joinWithB_encode (sep : Str) (l : List Str) :
    joinWithB (encodeUtf8 sep) (l.map encodeUtf8) = encodeUtf8 (joinWith sep l) := by
  induction l with
  | nil => rfl
  | cons x r ih =>
    cases r with
    | nil => rfl
    | cons y r' =>
      simp only [List.map_cons, joinWithB, joinWith, encodeUtf8_append] at *
      rw [ih]

theorem drop_prefix_encode (p t : Str) :
    (encodeUtf8 (p ++ t)).drop (encodeUtf8 p).length = encodeUtf8 t := by
  rw [encodeUtf8_append, List.drop_left]

end Grass.Serialize
