import Grass.Import
/-
  On paths without empty and `.` segments (`nice`) the model of Rust's `std::path` operations
  (`parentR`, `joinR`, `tryPathR`, …) is the component-list one (`locR_plain`, `locR_explicit`).
-/
namespace Grass.Import

theorem splitLast_append (d : Path) (b : Comp) : splitLast (d ++ [b]) = some (d, b) := by
  induction d with
  | nil => rfl
  | cons c cs ih =>
    cases cs with
    | nil => rfl
    | cons c' cs' =>
      show splitLast (c :: (c' :: cs' ++ [b])) = _
      unfold splitLast
      simp only [List.cons_append] at ih ⊢
      rw [ih]; rfl

/-- no empty and no `.` segment -/
def nice (p : Path) : Prop := ∀ c ∈ p, isBlank c = false

instance : DecidablePred nice := fun p => inferInstanceAs (Decidable (∀ c ∈ p, isBlank c = false))

theorem isBlank_of_length (c : Comp) (h : 2 ≤ c.length) : isBlank c = false := by
  match c, h with
  | _ :: _ :: _, _ => simp [isBlank, dot]

theorem ne_dotdot_of_length (c : Comp) (h : 3 ≤ c.length) : c ≠ dotdot := by
  intro e; subst e; simp [dotdot] at h

theorem nonempty_of_not_blank {c : Comp} (h : isBlank c = false) : c ≠ [] := by
  intro e; subst e; simp [isBlank] at h

theorem hasRootR_nice {p : Path} (h : nice p) : hasRootR p = false := by
  unfold hasRootR
  split
  · have := h [] (by simp); simp [isBlank] at this
  · rfl

theorem hasCurDirR_nice {p : Path} (h : nice p) : hasCurDirR p = false := by
  unfold hasCurDirR
  cases p with
  | nil => simp
  | cons c cs =>
    have := h c (by simp)
    simp only [isBlank, Bool.or_eq_false_iff] at this
    simp [this.2]

theorem bodyR_nice {p : Path} (h : nice p) : bodyR p = p := by
  simp [bodyR, prefixLenR, hasRootR_nice h, hasCurDirR_nice h]

theorem stripBlank_snoc (d : Path) (n : Comp) (hn : isBlank n = false) : stripBlank (d ++ [n]) = d ++ [n] := by
  simp [stripBlank, List.reverse_append, hn]

theorem stripBlank_nice {d : Path} (h : nice d) : stripBlank d = d := by
  rcases List.eq_nil_or_concat d with rfl | ⟨d', n, rfl⟩
  · rfl
  · simpa using stripBlank_snoc d' n (h n (by simp))

theorem nice_left {d : Path} {n : Comp} (h : nice (d ++ [n])) : nice d := fun c hc => h c (by simp [hc])
theorem nice_last {d : Path} {n : Comp} (h : nice (d ++ [n])) : isBlank n = false := h n (by simp)
theorem nice_append {a b : Path} (ha : nice a) (hb : nice b) : nice (a ++ b) := by
  intro c hc; rcases List.mem_append.mp hc with h | h
  · exact ha c h
  · exact hb c h

theorem lastRealR_snoc {d : Path} {n : Comp} (h : nice (d ++ [n])) : lastRealR (d ++ [n]) = some (d, n) := by
  simp [lastRealR, bodyR_nice h, stripBlank_snoc d n (nice_last h)]

theorem parentR_snoc {d : Path} {n : Comp} (h : nice (d ++ [n])) : parentR (d ++ [n]) = some d := by
  simp [parentR, lastRealR_snoc h, rebuildR, hasRootR_nice h, hasCurDirR_nice h, stripBlank_nice (nice_left h)]

theorem fileNameR_snoc {d : Path} {n : Comp} (h : nice (d ++ [n])) (hn : n ≠ dotdot) :
    fileNameR (d ++ [n]) = some n := by
  simp [fileNameR, lastRealR_snoc h, hn]

theorem joinR_nice {a b : Path} (ha : nice a) (hb : nice b) (hne : b ≠ []) : joinR a b = a ++ b := by
  unfold joinR
  rw [hasRootR_nice hb]
  rcases List.eq_nil_or_concat a with rfl | ⟨a', l, rfl⟩
  · simp
  · rw [List.concat_eq_append] at ha ⊢
    have hl := nonempty_of_not_blank (nice_last ha)
    have e : b.isEmpty = false := by cases b <;> simp_all
    simp [e, hl]

theorem addExtR_snoc (d : Path) (n e : Comp) : addExtR (d ++ [n]) e = d ++ [n ++ '.' :: e] := by
  simp [addExtR]

theorem ext_name_ok {b s : Comp} (hb : b ≠ []) (hs : s ≠ []) :
    isBlank (b ++ '.' :: s) = false ∧ b ++ '.' :: s ≠ dotdot := by
  have h1 := List.length_pos_iff.mpr hb
  have h2 := List.length_pos_iff.mpr hs
  have h3 : 3 ≤ (b ++ '.' :: s).length := by
    simp only [List.length_append, List.length_cons]; omega
  exact ⟨isBlank_of_length _ (Nat.le_of_succ_le h3), ne_dotdot_of_length _ h3⟩

theorem tryPathR_snoc {D : Path} {m : Comp} (hD : nice D) (hm : isBlank m = false) (hm' : m ≠ dotdot) :
    tryPathR (D ++ [m]) = tryPath D m := by
  have h : nice (D ++ [m]) := nice_append hD (by intro c hc; rw [List.mem_singleton.mp hc]; exact hm)
  have hu : nice [('_' :: m)] := by
    intro c hc
    rw [List.mem_singleton.mp hc]
    exact isBlank_of_length _ (Nat.succ_le_succ (List.length_pos_iff.mpr (nonempty_of_not_blank hm)))
  simp [tryPathR, tryPath, parentR_snoc h, fileNameR_snoc h hm', joinR_nice hD hu]

theorem tryPathR_ext {D : Path} {base : Comp} (h : nice (D ++ [base])) {sfx : Comp} (hs : sfx ≠ []) :
    tryPathR (addExtR (D ++ [base]) sfx) = tryPath D (base ++ '.' :: sfx) := by
  obtain ⟨h1, h2⟩ := ext_name_ok (nonempty_of_not_blank (nice_last h)) hs
  rw [addExtR_snoc]
  exact tryPathR_snoc (nice_left h) h1 h2

theorem extGroupsR_snoc {D : Path} {base : Comp} (h : nice (D ++ [base])) (pre name : Comp)
    (hn : ∀ e, base ++ '.' :: (pre ++ e) = name ++ '.' :: e) :
    extGroupsR (D ++ [base]) pre = extGroups .spec D name := by
  have ne : ∀ {e : Comp}, e ≠ [] → pre ++ e ≠ [] := fun he => List.append_ne_nil_of_right_ne_nil _ he
  have hs : sassExt ≠ [] := by decide
  have hc : scssExt ≠ [] := by decide
  have hcs : cssExt ≠ [] := by decide
  simp only [extGroupsR, extGroups, tryPathR_ext h (ne hs), tryPathR_ext h (ne hc),
    tryPathR_ext h (ne hcs), hn, addExt, AsFound.spec, Bool.false_eq_true, if_false]

theorem withExtensionsR_snoc {D : Path} {base : Comp} (h : nice (D ++ [base])) (imp : Bool) :
    withExtensionsR imp (D ++ [base]) = withExtensions .spec imp D base := by
  rw [withExtensionsR, withExtensions, extGroupsR_snoc h [] base fun _ => rfl,
    extGroupsR_snoc h importDot (base ++ '.' :: importWord) fun e => by simp [importDot]]

theorem stemExt_stem_ne_nil {n s e : Comp} (h : stemExt n = some (s, e)) : s ≠ [] := by
  unfold stemExt at h
  split at h
  · rename_i s' e' _
    split at h
    · cases h
    · cases h; intro e; simp_all
  · cases h

theorem explicitExt_stemExt {n s e : Comp} (h : explicitExt n = some (s, e)) :
    stemExt n = some (s, e) ∧ isSourceExt e = true := by
  unfold explicitExt at h
  split at h
  · rename_i s' e' hs
    split at h
    · cases h; exact ⟨hs, by assumption⟩
    · cases h
  · cases h

theorem extension_filter (n : Comp) :
    ((stemExt n).map (·.2)).filter isSourceExt = (explicitExt n).map (·.2) := by
  unfold explicitExt
  cases hs : stemExt n with
  | none => simp
  | some x =>
    obtain ⟨s, e⟩ := x
    cases he : isSourceExt e <;> simp [Option.filter, he]

theorem withExtensionR_snoc {D : Path} {base stem ext : Comp} (h : nice (D ++ [base])) (hb : base ≠ dotdot)
    (hs : stemExt base = some (stem, ext)) (e : Comp) :
    withExtensionR (D ++ [base]) e = D ++ [stem ++ '.' :: e] := by
  simp [withExtensionR, lastRealR_snoc h, hb, hs, prefixLenR, hasRootR_nice h, hasCurDirR_nice h]

theorem explicitR_snoc {D : Path} {base stem ext : Comp} (h : nice (D ++ [base])) (hb : base ≠ dotdot)
    (hx : explicitExt base = some (stem, ext)) (imp : Bool) :
    explicitR imp ext (D ++ [base]) =
      (if imp then [tryPath D (importOnlyExplicit .spec stem ext)] else []) ++ [tryPath D base] := by
  obtain ⟨hs, _⟩ := explicitExt_stemExt hx
  obtain ⟨h1, h2⟩ := ext_name_ok (s := importWord ++ '.' :: ext) (stemExt_stem_ne_nil hs) (by simp [importWord])
  have e1 := tryPathR_snoc (nice_left h) h1 h2
  have e2 := tryPathR_snoc (nice_left h) (nice_last h) hb
  cases imp <;>
    simp [explicitR, withExtensionR_snoc h hb hs, importOnlyExplicit, AsFound.spec, importDot, e1, e2, List.append_assoc]

theorem nice_indexName : nice [indexName] := by decide +kernel

theorem locR_plain {R udir : Path} {base : Comp} (h : nice ((R ++ udir) ++ [base]))
    (hx : explicitExt base = none) (imp : Bool) :
    (⟨withExtensionsR imp ((R ++ udir) ++ [base]), some ((R ++ udir) ++ [base],
        withExtensionsR imp (joinR ((R ++ udir) ++ [base]) [indexName]))⟩ : Loc) =
      locFor .spec imp R (udir ++ [base]) := by
  rw [joinR_nice h nice_indexName (by simp), withExtensionsR_snoc h,
    withExtensionsR_snoc (nice_append h nice_indexName)]
  simp only [locFor, splitLast_append, hx]

theorem locR_explicit {R udir : Path} {base stem ext : Comp} (h : nice ((R ++ udir) ++ [base]))
    (hb : base ≠ dotdot) (hx : explicitExt base = some (stem, ext)) (imp : Bool) :
    (⟨explicitR imp ext ((R ++ udir) ++ [base]), none⟩ : Loc) =
      locFor .spec imp R (udir ++ [base]) := by
  rw [explicitR_snoc h hb hx]
  simp only [locFor, splitLast_append, hx]

end Grass.Import
