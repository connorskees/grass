import Grass.Extend
import GrassProofs.Lemmas.SelSem
/-
  `extend_compound` for C10: `paths` picks one option from every choice (`Pick`), the options for one
  extension `E → T` match where the compound matches with `E` credited for `T`, and the unification
  of a path matches the conjunction of its options.
-/
namespace Grass.Extend
open Grass.Selector

/-! ### `paths` (functions.rs:708) -/

def Pick {α : Type} : List α → List (List α) → Prop
  | [], [] => True
  | o :: os, ch :: chs => o ∈ ch ∧ Pick os chs
  | _, _ => False

theorem mem_paths_foldl {α : Type} :
    ∀ (chs : List (List α)) (ps : List (List α)) (path : List α),
      path ∈ chs.foldl (fun ps choice => choice.flatMap fun o => ps.map (· ++ [o])) ps ↔
        ∃ pre ∈ ps, ∃ suf, Pick suf chs ∧ path = pre ++ suf := by
  intro chs
  induction chs with
  | nil =>
    intro ps path
    simp only [List.foldl_nil]
    constructor
    · intro h; exact ⟨path, h, [], trivial, by simp⟩
    · rintro ⟨pre, hpre, suf, hs, rfl⟩
      cases suf with
      | nil => simpa using hpre
      | cons _ _ => exact hs.elim
  | cons ch rest ih =>
    intro ps path
    simp only [List.foldl_cons]
    rw [ih]
    constructor
    · rintro ⟨pre', hpre', suf', hs, rfl⟩
      simp only [List.mem_flatMap, List.mem_map] at hpre'
      obtain ⟨o, ho, pre, hpre, rfl⟩ := hpre'
      exact ⟨pre, hpre, o :: suf', ⟨ho, hs⟩, by simp⟩
    · rintro ⟨pre, hpre, suf, hs, rfl⟩
      cases suf with
      | nil => exact hs.elim
      | cons o suf' =>
        refine ⟨pre ++ [o], ?_, suf', hs.2, by simp⟩
        simp only [List.mem_flatMap, List.mem_map]
        exact ⟨o, hs.1, pre, hpre, rfl⟩

theorem mem_paths {α : Type} (chs : List (List α)) (path : List α) : path ∈ paths chs ↔ Pick path chs := by
  unfold paths
  rw [mem_paths_foldl]
  constructor
  · rintro ⟨pre, hpre, suf, hs, rfl⟩
    simp only [List.mem_singleton] at hpre; subst hpre; simpa using hs
  · intro h; exact ⟨[], by simp, path, h, by simp⟩

theorem exists_pick_cons {α : Type} (ch : List α) (chs : List (List α)) (P : List α → Prop) :
    (∃ path, Pick path (ch :: chs) ∧ P path) ↔ ∃ a ∈ ch, ∃ path, Pick path chs ∧ P (a :: path) := by
  constructor
  · rintro ⟨path, hp, h⟩
    cases path with
    | nil => exact hp.elim
    | cons a path => exact ⟨a, hp.1, path, hp.2, h⟩
  · rintro ⟨a, ha, path, hp, h⟩
    exact ⟨a :: path, ⟨ha, hp⟩, h⟩

theorem exists_pick_nil {α : Type} (P : List α → Prop) : (∃ path, Pick path [] ∧ P path) ↔ P [] := by
  constructor
  · rintro ⟨path, hp, h⟩
    cases path with
    | nil => exact h
    | cons _ _ => exact hp.elim
  · intro h; exact ⟨[], trivial, h⟩

theorem Pick.length {α : Type} : ∀ {path : List α} {chs : List (List α)}, Pick path chs → path.length = chs.length
  | [], [], _ => rfl
  | _ :: _, _ :: _, h => congrArg (· + 1) (Pick.length h.2)
  | [], _ :: _, h => h.elim
  | _ :: _, [], h => h.elim

theorem Pick.forall {α : Type} {P : α → Prop} : ∀ {path : List α} {chs : List (List α)}, Pick path chs →
    (∀ ch ∈ chs, ∀ o ∈ ch, P o) → ∀ o ∈ path, P o
  | [], _, _, _ => fun _ ho => nomatch ho
  | _ :: _, [], h, _ => h.elim
  | _ :: _, ch :: _, h, hP => by
    intro o ho
    rcases List.mem_cons.1 ho with rfl | ho
    · exact hP ch (by simp) _ h.1
    · exact Pick.forall h.2 (fun ch' hch' => hP ch' (List.mem_cons_of_mem _ hch')) o ho

theorem exists_pick {α : Type} : ∀ (chs : List (List α)), (∀ ch ∈ chs, ch ≠ []) → ∃ path, Pick path chs
  | [], _ => ⟨[], trivial⟩
  | [] :: _, h => absurd rfl (h [] (by simp))
  | (o :: _) :: chs, h =>
    let ⟨path, hp⟩ := exists_pick chs (fun ch hch => h ch (List.mem_cons_of_mem _ hch))
    ⟨o :: path, by simp, hp⟩

theorem pick_all {α : Type} (f : α → Bool) : ∀ (chs : List (List α)),
    (∃ path, Pick path chs ∧ path.all f = true) ↔ chs.all (fun ch => ch.any f) = true
  | [] => by simp [exists_pick_nil]
  | ch :: chs => by
    rw [exists_pick_cons]
    simp only [List.all_cons, Bool.and_eq_true, List.any_eq_true, ← pick_all f chs]
    constructor
    · rintro ⟨a, ha, path, hp, hfa, hf⟩; exact ⟨⟨a, ha, hfa⟩, path, hp, hf⟩
    · rintro ⟨⟨a, ha, hfa⟩, path, hp, hf⟩; exact ⟨a, ha, path, hp, hfa, hf⟩

theorem paths_any_all {α : Type} (f : α → Bool) (choices : List (List α)) :
    (paths choices).any (fun path => path.all f) = choices.all (fun ch => ch.any f) := by
  rw [Bool.eq_iff_iff, ← pick_all, List.any_eq_true]
  simp only [mem_paths]

theorem paths_mem {α : Type} (P : α → Prop) (choices : List (List α))
    (h : ∀ ch ∈ choices, ∀ o ∈ ch, P o) : ∀ path ∈ paths choices, ∀ o ∈ path, P o :=
  fun path hp => ((mem_paths choices path).1 hp).forall h

theorem paths_length {α : Type} (choices : List (List α)) : ∀ path ∈ paths choices, path.length = choices.length :=
  fun path hp => ((mem_paths choices path).1 hp).length

theorem paths_ne_nil {α : Type} (choices : List (List α)) (h : ∀ ch ∈ choices, ch ≠ []) : paths choices ≠ [] := by
  obtain ⟨path, hp⟩ := exists_pick choices h
  exact List.ne_nil_of_mem ((mem_paths choices path).2 hp)

/-! ### credited matching of a compound without selector pseudos -/

def credC (E : Compound) (T : Simple) (c : Compound) (p : Ctx) : Bool :=
  c.all fun s => mSimple s p || (decide (s = T) && mComp E p)

theorem cSimple_noSel (credit : Simple → Ctx → Bool) (s : Simple) (p : Ctx) (h : s.isSel = false) :
    cSimple credit s p = (mSimple s p || credit s p) := by
  cases s with
  | sel k a => simp [Simple.isSel] at h
  | placeholder n => simp [cSimple, mSimple]
  | parent x => simp [cSimple, mSimple]
  | univ => simp [cSimple]
  | type n => simp [cSimple]
  | cls n => simp [cSimple]
  | id n => simp [cSimple]
  | attr n v => simp [cSimple]
  | pclass n => simp [cSimple]
  | pelem n => simp [cSimple]

theorem cComp_eq_all (credit : Simple → Ctx → Bool) (c : Compound) (p : Ctx) :
    cComp credit c p = c.all (fun s => cSimple credit s p) := by
  induction c with
  | nil => simp [cComp]
  | cons s ss ih => simp [cComp, ih]

theorem cComp_noSel (E : Compound) (T : Simple) (p : Ctx) (c : Compound) (h : noSelC c = true) :
    cComp (credit1 E T) c p = credC E T c p := by
  rw [cComp_eq_all]
  exact all_congr_mem fun s hs => cSimple_noSel _ s p (noSelC_mem h hs)

/-! ### the options of `extend_compound` for one extension `E → T` -/

def optSem (opts : List (List Opt)) (p : Ctx) : Bool := opts.all fun ch => ch.any fun o => mComp o.comp p

theorem extendersOf_single (e : Ext) (s : Simple) :
    extendersOf [e] s = if e.target = s then [e] else [] := by
  simp [extendersOf, List.filter]
  split <;> simp_all

theorem optSem_append (a b : List (List Opt)) (p : Ctx) : optSem (a ++ b) p = (optSem a p && optSem b p) := by
  simp [optSem, List.all_append]

def entryOf (exts : List Ext) (s : Simple) : List Opt := origOpt [s] :: (extendersOf exts s).map extOpt

theorem buildOptions_some (exts : List Ext) : ∀ (rest pre : Compound) (v : List (List Opt)),
    buildOptions exts pre rest (some v) = some (v ++ rest.map (entryOf exts)) := by
  intro rest
  induction rest with
  | nil => intro pre v; simp [buildOptions]
  | cons s rest ih =>
    intro pre v
    rw [buildOptions]
    split
    · rename_i hes
      simp [ih, entryOf, List.isEmpty_iff.1 hes]
    · rw [ih]
      simp [entryOf]

theorem buildOptions_none_cons (exts : List Ext) (pre : Compound) (s : Simple) (rest : Compound) :
    buildOptions exts pre (s :: rest) none =
      if (extendersOf exts s).isEmpty then buildOptions exts (pre ++ [s]) rest none
      else some ((if pre.isEmpty then [] else [[origOpt pre]]) ++ entryOf exts s :: rest.map (entryOf exts)) := by
  rw [buildOptions]
  split
  · rfl
  · simp [buildOptions_some, entryOf]

theorem optSem_entries (e : Ext) (rest : Compound) (p : Ctx) :
    optSem (rest.map (entryOf [e])) p = credC e.extender e.target rest p := by
  simp only [optSem, credC, List.all_map]
  congr 1
  funext s
  by_cases hs : e.target = s
  · subst hs
    simp [entryOf, extendersOf_single, origOpt, extOpt, mComp]
  · have : ¬ s = e.target := fun h => hs h.symm
    simp [entryOf, extendersOf_single, hs, this, origOpt, mComp]

theorem buildOptions_sem (e : Ext) (p : Ctx) : ∀ (rest pre : Compound),
    match buildOptions [e] pre rest none with
    | none => credC e.extender e.target rest p = mComp rest p
    | some opts => optSem opts p = (mComp pre p && credC e.extender e.target rest p) := by
  intro rest
  induction rest with
  | nil => intro pre; simp [buildOptions, credC, mComp]
  | cons s rest ih =>
    intro pre
    rw [buildOptions_none_cons, extendersOf_single]
    by_cases hs : e.target = s
    · subst hs
      have h1 : optSem (if pre.isEmpty then [] else [[origOpt pre]]) p = mComp pre p := by
        cases pre <;> simp [optSem, origOpt, mComp]
      simp only [if_true, List.isEmpty_cons, Bool.false_eq_true, if_false]
      rw [optSem_append, h1, ← List.map_cons, optSem_entries]
    · have hne : decide (s = e.target) = false := decide_eq_false fun h => hs h.symm
      have hc : credC e.extender e.target (s :: rest) p = (mSimple s p && credC e.extender e.target rest p) := by
        simp [credC, hne]
      simp only [hs, if_false, List.isEmpty_nil, if_true]
      have := ih (pre ++ [s])
      revert this
      cases buildOptions [e] (pre ++ [s]) rest none with
      | none => intro h; simp only at h ⊢; rw [hc, h, mComp]
      | some opts => intro h; simp only at h ⊢; rw [h, hc, mComp_append, mComp, mComp, Bool.and_true, Bool.and_assoc]

/-! ### unification of one path -/

theorem unifyCompound_ne_nil : ∀ (A B C : Compound), B ≠ [] → unifyCompound A B = some C → C ≠ [] := by
  intro A
  induction A with
  | nil => intro B C hB h; simp [unifyCompound] at h; subst h; exact hB
  | cons s A ih =>
    intro B C hB h
    unfold unifyCompound at h
    split at h
    · rename_i B' hB'
      exact ih B' C (unifySimple_ne_nil hB') h
    · cases h

theorem unifyInto_sem (p : Ctx) :
    ∀ (rest : List Compound) (base : Compound), base ≠ [] →
      match unifyInto base rest with
      | some u => mComp u p = (mComp base p && rest.all (mComp · p))
      | none => (mComp base p && rest.all (mComp · p)) = false := by
  intro rest
  induction rest with
  | nil => intro base _; simp [unifyInto]
  | cons c rest ih =>
    intro base hb
    have hcomm : (mComp base p && (c :: rest).all (mComp · p)) =
        ((mComp c p && mComp base p) && rest.all (mComp · p)) := by
      rw [List.all_cons, ← Bool.and_assoc, Bool.and_comm (mComp base p)]
    rw [unifyInto, hcomm]
    cases hu : unifyCompound c base with
    | none =>
      rw [unifyCompound_none p c base hb hu]
      rfl
    | some b =>
      rw [← unifyCompound_sem p c base b hu]
      exact ih b (unifyCompound_ne_nil c base b hb hu)

theorem all_filter_split {α : Type} (g f : α → Bool) (l : List α) :
    l.all f = ((l.filter g).all f && (l.filter (fun x => !g x)).all f) := by
  induction l with
  | nil => simp
  | cons x xs ih =>
    simp only [List.all_cons, List.filter_cons, ih]
    cases g x <;> simp [Bool.and_assoc, Bool.and_left_comm]

theorem mComp_flatMap (os : List Opt) (p : Ctx) :
    mComp (os.flatMap (·.comp)) p = os.all (fun o => mComp o.comp p) := by
  induction os with
  | nil => simp [mComp]
  | cons o os ih => simp [List.flatMap_cons, mComp_append, ih]

theorem unifyAll_sem (O : Compound) (N : List Compound) (p : Ctx) (hN : ∀ c ∈ N, c ≠ [])
    (hON : O ≠ [] ∨ N ≠ []) :
    match unifyAll (if O.isEmpty then N else O :: N) with
    | some u => mComp u p = (mComp O p && N.all (mComp · p))
    | none => (mComp O p && N.all (mComp · p)) = false := by
  cases O with
  | nil =>
    simp only [List.isEmpty_nil, if_true]
    cases N with
    | nil => simp at hON
    | cons base rest =>
      simp only [unifyAll]
      have := unifyInto_sem p rest base (hN base (by simp))
      revert this
      cases unifyInto base rest <;> simp [mComp]
  | cons s ss =>
    simp only [List.isEmpty_cons, Bool.false_eq_true, if_false, unifyAll]
    have := unifyInto_sem p N (s :: ss) (by simp)
    revert this
    cases unifyInto (s :: ss) N <;> simp

theorem unifyPath_sem (path : List Opt) (p : Ctx) (hne : ∀ o ∈ path, o.comp ≠ []) (hp : path ≠ []) :
    match unifyPath path with
    | some u => mComp u p = path.all (fun o => mComp o.comp p)
    | none => path.all (fun o => mComp o.comp p) = false := by
  unfold unifyPath
  rw [all_filter_split (·.isOriginal) (fun o => mComp o.comp p) path]
  have hO : mComp ((path.filter (·.isOriginal)).flatMap (·.comp)) p = (path.filter (·.isOriginal)).all (fun o => mComp o.comp p) :=
    mComp_flatMap _ p
  have hN : ((path.filter (fun o => !o.isOriginal)).map (·.comp)).all (mComp · p) =
      (path.filter (fun o => !o.isOriginal)).all (fun o => mComp o.comp p) := by
    simp [List.all_map, Function.comp_def]
  have hNne : ∀ c ∈ (path.filter (fun o => !o.isOriginal)).map (·.comp), c ≠ [] := by
    intro c hc
    simp only [List.mem_map, List.mem_filter] at hc
    obtain ⟨o, ⟨ho, _⟩, rfl⟩ := hc
    exact hne o ho
  have hON : (path.filter (·.isOriginal)).flatMap (·.comp) ≠ [] ∨ (path.filter (fun o => !o.isOriginal)).map (·.comp) ≠ [] := by
    cases path with
    | nil => exact absurd rfl hp
    | cons o os =>
      have ho := hne o (by simp)
      by_cases hoo : o.isOriginal = true
      · left
        simp only [List.filter_cons, hoo, if_true, List.flatMap_cons]
        intro h; exact ho (List.append_eq_nil_iff.1 h).1
      · right
        simp [hoo]
  have := unifyAll_sem _ _ p hNne hON
  rw [hO, hN] at this
  exact this

/-! ### `extend_compound` for one extension -/

def GoodChoice (ch : List Opt) : Prop := ch ≠ [] ∧ ∀ o ∈ ch, o.comp ≠ []

theorem good_orig (c : Compound) (hc : c ≠ []) : GoodChoice [origOpt c] :=
  ⟨by simp, by intro o ho; simp only [List.mem_singleton] at ho; subst ho; simpa [origOpt] using hc⟩

theorem good_entryOf (exts : List Ext) (hE : ∀ e ∈ exts, e.extender ≠ []) (s : Simple) : GoodChoice (entryOf exts s) := by
  refine ⟨by simp [entryOf], fun o ho => ?_⟩
  rcases List.mem_cons.1 ho with rfl | ho
  · simp [origOpt]
  · obtain ⟨e, he, rfl⟩ := List.mem_map.1 ho
    exact hE e (List.mem_filter.1 he).1

theorem buildOptions_good (exts : List Ext) (hE : ∀ e ∈ exts, e.extender ≠ []) :
    ∀ (rest pre : Compound) (opts : List (List Opt)), buildOptions exts pre rest none = some opts →
      ∀ ch ∈ opts, GoodChoice ch := by
  intro rest
  induction rest with
  | nil => intro pre opts h; simp [buildOptions] at h
  | cons s rest ih =>
    intro pre opts h ch hch
    rw [buildOptions_none_cons] at h
    split at h
    · exact ih _ opts h ch hch
    · cases h
      rcases List.mem_append.1 hch with hpre | hch
      · cases pre with
        | nil => simp at hpre
        | cons x xs =>
          simp only [List.isEmpty_cons, Bool.false_eq_true, if_false, List.mem_singleton] at hpre
          subst hpre
          exact good_orig _ (by simp)
      · rcases List.mem_cons.1 hch with rfl | hch
        · exact good_entryOf exts hE s
        · obtain ⟨t, _, rfl⟩ := List.mem_map.1 hch
          exact good_entryOf exts hE t

theorem matchesComplex_single (u : Compound) (p : Ctx) : matchesComplex [.compound u] p = mComp u p := by
  simp [matchesComplex, norm, fwd, revGo, mRC, mSteps]

theorem filterMap_unify_any (others : List (List Opt)) (p : Ctx)
    (h : ∀ path ∈ others, (∀ o ∈ path, o.comp ≠ []) ∧ path ≠ []) :
    (others.filterMap fun q => (unifyPath q).map fun u => (q, u)).any (fun pu => mComp pu.2 p) =
      others.any (fun path => path.all fun o => mComp o.comp p) := by
  induction others with
  | nil => simp
  | cons q qs ih =>
    have hq := h q (by simp)
    have := unifyPath_sem q p hq.1 hq.2
    have ih' := ih (fun path hp => h path (by simp [hp]))
    simp only [List.filterMap_cons, List.any_cons]
    revert this
    cases unifyPath q with
    | none => intro h1; simp only [Option.map_none] ; simp only at h1; rw [h1, ih']; simp
    | some u => intro h1; simp only [Option.map_some, List.any_cons] ; simp only at h1; rw [h1, ih']

end Grass.Extend
