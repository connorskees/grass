import Grass.Diag
import GrassProofs.Lemmas.DiagSpan
/-
  The whitespace/comment skipping of the parser only drops tokens from the front, so the token at
  which a directive's value begins is a token of the file (`exprStart_tok`).
-/
namespace Grass.Diag

theorem skipBlank_suffix (ts : List Tok) : skipBlank ts <:+ ts := by
  fun_induction skipBlank ts with
  | case1 => exact List.suffix_refl _
  | case2 t ts _ ih => exact ih.trans (List.suffix_cons ..)
  | case3 => exact List.suffix_refl _

theorem skipLine_suffix (ts : List Tok) : skipLine ts <:+ ts := by
  fun_induction skipLine ts with
  | case1 => exact List.suffix_refl _
  | case2 => exact List.suffix_refl _
  | case3 t ts _ ih => exact ih.trans (List.suffix_cons ..)

theorem skipLoud_suffix {star : Bool} {ts r : List Tok} (h : skipLoud star ts = some r) :
    r <:+ ts := by
  fun_induction skipLoud star ts with
  | case1 => cases h
  | case2 star t ts _ ih => exact (ih h).trans (List.suffix_cons ..)
  | case3 star t ts => cases h; exact List.suffix_cons ..
  | case4 star t ts _ _ ih => exact (ih h).trans (List.suffix_cons ..)

theorem skipWs_suffix {fuel : Nat} {ts r : List Tok} (h : skipWs fuel ts = some r) : r <:+ ts := by
  fun_induction skipWs fuel ts with
  | case1 => cases h
  | case2 fuel ts a b rest hb _ ih =>
    exact (ih h).trans ((skipLine_suffix rest).trans (rest_suffix hb))
  | case3 fuel ts a b rest hb _ _ r' hl ih =>
    exact (ih h).trans ((skipLoud_suffix hl).trans (rest_suffix hb))
  | case4 => cases h
  | case5 fuel ts a b rest hb => cases h; rw [← hb]; exact skipBlank_suffix ts
  | case6 fuel ts => cases h; exact skipBlank_suffix ts
where
  rest_suffix {ts : List Tok} {a b : Tok} {rest : List Tok} (hb : skipBlank ts = a :: b :: rest) :
      rest <:+ ts :=
    ((List.suffix_cons b rest).trans (List.suffix_cons a _)).trans (hb ▸ skipBlank_suffix ts)

theorem expectName_suffix {name : List Char} {ts r : List Tok} (h : expectName name ts = some r) :
    r <:+ ts := by
  fun_induction expectName name ts with
  | case1 => cases h; exact List.suffix_refl _
  | case2 => cases h
  | case3 => cases h; exact List.suffix_refl _
  | case4 => cases h
  | case5 cs t ts ih => exact (ih h).trans (List.suffix_cons ..)
  | case6 => cases h

theorem exprStart_tok {file : List Char} {site : Nat} {name : List Char} {off : Nat}
    (h : exprStart file site name = some off) : ∃ t, t ∈ tokenize file 0 ∧ t.pos = off := by
  revert h
  fun_cases exprStart file site name with
  | case3 t ts hd _ r hn u rest hw =>
    rintro ⟨⟩
    have hts : ts <:+ tokenize file 0 := (List.suffix_cons t ts).trans (hd ▸ List.dropWhile_suffix _)
    exact ⟨u, List.IsSuffix.mem (List.mem_cons_self ..)
      (((skipWs_suffix hw).trans (expectName_suffix hn)).trans hts), rfl⟩
  | _ => exact nofun

end Grass.Diag
