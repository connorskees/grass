import Grass.Diag
/-
  Character boundaries, the two lexer invariants (`Fits` = offsets stay inside the source span,
  `Aligned` = offsets are character boundaries of the file) and the codemap look-up.
-/
namespace Grass.Diag

/-! ### character boundaries -/

theorem isBoundary_zero (cs : List Char) : isBoundary cs 0 = true := by
  cases cs <;> rfl

theorem isBoundary_cons_add (c : Char) (cs : List Char) (k : Nat) :
    isBoundary (c :: cs) (k + c.utf8Size) = isBoundary cs k := by
  have hp := c.utf8Size_pos
  obtain ⟨m, hm⟩ : ∃ m, k + c.utf8Size = m + 1 := ⟨k + c.utf8Size - 1, by omega⟩
  rw [hm, isBoundary, if_neg (by omega), ← hm, Nat.add_sub_cancel]

theorem isBoundary_cons_inv {c : Char} {cs : List Char} {n : Nat} (h : isBoundary (c :: cs) n = true) :
    n = 0 ∨ ∃ k, n = k + c.utf8Size ∧ isBoundary cs k = true := by
  cases n with
  | zero => exact .inl rfl
  | succ n =>
    rw [isBoundary] at h
    split at h
    · cases h
    · exact .inr ⟨n + 1 - c.utf8Size, by omega, h⟩

theorem isBoundary_nil_inv {n : Nat} (h : isBoundary [] n = true) : n = 0 := by
  cases n with
  | zero => rfl
  | succ n => cases h

theorem isBoundary_byteLen (cs : List Char) : isBoundary cs (byteLen cs) = true := by
  induction cs with
  | nil => rfl
  | cons c cs ih => rw [byteLen, Nat.add_comm, isBoundary_cons_add]; exact ih

theorem isBoundary_le {cs : List Char} {n : Nat} (h : isBoundary cs n = true) : n ≤ byteLen cs := by
  induction cs generalizing n with
  | nil => exact Nat.le_of_eq (isBoundary_nil_inv h)
  | cons c cs ih =>
    rcases isBoundary_cons_inv h with rfl | ⟨k, rfl, hk⟩
    · exact Nat.zero_le _
    · rw [byteLen, Nat.add_comm]; exact Nat.add_le_add_left (ih hk) _

theorem isBoundary_append_left (pre r : List Char) (k : Nat) :
    isBoundary (pre ++ r) (byteLen pre + k) = isBoundary r k := by
  induction pre with
  | nil => rw [byteLen, Nat.zero_add]; rfl
  | cons c pre ih =>
    rw [List.cons_append, byteLen, Nat.add_assoc, Nat.add_comm, isBoundary_cons_add, ih]

theorem isBoundary_append_right {s : List Char} (post : List Char) {k : Nat}
    (h : isBoundary s k = true) : isBoundary (s ++ post) k = true := by
  induction s generalizing k with
  | nil => rw [isBoundary_nil_inv h]; exact isBoundary_zero _
  | cons c s ih =>
    rcases isBoundary_cons_inv h with rfl | ⟨k, rfl, hk⟩
    · rfl
    · rw [List.cons_append, isBoundary_cons_add]; exact ih hk

theorem dropBytes_some {cs : List Char} {n : Nat} {r : List Char} (h : dropBytes cs n = some r) :
    ∃ pre, cs = pre ++ r ∧ byteLen pre = n := by
  fun_induction dropBytes cs n with
  | case1 cs => cases h; exact ⟨[], rfl, rfl⟩
  | case2 => cases h
  | case3 => cases h
  | case4 c cs n hlt ih =>
    obtain ⟨pre, rfl, h2⟩ := ih h
    exact ⟨c :: pre, rfl, by rw [byteLen, h2]; omega⟩

theorem takeBytes_some {cs : List Char} {n : Nat} {s : List Char} (h : takeBytes cs n = some s) :
    ∃ post, cs = s ++ post ∧ byteLen s = n := by
  fun_induction takeBytes cs n generalizing s with
  | case1 cs => cases h; exact ⟨cs, rfl, rfl⟩
  | case2 => cases h
  | case3 => cases h
  | case4 c cs n hlt ih =>
    obtain ⟨s', hs', rfl⟩ := Option.map_eq_some_iff.mp h
    obtain ⟨post, rfl, h2⟩ := ih hs'
    exact ⟨post, rfl, by rw [byteLen, h2]; omega⟩

theorem slice_some {file : List Char} {sp : Span} {s : List Char} (h : slice file sp = some s) :
    ∃ pre post, file = pre ++ s ++ post ∧ byteLen pre = sp.lo ∧ sp.lo + byteLen s = sp.hi := by
  unfold slice at h
  split at h
  · obtain ⟨r, hd, ht⟩ := Option.bind_eq_some_iff.mp h
    obtain ⟨pre, rfl, h2⟩ := dropBytes_some hd
    obtain ⟨post, rfl, h4⟩ := takeBytes_some ht
    exact ⟨pre, post, (List.append_assoc ..).symm, h2, by omega⟩
  · cases h

def Tok.OnBoundaries (t : Tok) (cs : List Char) (cur : Nat) : Prop :=
  ∃ k, t.pos = cur + k ∧ isBoundary cs k = true ∧ isBoundary cs (k + t.kind.utf8Size) = true

theorem Tok.OnBoundaries.head {kind c : Char} (h : kind.utf8Size = c.utf8Size) (cs : List Char)
    (cur : Nat) : Tok.OnBoundaries ⟨kind, cur⟩ (c :: cs) cur :=
  ⟨0, rfl, rfl, by rw [h, isBoundary_cons_add]; exact isBoundary_zero cs⟩

theorem Tok.OnBoundaries.tail {t : Tok} {c : Char} {cs : List Char} {cur w : Nat}
    (hw : c.utf8Size = w) (h : t.OnBoundaries cs (cur + w)) : t.OnBoundaries (c :: cs) cur := by
  obtain ⟨k, hp, h1, h2⟩ := h
  subst hw
  refine ⟨k + c.utf8Size, by omega, ?_, ?_⟩
  · rw [isBoundary_cons_add]; exact h1
  · rw [Nat.add_right_comm, isBoundary_cons_add]; exact h2

/-- `TokenLexer::next` turns form feed, `\r` and `\r\n` into `\n`; all of these are one byte wide,
    and for `\r\n` the token sits on the `\n`. -/
theorem tokenize_onBoundaries {cs : List Char} {cur : Nat} {t : Tok} (h : t ∈ tokenize cs cur) :
    t.OnBoundaries cs cur := by
  fun_induction tokenize cs cur with
  | case1 => cases h
  | case2 cs cur ih =>  -- form feed
    rcases List.mem_cons.mp h with rfl | h
    · exact .head (by rfl) cs cur
    · exact .tail rfl (ih h)
  | case3 cur _ =>  -- `\r` at the end of the text
    cases List.mem_singleton.mp h
    exact .head (by rfl) [] cur
  | case4 cur cs' _ ih =>  -- `\r\n`
    rcases List.mem_cons.mp h with rfl | h
    · exact .tail rfl (.head rfl cs' (cur + 1))
    · exact .tail rfl (.tail rfl (ih h))
  | case5 cur d cs' _ _ ih =>  -- `\r` before another character
    rcases List.mem_cons.mp h with rfl | h
    · exact .head (by rfl) _ cur
    · exact .tail rfl (ih h)
  | case6 c cs cur _ _ ih =>
    rcases List.mem_cons.mp h with rfl | h
    · exact .head rfl cs cur
    · exact .tail rfl (ih h)

theorem tokenize0_inv {cs : List Char} {t : Tok} (h : t ∈ tokenize cs 0) :
    isBoundary cs t.pos = true ∧ isBoundary cs t.stop = true ∧ t.stop ≤ byteLen cs := by
  obtain ⟨k, hp, h1, h2⟩ := tokenize_onBoundaries h
  rw [Nat.zero_add] at hp
  rw [Tok.stop, hp]
  exact ⟨h1, h2, isBoundary_le h2⟩

/-! ### the lexer invariants -/

/-- A span of a text of `n` bytes. -/
def Span.InFile (sp : Span) (n : Nat) : Prop :=
  sp.lo ≤ sp.hi ∧ sp.hi ≤ n

def Span.Inside (sp outer : Span) : Prop :=
  outer.lo ≤ sp.lo ∧ sp.hi ≤ outer.hi

/-- Both ends are character boundaries of the file's text: what `File::find_line_col` (codemap
    lib.rs:253) needs in order not to panic. -/
def Span.OnBoundaries (sp : Span) (file : List Char) : Prop :=
  isBoundary file sp.lo = true ∧ isBoundary file sp.hi = true

/-- Offsets stay inside the source span, which lies inside the file (`n` = file length). -/
structure Lexer.Fits (lx : Lexer) (n : Nat) : Prop where
  ent : lx.entire.InFile n
  toks : lx.isExpanded = false → ∀ t ∈ lx.buf, t.stop ≤ lx.entire.len

structure Lexer.Aligned (lx : Lexer) (file : List Char) : Prop where
  ent : lx.entire.OnBoundaries file
  toks : lx.isExpanded = false → ∀ t ∈ lx.buf,
    isBoundary file (lx.entire.lo + t.pos) = true ∧ isBoundary file (lx.entire.lo + t.stop) = true

theorem Lexer.Fits.tok_le {lx : Lexer} {n : Nat} (h : lx.Fits n) (hx : lx.isExpanded = false)
    {t : Tok} (ht : t ∈ lx.buf) : lx.entire.lo + t.stop ≤ lx.entire.hi := by
  have h1 : t.stop ≤ lx.entire.hi - lx.entire.lo := h.toks hx t ht
  have h2 := h.ent.1
  omega

/-- `span_at_index` (lexer.rs:38-53) returns the whole source span (expanded), the span of a token
    of the buffer, or — for an empty buffer — the empty span at the start of the source span. -/
theorem spanAtIndex_elim {lx : Lexer} {n : Nat} (h : lx.Fits n) {Q : Span → Prop}
    (hent : Q lx.entire)
    (htok : lx.isExpanded = false → ∀ t ∈ lx.buf, Q ⟨lx.entire.lo + t.pos, lx.entire.lo + t.stop⟩)
    (hempty : Q ⟨lx.entire.lo, lx.entire.lo⟩) (idx : Nat) :
    ∃ sp, lx.spanAtIndex idx = some sp ∧ Q sp := by
  unfold Lexer.spanAtIndex
  cases hx : lx.isExpanded with
  | true => exact ⟨_, rfl, hent⟩
  | false =>
    have tok : ∀ t ∈ lx.buf, ∃ sp, lx.entire.subspan t.pos t.stop = some sp ∧ Q sp :=
      fun t ht => ⟨_, if_pos ⟨Nat.le_add_right .., h.tok_le hx ht⟩, htok hx t ht⟩
    rw [if_neg Bool.false_ne_true]
    split
    · exact tok _ (List.mem_of_getElem? ‹_›)
    · split
      · exact tok _ (List.mem_of_getLast? ‹_›)
      · exact ⟨_, if_pos ⟨Nat.le_refl 0, h.ent.1⟩, hempty⟩

theorem spanAtIndex_inFile {lx : Lexer} {n : Nat} (h : lx.Fits n) (idx : Nat) :
    ∃ sp, lx.spanAtIndex idx = some sp ∧ sp.InFile n ∧ sp.Inside lx.entire := by
  have ⟨h1, h2⟩ := h.ent
  refine spanAtIndex_elim h ⟨h.ent, Nat.le_refl _, Nat.le_refl _⟩ (fun hx t ht => ?_)
    ⟨⟨Nat.le_refl _, Nat.le_trans h1 h2⟩, Nat.le_refl _, h1⟩ idx
  have h3 := h.tok_le hx ht
  exact ⟨⟨Nat.add_le_add_left (Nat.le_add_right ..) _, Nat.le_trans h3 h2⟩, Nat.le_add_right .., h3⟩

theorem spanAtIndex_onBoundaries {lx : Lexer} {file : List Char} (h : lx.Fits (byteLen file))
    (a : lx.Aligned file) (idx : Nat) :
    ∃ sp, lx.spanAtIndex idx = some sp ∧ sp.OnBoundaries file :=
  spanAtIndex_elim h a.ent a.toks ⟨a.ent.1, a.ent.1⟩ idx

theorem merge_inFile {a b : Span} {n : Nat} (ha : a.InFile n) (hb : b.InFile n) :
    (a.merge b).InFile n :=
  ⟨Nat.le_trans (Nat.min_le_left ..) (Nat.le_trans ha.1 (Nat.le_max_left ..)),
    Nat.max_le.mpr ⟨ha.2, hb.2⟩⟩

theorem merge_inside {a b outer : Span} (ha : a.Inside outer) (hb : b.Inside outer) :
    (a.merge b).Inside outer :=
  ⟨Nat.le_min.mpr ⟨ha.1, hb.1⟩, Nat.max_le.mpr ⟨ha.2, hb.2⟩⟩

theorem merge_onBoundaries {a b : Span} {file : List Char} (ha : a.OnBoundaries file)
    (hb : b.OnBoundaries file) : (a.merge b).OnBoundaries file := by
  refine ⟨?_, ?_⟩
  · show isBoundary file (min a.lo b.lo) = true
    rw [Nat.min_def]; split
    · exact ha.1
    · exact hb.1
  · show isBoundary file (max a.hi b.hi) = true
    rw [Nat.max_def]; split
    · exact hb.2
    · exact ha.2

theorem fits_setCursor {lx : Lexer} {n : Nat} (c : Nat) (h : lx.Fits n) : (lx.setCursor c).Fits n :=
  ⟨h.ent, h.toks⟩

theorem aligned_setCursor {lx : Lexer} {file : List Char} (c : Nat) (h : lx.Aligned file) :
    (lx.setCursor c).Aligned file := ⟨h.ent, h.toks⟩

theorem fits_ofFile (file : List Char) : (Lexer.ofFile file).Fits (byteLen file) :=
  ⟨⟨Nat.zero_le _, Nat.le_refl _⟩, fun _ _ ht => (tokenize0_inv ht).2.2⟩

theorem aligned_ofFile (file : List Char) : (Lexer.ofFile file).Aligned file := by
  refine ⟨⟨isBoundary_zero _, isBoundary_byteLen _⟩, fun _ t ht => ?_⟩
  have := tokenize0_inv ht
  simp only [Lexer.ofFile, Nat.zero_add]
  exact ⟨this.1, this.2.1⟩

theorem slice_of_not_expanded {file s : List Char} {entire : Span}
    (hx : isExpandedBy .whenTextDiffers file s entire = false) : slice file entire = some s :=
  Decidable.of_not_not (of_decide_eq_false hx)

theorem byteLen_le_of_not_expanded {rule : ExpandRule} {file s : List Char} {entire : Span}
    (hx : isExpandedBy rule file s entire = false) : byteLen s ≤ entire.len := by
  cases rule with
  | onlyWhenLonger => exact Nat.le_of_not_lt (of_decide_eq_false hx)
  | whenLengthDiffers => exact Nat.le_of_eq (Decidable.of_not_not (of_decide_eq_false hx))
  | whenTextDiffers =>
    obtain ⟨pre, post, _, h1, h2⟩ := slice_some (slice_of_not_expanded hx)
    rw [Span.len]; omega

theorem fits_ofString (rule : ExpandRule) (file s : List Char) {entire : Span}
    (he : entire.lo ≤ entire.hi ∧ entire.hi ≤ byteLen file) :
    (Lexer.ofString rule file s entire).Fits (byteLen file) :=
  ⟨he, fun hx _ ht => Nat.le_trans (tokenize0_inv ht).2.2 (byteLen_le_of_not_expanded hx)⟩

theorem aligned_ofString_textDiffers (file s : List Char) {entire : Span}
    (hb : entire.OnBoundaries file) :
    (Lexer.ofString .whenTextDiffers file s entire).Aligned file := by
  refine ⟨hb, fun hx t ht => ?_⟩
  obtain ⟨pre, post, rfl, h1, _⟩ := slice_some (slice_of_not_expanded hx)
  have ht' := tokenize0_inv ht
  show isBoundary _ (entire.lo + _) = true ∧ isBoundary _ (entire.lo + _) = true
  rw [← h1, List.append_assoc, isBoundary_append_left, isBoundary_append_left]
  exact ⟨isBoundary_append_right _ ht'.1, isBoundary_append_right _ ht'.2.1⟩

/-! ### the codemap look-up -/

theorem lineColAux_isSome {cs : List Char} {n : Nat} (l c : Nat) (h : isBoundary cs n = true) :
    (lineColAux cs n l c).isSome = true := by
  fun_induction lineColAux cs n l c with
  | case1 => rfl
  | case2 => cases h
  | case3 ch cs n l c hlt => rw [isBoundary, if_pos hlt] at h; cases h
  | case4 cs n l c hlt ih => rw [isBoundary, if_neg hlt] at h; exact ih h
  | case5 ch cs n l c hlt _ ih => rw [isBoundary, if_neg hlt] at h; exact ih h

theorem lineColAux_mem {cs : List Char} {n l c : Nat} {p : Nat × Nat}
    (h : lineColAux cs n l c = some p) : p ∈ positionsAux cs l c := by
  fun_induction lineColAux cs n l c with
  | case1 cs l c => cases h; cases cs <;> exact List.mem_cons_self ..
  | case2 => cases h
  | case3 => cases h
  | case4 cs n l c _ ih => rw [positionsAux, if_pos rfl]; exact List.mem_cons_of_mem _ (ih h)
  | case5 ch cs n l c _ hnl ih => rw [positionsAux, if_neg hnl]; exact List.mem_cons_of_mem _ (ih h)

theorem lexLe_trans {a b c : Nat × Nat} (h1 : lexLe a b = true) (h2 : lexLe b c = true) :
    lexLe a c = true := by
  simp only [lexLe, Bool.or_eq_true, decide_eq_true_eq, Bool.and_eq_true, beq_iff_eq] at *
  omega

theorem positionsAux_ge {cs : List Char} {l c : Nat} {p : Nat × Nat}
    (h : p ∈ positionsAux cs l c) : lexLe (l, c) p = true := by
  induction cs generalizing l c with
  | nil => cases List.mem_singleton.mp h; simp [lexLe]
  | cons ch cs ih =>
    rw [positionsAux] at h
    rcases List.mem_cons.mp h with rfl | h
    · simp [lexLe]
    · split at h
      · exact lexLe_trans (by simp [lexLe]) (ih h)
      · exact lexLe_trans (by simp [lexLe]) (ih h)

theorem lineColAux_cons_of_le {ch : Char} (cs : List Char) {n : Nat} (l c : Nat)
    (h : ch.utf8Size ≤ n) :
    lineColAux (ch :: cs) n l c =
      if ch = '\n' then lineColAux cs (n - ch.utf8Size) (l + 1) 0
      else lineColAux cs (n - ch.utf8Size) l (c + 1) := by
  have hp := ch.utf8Size_pos
  obtain ⟨m, rfl⟩ : ∃ m, n = m + 1 := ⟨n - 1, by omega⟩
  rw [lineColAux, if_neg (by omega)]

theorem lineColAux_mono {cs : List Char} {lo hi l c : Nat} {p q : Nat × Nat} (hle : lo ≤ hi)
    (hp : lineColAux cs lo l c = some p) (hq : lineColAux cs hi l c = some q) :
    lexLe p q = true := by
  fun_induction lineColAux cs lo l c generalizing hi with
  | case1 => cases hp; exact positionsAux_ge (lineColAux_mem hq)
  | case2 => cases hp
  | case3 => cases hp
  | case4 cs n l c hlt ih =>
    rw [lineColAux_cons_of_le _ _ _ (Nat.le_trans (Nat.le_of_not_lt hlt) hle), if_pos rfl] at hq
    exact ih (Nat.sub_le_sub_right hle _) hp hq
  | case5 ch cs n l c hlt hnl ih =>
    rw [lineColAux_cons_of_le _ _ _ (Nat.le_trans (Nat.le_of_not_lt hlt) hle), if_neg hnl] at hq
    exact ih (Nat.sub_le_sub_right hle _) hp hq

theorem lookUpSpan_ok {file : List Char} {sp : Span} (hle : sp.lo ≤ sp.hi)
    (hb : sp.OnBoundaries file) :
    ∃ b e, lookUpSpan file sp = some (b, e) ∧ spanLocOk file b e = true := by
  obtain ⟨b, hlo⟩ := Option.isSome_iff_exists.mp (lineColAux_isSome 0 0 hb.1)
  obtain ⟨e, hhi⟩ := Option.isSome_iff_exists.mp (lineColAux_isSome 0 0 hb.2)
  refine ⟨b, e, by simp only [lookUpSpan, lookUpPos, hlo, hhi], ?_⟩
  simp only [spanLocOk, positions, List.contains_iff_mem, Bool.and_eq_true]
  exact ⟨⟨lineColAux_mem hlo, lineColAux_mem hhi⟩, lineColAux_mono hle hlo hhi⟩

end Grass.Diag
