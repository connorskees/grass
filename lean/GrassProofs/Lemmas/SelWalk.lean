import Grass.Selector
import GrassProofs.Lemmas.SelSem
import GrassProofs.Lemmas.SelGen
/-
  Soundness of the superselector walk of complex.rs:141 (`walk false`) for any sound compound test
  `sup`.  Invariant: `RelOK prev q' q` relates the anchors of the superselector's and the
  subselector's current compounds according to the combinator `prev` the superselector just crossed.
-/
namespace Grass.Selector

/-! ### the step relations as suffix facts -/

theorem mem_splits {α : Type} (x : α) (t : List α) : ∀ (l : List α), (x, t) ∈ splits l ↔ (x :: t) <:+ l := by
  intro l
  induction l with
  | nil => simp [splits]
  | cons y ys ih =>
    simp only [splits, List.mem_cons, Prod.mk.injEq, ih, List.suffix_cons_iff]
    constructor
    · rintro (⟨a, b⟩ | h)
      · left; rw [a, b]
      · right; exact h
    · rintro (h | h)
      · left; injection h with a b; exact ⟨a, b⟩
      · right; exact h

theorem mem_steps_child (q p : Ctx) : q ∈ steps .child p ↔ p.anc = q.cur :: q.anc := by
  obtain ⟨qc, qa⟩ := q
  simp only [steps]
  split
  · rename_i h; simp [h]
  · rename_i l anc h
    simp only [h, List.mem_singleton, Ctx.mk.injEq, List.cons.injEq]
    constructor
    · rintro ⟨a, b⟩; exact ⟨a.symm, b.symm⟩
    · rintro ⟨a, b⟩; exact ⟨a.symm, b.symm⟩

theorem mem_steps_desc (q p : Ctx) : q ∈ steps .desc p ↔ (q.cur :: q.anc) <:+ p.anc := by
  obtain ⟨qc, qa⟩ := q
  simp only [steps, List.mem_map]
  constructor
  · rintro ⟨⟨l, anc⟩, hm, e⟩
    injection e with a b; subst a b
    exact (mem_splits _ _ _).1 hm
  · intro h
    exact ⟨(qc, qa), (mem_splits _ _ _).2 h, rfl⟩

theorem mem_steps_next (q p : Ctx) :
    q ∈ steps .next p ↔ q.anc = p.anc ∧ p.cur.sibs = q.cur.el :: q.cur.sibs := by
  obtain ⟨⟨qe, qs⟩, qa⟩ := q
  simp only [steps]
  split
  · rename_i h; simp [h]
  · rename_i s ss h
    simp only [h, List.mem_singleton, Ctx.mk.injEq, Level.mk.injEq, List.cons.injEq]
    constructor
    · rintro ⟨⟨a, b⟩, c⟩; exact ⟨c, a.symm, b.symm⟩
    · rintro ⟨c, a, b⟩; exact ⟨⟨a.symm, b.symm⟩, c⟩

theorem mem_steps_later (q p : Ctx) :
    q ∈ steps .later p ↔ q.anc = p.anc ∧ (q.cur.el :: q.cur.sibs) <:+ p.cur.sibs := by
  obtain ⟨⟨qe, qs⟩, qa⟩ := q
  simp only [steps, List.mem_map]
  constructor
  · rintro ⟨⟨s, ss⟩, hm, e⟩
    injection e with a b
    injection a with a1 a2
    subst a1 a2 b
    exact ⟨rfl, (mem_splits _ _ _).1 hm⟩
  · rintro ⟨a, h⟩
    subst a
    exact ⟨(qe, qs), (mem_splits _ _ _).2 h, rfl⟩

def anyRel (q' q : Ctx) : Prop := q.anc <:+ q'.anc
/-- `q` is `q'` or one of its preceding siblings -/
def sibRel (q' q : Ctx) : Prop := q.anc = q'.anc ∧ (q.cur.el :: q.cur.sibs) <:+ (q'.cur.el :: q'.cur.sibs)

def RelOK : Option Rel → Ctx → Ctx → Prop
  | none, _, _ => True
  | some .desc, q', q => anyRel q' q
  | some .child, q', q => q' = q
  | some .next, q', q => q' = q
  | some .later, q', q => sibRel q' q

theorem anyRel_refl (q : Ctx) : anyRel q q := List.suffix_refl _
theorem sibRel_refl (q : Ctx) : sibRel q q := ⟨rfl, List.suffix_refl _⟩
theorem anyRel_trans {a b c : Ctx} (h1 : anyRel a b) (h2 : anyRel b c) : anyRel a c := List.IsSuffix.trans h2 h1
theorem sibRel_trans {a b c : Ctx} (h1 : sibRel a b) (h2 : sibRel b c) : sibRel a c :=
  ⟨h2.1.trans h1.1, List.IsSuffix.trans h2.2 h1.2⟩
theorem sibRel_any {a b : Ctx} (h : sibRel a b) : anyRel a b := by
  unfold anyRel; rw [h.1]; exact List.suffix_refl _

theorem step_anyRel {r : Rel} {q q2 : Ctx} (h : q ∈ steps r q2) : anyRel q2 q := by
  unfold anyRel
  cases r with
  | desc => exact List.IsSuffix.trans (List.suffix_cons _ _) ((mem_steps_desc _ _).1 h)
  | child => rw [(mem_steps_child _ _).1 h]; exact List.suffix_cons _ _
  | next => rw [((mem_steps_next _ _).1 h).1]; exact List.suffix_refl _
  | later => rw [((mem_steps_later _ _).1 h).1]; exact List.suffix_refl _

theorem step_sibRel {cb : Comb} {q q2 : Ctx} (hcb : cb ≠ .child) (h : q ∈ steps cb.rel q2) : sibRel q2 q := by
  cases cb with
  | child => exact absurd rfl hcb
  | next =>
    obtain ⟨a, b⟩ := (mem_steps_next _ _).1 h
    exact ⟨a, by rw [b]; exact List.suffix_cons _ _⟩
  | later =>
    obtain ⟨a, b⟩ := (mem_steps_later _ _).1 h
    exact ⟨a, List.IsSuffix.trans b (List.suffix_cons _ _)⟩

theorem later_of_sib {cb2 : Comb} {q2' q2 qD : Ctx} (hcb : cb2 ≠ .child) (hr : sibRel q2' q2)
    (h : qD ∈ steps cb2.rel q2) : qD ∈ steps .later q2' := by
  rw [mem_steps_later]
  have hs : (qD.cur.el :: qD.cur.sibs) <:+ q2.cur.sibs ∧ qD.anc = q2.anc := by
    cases cb2 with
    | child => exact absurd rfl hcb
    | next => obtain ⟨a, b⟩ := (mem_steps_next _ _).1 h; exact ⟨by rw [b]; exact List.suffix_refl _, a⟩
    | later => obtain ⟨a, b⟩ := (mem_steps_later _ _).1 h; exact ⟨b, a⟩
  refine ⟨hs.2.trans hr.1, ?_⟩
  have h1 : (qD.cur.el :: qD.cur.sibs) <:+ (q2'.cur.el :: q2'.cur.sibs) :=
    List.IsSuffix.trans hs.1 (List.IsSuffix.trans (List.suffix_cons _ _) hr.2)
  rcases List.suffix_cons_iff.1 h1 with e | h2
  · exfalso
    have l1 := hs.1.length_le
    have l2 := hr.2.length_le
    have l3 := congrArg List.length e
    simp only [List.length_cons] at l1 l2 l3
    omega
  · exact h2

theorem desc_of_any {q2' q2 qD : Ctx} (hr : anyRel q2' q2)
    (h : qD ∈ steps .desc q2 ∨ qD ∈ steps .child q2) : qD ∈ steps .desc q2' := by
  rw [mem_steps_desc]
  rcases h with h | h
  · exact List.IsSuffix.trans ((mem_steps_desc _ _).1 h) hr
  · have := (mem_steps_child _ _).1 h
    unfold anyRel at hr; rw [this] at hr; exact hr

/-! ### what a skipped prefix of the subselector does to the anchor -/

/-- the last conjunct is what the `parents` argument of complex.rs:172/192 stands for -/
theorem skip_prefix (d : Compound) (brest : Complex) (p : Ctx) :
    ∀ (sk : Complex) (q : Ctx), Anchored mComp (sk ++ .compound d :: brest) q p →
      ∃ qD, Anchored mComp (.compound d :: brest) qD p ∧ anyRel qD q ∧ (sibChain sk = true → sibRel qD q) ∧
        (sk = [] → qD = q) ∧ (sk ≠ [] → Anchored mComp (sk ++ [.compound d]) q qD)
  | [], q, h => ⟨q, h, anyRel_refl q, fun _ => sibRel_refl q, fun _ => rfl, fun hne => absurd rfl hne⟩
  | .comb cb :: _, _, h => absurd h anchored_comb_head
  | [.compound c], q, h => by
    obtain ⟨hc, q2, hq, hl2⟩ := anchored_desc.1 h
    refine ⟨q2, hl2, step_anyRel hq, by simp [sibChain], by simp, fun _ => ?_⟩
    exact anchored_desc.2 ⟨hc, q2, hq, anchored_single.2 ⟨rfl, anchored_head hl2⟩⟩
  | .compound c :: .comb cb :: sk', q, h => by
    obtain ⟨hc, q2, hq, hl2⟩ := anchored_comb.1 h
    obtain ⟨qD, h1, h2, h3, h4, h5⟩ := skip_prefix d brest p sk' q2 hl2
    refine ⟨qD, h1, anyRel_trans h2 (step_anyRel hq), ?_, by simp, fun _ => ?_⟩
    · intro hs
      simp only [sibChain, Bool.and_eq_true, bne_iff_ne, ne_eq] at hs
      exact sibRel_trans (h3 hs.2) (step_sibRel hs.1 hq)
    · refine anchored_comb.2 ⟨hc, q2, hq, ?_⟩
      by_cases hsk : sk' = []
      · subst hsk
        have := h4 rfl
        subst this
        exact anchored_single.2 ⟨rfl, anchored_head h1⟩
      · exact h5 hsk
  | .compound c :: .compound c' :: sk', q, h => by
    obtain ⟨hc, q2, hq, hl2⟩ := anchored_desc.1 h
    obtain ⟨qD, h1, h2, _, _, h5⟩ := skip_prefix d brest p (.compound c' :: sk') q2 hl2
    refine ⟨qD, h1, anyRel_trans h2 (step_anyRel hq), by simp [sibChain], by simp, fun _ => ?_⟩
    exact anchored_desc.2 ⟨hc, q2, hq, h5 (by simp)⟩

/-- what a compound test may assume about its `parents` argument (when they start with a combinator
    every nested walk answers `false`) -/
def Hps (ps : Complex) (d : Compound) (q : Ctx) : Prop :=
  match ps with
  | .comb _ :: _ => True
  | _ => matchesComplex (ps ++ [.compound d]) q = true

theorem Hps_of_match (ps : Complex) (d : Compound) (q : Ctx)
    (h : matchesComplex (ps ++ [.compound d]) q = true) : Hps ps d q := by
  unfold Hps
  split
  · trivial
  · exact h

theorem Hps_of_prefix (sk : Complex) (d : Compound) (q qD : Ctx) (hd : mComp d qD = true)
    (h : sk ≠ [] → Anchored mComp (sk ++ [.compound d]) q qD) : Hps (sk.drop 1) d qD := by
  match sk, h with
  | [], _ => simp [Hps, matchesComplex_iff]; exact ⟨qD, anchored_single.2 ⟨rfl, hd⟩⟩
  | [x], _ => simp [Hps, matchesComplex_iff]; exact ⟨qD, anchored_single.2 ⟨rfl, hd⟩⟩
  | x :: .comb cb :: r, _ => simp [Hps]
  | .comb cb :: .compound c :: r, h => exact absurd (h (by simp)) anchored_comb_head
  | .compound c0 :: .compound c :: r, h =>
    have h' := h (by simp)
    simp only [List.cons_append] at h'
    obtain ⟨_, q2, _, hl2⟩ := anchored_desc.1 h'
    simp only [List.drop_succ_cons, List.drop_zero, Hps]
    exact (matchesComplex_iff _ _).2 ⟨q2, by simpa using hl2⟩

theorem relOK_of_skip {prev : Option Rel} {sk : Complex} {qD q : Ctx} (hok : okSkip prev sk = true)
    (h2 : anyRel qD q) (h3 : sibChain sk = true → sibRel qD q) (h4 : sk = [] → qD = q) : RelOK prev qD q := by
  cases prev with
  | none => trivial
  | some r =>
    cases r with
    | desc => exact h2
    | child => exact h4 (by simpa [okSkip] using hok)
    | next => exact h4 (by simpa [okSkip] using hok)
    | later => exact h3 (by simpa [okSkip] using hok)

theorem sibWindows_chain (d : Compound) (brest : Complex) :
    ∀ (sk : Complex), sibWindows (sk ++ [.compound d]) = true →
      (∃ q p, Anchored mComp (sk ++ .compound d :: brest) q p) → sibChain sk = true
  | [], _, _ => rfl
  | .comb cb :: _, _, ⟨_, _, h⟩ => absurd h anchored_comb_head
  | [.compound c], hw, _ => by simp [sibWindows] at hw
  | .compound c :: .compound c' :: sk', hw, _ => by simp [sibWindows] at hw
  | .compound c :: .comb cb :: sk', hw, ⟨q, p, h⟩ => by
    obtain ⟨_, q2, _, hl2⟩ := anchored_comb.1 h
    simp only [List.cons_append, sibWindows, Bool.and_eq_true, bne_iff_ne, ne_eq] at hw
    have hw' : sibWindows (sk' ++ [.compound d]) = true := by
      match sk', hw.2, hl2 with
      | [], _, _ => simp [sibWindows]
      | .compound c' :: r, hw2, _ => simpa [sibWindows] using hw2
      | .comb cb' :: r, _, hl2 => exact absurd hl2 anchored_comb_head
    simp [sibChain, hw.1, sibWindows_chain d brest sk' hw' ⟨q2, p, hl2⟩]

theorem okSkip_of_compat {prev : Option Rel} {sk : Complex} {d : Compound} {brest : Complex} {q p : Ctx}
    (hc : compatPrev prev (sk ++ [.compound d]) = true) (hlx : Anchored mComp (sk ++ .compound d :: brest) q p) :
    okSkip prev sk = true := by
  cases prev with
  | none => rfl
  | some r =>
    cases r with
    | desc => rfl
    | child =>
      simp only [compatPrev, List.length_append, List.length_cons, List.length_nil, decide_eq_true_eq] at hc
      have : sk = [] := List.eq_nil_of_length_eq_zero (by omega)
      subst this; rfl
    | next =>
      simp only [compatPrev, List.length_append, List.length_cons, List.length_nil, decide_eq_true_eq] at hc
      have : sk = [] := List.eq_nil_of_length_eq_zero (by omega)
      subst this; rfl
    | later =>
      simp only [compatPrev, Bool.or_eq_true, decide_eq_true_eq, List.length_append, List.length_cons,
        List.length_nil] at hc
      rcases hc with hc | hc
      · have : sk = [] := List.eq_nil_of_length_eq_zero (by omega)
        subst this; rfl
      · exact sibWindows_chain d brest sk hc ⟨q, p, hlx⟩

theorem okSkip_nil (prev : Option Rel) : okSkip prev [] = true := by
  cases prev with
  | none => rfl
  | some r => cases r <;> simp [okSkip, sibChain]

/-- after `>`, `+`, `~` in the superselector -/
def strictPrev (prev : Option Rel) : Prop := prev = some .child ∨ prev = some .next ∨ prev = some .later

theorem scan_spec (sup : Compound → Compound → Complex → Bool) (c1 : Compound) :
    ∀ (b sk0 sk : Complex) (d : Compound) (brest : Complex), scan sup c1 sk0 b = some (sk, d, brest) →
      ∃ sk', sk = sk0 ++ sk' ∧ b = sk' ++ .compound d :: brest ∧ sup c1 d (sk.drop 1) = true ∧ brest ≠ [] := by
  intro b
  induction b with
  | nil => intro sk0 sk d brest h; simp [scan] at h
  | cons y tl ih =>
    intro sk0 sk d brest h
    unfold scan at h
    split at h
    · cases h
    · rename_i x xs
      split at h
      · rename_i d'
        split at h
        · rename_i hs
          injection h with h; injection h with h1 h2; injection h2 with h2 h3
          subst h1 h2 h3
          exact ⟨[], by simp, by simp, hs, by simp⟩
        · obtain ⟨sk', e1, e2, e3, e4⟩ := ih _ _ _ _ h
          exact ⟨.compound d' :: sk', by simp [e1], by simp [e2], e3, e4⟩
      · rename_i c
        obtain ⟨sk', e1, e2, e3, e4⟩ := ih _ _ _ _ h
        exact ⟨.comb c :: sk', by simp [e1], by simp [e2], e3, e4⟩

/-! ### soundness of the walk (specified variant: `asFound = false`) -/

theorem getLast_split {α : Type} (b : List α) (d : α) (h : b.getLast? = some d) : b = b.dropLast ++ [d] := by
  obtain ⟨ys, rfl⟩ := List.getLast?_eq_some_iff.1 h
  simp

theorem walk_single_inv {af : Bool} {sup : Compound → Compound → Complex → Bool} {prev : Option Rel}
    {c1 : Compound} {b : Complex} (hw : walk af sup prev [.compound c1] b = true) :
    ∃ d, b.getLast? = some (.compound d) ∧ sup c1 d b.dropLast = true := by
  generalize hb : b = b' at hw
  unfold walk at hw
  split at hw
  · split at hw
    · rename_i d hlast
      exact ⟨d, hb ▸ hlast, hb ▸ hw⟩
    · cases hw
  · cases hw

theorem walk_comb_inv {sup : Compound → Compound → Complex → Bool} {prev : Option Rel} {c1 : Compound}
    {cb1 : Comb} {a' b : Complex} (hw : walk false sup prev (.compound c1 :: .comb cb1 :: a') b = true) :
    ∃ sk d cb2 brest', b = sk ++ .compound d :: .comb cb2 :: brest' ∧ sup c1 d (sk.drop 1) = true ∧
      compatPrev prev (sk ++ [.compound d]) = true ∧ combClash cb1 cb2 = false ∧
      -- the `remaining1 == 3 && remaining2 > 3` guard of complex.rs:237
      (a'.length = 1 → brest'.length ≤ 1) ∧ walk false sup (some cb1.rel) a' brest' = true := by
  unfold walk at hw
  split at hw
  · cases hw
  · split at hw
    · split at hw
      · cases hw
      · rename_i sk d brest hscan
        split at hw
        · cases hw
        · rename_i hok
          split at hw
          · rename_i cb2 brest'
            split at hw
            · cases hw
            · rename_i hclash
              split at hw
              · cases hw
              · rename_i hguard
                obtain ⟨sk', e1, e2, e3, _⟩ := scan_spec sup c1 _ [] sk d _ hscan
                rw [List.nil_append] at e1
                subst e1
                refine ⟨sk, d, cb2, brest', e2, e3, by simpa using hok, by simpa using hclash, fun ha1 => ?_, hw⟩
                rw [e2] at hguard
                have : ¬ ((sk ++ .compound d :: .comb cb2 :: brest').length > 3) :=
                  fun hgt => hguard (by simp only [ha1, hgt]; rfl)
                simp only [List.length_append, List.length_cons] at this
                omega
          · cases hw
    · cases hw

theorem walk_desc_inv {sup : Compound → Compound → Complex → Bool} {prev : Option Rel} {c1 c2 : Compound}
    {a'' b : Complex} (hw : walk false sup prev (.compound c1 :: .compound c2 :: a'') b = true) :
    ∃ sk d brest brest', b = sk ++ .compound d :: brest ∧ sup c1 d (sk.drop 1) = true ∧
      compatPrev prev (sk ++ [.compound d]) = true ∧
      (brest = .comb .child :: brest' ∨ (brest = brest' ∧ ∃ e r, brest = .compound e :: r)) ∧
      walk false sup (some .desc) (.compound c2 :: a'') brest' = true := by
  unfold walk at hw
  split at hw
  · cases hw
  · split at hw
    · split at hw
      · cases hw
      · rename_i sk d brest hscan
        obtain ⟨sk', e1, e2, e3, e4⟩ := scan_spec sup c1 _ [] sk d brest hscan
        rw [List.nil_append] at e1
        subst e1
        split at hw
        · cases hw
        · rename_i hok
          split at hw
          · rename_i cb2 brest'
            split at hw
            · cases hw
            · rename_i hcb
              have hcb : cb2 = .child := by simpa using hcb
              subst hcb
              exact ⟨sk, d, _, brest', e2, e3, by simpa using hok, Or.inl rfl, hw⟩
          · rename_i hnc
            refine ⟨sk, d, brest, brest, e2, e3, by simpa using hok, Or.inr ⟨rfl, ?_⟩, hw⟩
            match brest, e4, hnc with
            | [], e4, _ => exact absurd rfl e4
            | .comb cb :: r, _, hnc => exact absurd rfl (hnc cb r)
            | .compound e :: r, _, _ => exact ⟨e, r, rfl⟩
    · cases hw

theorem anchor_of_skip {sup : Compound → Compound → Complex → Bool}
    (hsup : ∀ c d ps q, sup c d ps = true → mComp d q = true → Hps ps d q → mComp c q = true)
    {prev : Option Rel} {c1 d : Compound} {sk brest : Complex} {q p : Ctx}
    (hs : sup c1 d (sk.drop 1) = true) (hok : okSkip prev sk = true)
    (hb : Anchored mComp (sk ++ .compound d :: brest) q p) :
    ∃ qD, Anchored mComp (.compound d :: brest) qD p ∧ mComp c1 qD = true ∧ RelOK prev qD q := by
  obtain ⟨qD, h1, h2, h3, h4, h5⟩ := skip_prefix d brest p sk q hb
  have hd := anchored_head h1
  exact ⟨qD, h1, hsup c1 d _ qD hs hd (Hps_of_prefix sk d q qD hd h5), relOK_of_skip hok h2 h3 h4⟩

theorem step_of_relOK {cb1 cb2 : Comb} {q2' q2 qD : Ctx} (hclash : combClash cb1 cb2 = false)
    (hrel : RelOK (some cb1.rel) q2' q2) (hq : qD ∈ steps cb2.rel q2) : qD ∈ steps cb1.rel q2' := by
  cases cb1 with
  | child =>
    cases hrel
    cases cb2 <;> simp [combClash] at hclash
    exact hq
  | next =>
    cases hrel
    cases cb2 <;> simp [combClash] at hclash
    exact hq
  | later =>
    have : cb2 ≠ .child := by
      intro e; subst e; simp [combClash] at hclash
    exact later_of_sib this hrel hq

/-- the length hypothesis is what the guard of complex.rs:237 leaves for the recursive call -/
theorem walk_sound (sup : Compound → Compound → Complex → Bool)
    (hsup : ∀ c d ps q, sup c d ps = true → mComp d q = true → Hps ps d q → mComp c q = true) :
    ∀ (a : Complex) (prev : Option Rel) (b : Complex),
      (strictPrev prev → a.length = 1 → b.length ≤ 1) →
      walk false sup prev a b = true →
      ∀ q p, Anchored mComp b q p → ∃ q', Anchored mComp a q' p ∧ RelOK prev q' q
  | [], _, _, _, hw, _, _, _ => by simp [walk] at hw
  | .comb _ :: _, _, _, _, hw, _, _, _ => by simp [walk] at hw
  | [.compound c1], prev, b, hinv, hw, q, p, hb => by
    obtain ⟨d, hlast, hs⟩ := walk_single_inv hw
    have hok : okSkip prev b.dropLast = true := by
      by_cases hs : strictPrev prev
      · have : b.dropLast = [] := List.eq_nil_of_length_eq_zero (by have := hinv hs rfl; simp; omega)
        rw [this]; exact okSkip_nil prev
      · match prev, hs with
        | none, _ => rfl
        | some .desc, _ => rfl
        | some .child, hs => exact absurd (Or.inl rfl) hs
        | some .next, hs => exact absurd (Or.inr (Or.inl rfl)) hs
        | some .later, hs => exact absurd (Or.inr (Or.inr rfl)) hs
    rw [getLast_split b _ hlast] at hb
    have hps : Hps b.dropLast d p := Hps_of_match _ _ _ ((matchesComplex_iff _ _).2 ⟨q, hb⟩)
    obtain ⟨qD, h1, h2, h3, h4, _⟩ := skip_prefix d [] p b.dropLast q hb
    obtain ⟨rfl, hd⟩ := anchored_single.1 h1
    exact ⟨qD, anchored_single.2 ⟨rfl, hsup c1 d _ qD hs hd hps⟩, relOK_of_skip hok h2 h3 h4⟩
  | .compound c1 :: .comb cb1 :: a', prev, b, _, hw, q, p, hb => by
    obtain ⟨sk, d, cb2, brest', rfl, hs, hcomp, hclash, hguard, hw'⟩ := walk_comb_inv hw
    obtain ⟨qD, h1, hc1, hrel⟩ := anchor_of_skip hsup hs (okSkip_of_compat hcomp hb) hb
    obtain ⟨_, q2, hq2, hrest⟩ := anchored_comb.1 h1
    obtain ⟨q2', hl', hrel'⟩ := walk_sound sup hsup a' (some cb1.rel) brest' (fun _ => hguard) hw' q2 p hrest
    exact ⟨qD, anchored_comb.2 ⟨hc1, q2', step_of_relOK hclash hrel' hq2, hl'⟩, hrel⟩
  | .compound c1 :: .compound c2 :: a'', prev, b, _, hw, q, p, hb => by
    obtain ⟨sk, d, brest, brest', rfl, hs, hcomp, hshape, hw'⟩ := walk_desc_inv hw
    obtain ⟨qD, h1, hc1, hrel⟩ := anchor_of_skip hsup hs (okSkip_of_compat hcomp hb) hb
    have hrec := fun q2 => walk_sound sup hsup (.compound c2 :: a'') (some .desc) brest'
      (fun hs => by rcases hs with h | h | h <;> cases h) hw' q2 p
    rcases hshape with rfl | ⟨rfl, e, r, rfl⟩
    · obtain ⟨_, q2, hq2, hrest⟩ := anchored_comb.1 h1
      obtain ⟨q2', hl', hrel'⟩ := hrec q2 hrest
      exact ⟨qD, anchored_desc.2 ⟨hc1, q2', desc_of_any hrel' (Or.inr hq2), hl'⟩, hrel⟩
    · obtain ⟨_, q2, hq2, hrest⟩ := anchored_desc.1 h1
      obtain ⟨q2', hl', hrel'⟩ := hrec q2 hrest
      exact ⟨qD, anchored_desc.2 ⟨hc1, q2', desc_of_any hrel' (Or.inl hq2), hl'⟩, hrel⟩

theorem walk_sound_top (sup : Compound → Compound → Complex → Bool)
    (hsup : ∀ c d ps q, sup c d ps = true → mComp d q = true → Hps ps d q → mComp c q = true)
    {A B : Complex} {p : Ctx} (h : walk false sup none A B = true) (hB : matchesComplex B p = true) :
    matchesComplex A p = true := by
  obtain ⟨q, hq⟩ := (matchesComplex_iff B p).1 hB
  obtain ⟨q', hq', _⟩ := walk_sound sup hsup A none B
    (fun hs => by rcases hs with hs | hs | hs <;> cases hs) h q p hq
  exact (matchesComplex_iff A p).2 ⟨q', hq'⟩

/-! ### reflexivity -/

theorem superCompound_eq0 (f : Nat) (af : Bool) (A B : Compound) (ps : Complex) (h : noSelC A = true) :
    superCompound (f + 1) af A B ps = superCompound0 A B := by
  unfold superCompound superCompound0
  congr 1
  refine all_congr_mem fun s hs => ?_
  have hsel := noSelC_mem h hs
  cases s with
  | sel k a => cases hsel
  | _ => rfl

theorem compatPrev_single (prev : Option Rel) (c : Compound) : compatPrev prev [.compound c] = true := by
  cases prev with
  | none => rfl
  | some r => cases r <;> simp [compatPrev]

theorem combClash_self (cb : Comb) : combClash cb cb = false := by cases cb <;> simp [combClash]

theorem walk_refl (af : Bool) (sup : Compound → Compound → Complex → Bool) :
    ∀ (a : Complex) (prev : Option Rel), (fwd a).isSome = true →
      (∀ c, Component.compound c ∈ a → ∀ ps, sup c c ps = true) → walk af sup prev a a = true
  | [], _, hf, _ => by simp [fwd] at hf
  | .comb _ :: _, _, hf, _ => by simp [fwd] at hf
  | [.compound c], _, _, hs => by
    unfold walk
    simp [hs c (by simp)]
  | .compound c :: .comb cb :: a', _, hf, hs => by
    have hf' : (fwd a').isSome = true := by
      simp only [fwd] at hf
      cases h : fwd a' <;> simp_all
    obtain ⟨x, xs, hx⟩ : ∃ x xs, a' = x :: xs := by
      cases a' with
      | nil => simp [fwd] at hf'
      | cons x xs => exact ⟨x, xs, rfl⟩
    have hrec := walk_refl af sup a' (some cb.rel) hf' (fun c hc => hs c (by simp [hc]))
    unfold walk
    simp only [List.length_cons, scan, hs c (by simp), if_true]
    simp [compatPrev_single, combClash_self, hrec]
    omega
  | .compound c :: .compound c2 :: a'', _, hf, hs => by
    have hf' : (fwd (.compound c2 :: a'')).isSome = true := by
      simp only [fwd] at hf
      cases h : fwd (.compound c2 :: a'') <;> simp_all
    have hrec := walk_refl af sup _ (some .desc) hf' (fun c' hc => hs c' (List.mem_cons_of_mem _ hc))
    unfold walk
    simp only [List.length_cons, scan, hs c (by simp), if_true]
    simp [compatPrev_single, hrec]

theorem fwd_last (A : Complex) : (fwd A).isSome = true → ∃ c, A.getLast? = some (.compound c) := by
  fun_induction fwd A with
  | case1 => simp
  | case2 c => intro _; exact ⟨c, rfl⟩
  | case3 c cb rest d ds h ih =>
    intro _
    obtain ⟨c', hc'⟩ := ih (by simp [h])
    refine ⟨c', ?_⟩
    cases rest with
    | nil => simp at hc'
    | cons x xs => simpa [List.getLast?_cons_cons] using hc'
  | case4 c cb rest h ih => simp
  | case5 c d rest d' ds h ih =>
    intro _
    obtain ⟨c', hc'⟩ := ih (by simp [h])
    exact ⟨c', by simpa [List.getLast?_cons_cons] using hc'⟩
  | case6 c d rest h ih => simp
  | case7 => simp

theorem lastIsComb_of_fwd (A : Complex) (h : (fwd A).isSome = true) : lastIsComb A = false := by
  obtain ⟨c, hc⟩ := fwd_last A h
  simp [lastIsComb, hc]

end Grass.Selector
