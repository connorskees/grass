import Grass.Value
import GrassProofs.Lemmas.ValueNum
import GrassProofs.Lemmas.ValueEq
/-
  Helper lemmas for C09: `veq sw` is reflexive (NaN-free values), transitive and symmetric on the
  values described by `ok sw` (see ValueEq.lean), for every variant `sw` with `canon = true`.
-/
namespace Grass.Value

theorem chanEq_eq (lim x y : Rat) (hx : x ≤ lim) (hy : y ≤ lim) : chanEq lim x y = fuzzyEq x y := by
  unfold chanEq
  by_cases h : lim ≤ x ∧ lim ≤ y
  · have : x = y := by grind
    subst this; simp [fuzzyEq_refl]
  · have : (decide (lim ≤ x) && decide (lim ≤ y)) = false := by simpa using h
    simp [this]

/-- What `Color::eq` looks at when the channels are in range. -/
def colorKey (r g b a : Rat) : Int × Int × Int × Int := (bucket a, bucket r, bucket g, bucket b)

theorem colorEq_iff {r1 g1 b1 a1 r2 g2 b2 a2 : Rat}
    (h1 : (decide (r1 ≤ 255) && decide (g1 ≤ 255) && decide (b1 ≤ 255) && decide (a1 ≤ 1)) = true)
    (h2 : (decide (r2 ≤ 255) && decide (g2 ≤ 255) && decide (b2 ≤ 255) && decide (a2 ≤ 1)) = true) :
    colorEq r1 g1 b1 a1 r2 g2 b2 a2 = true ↔ colorKey r1 g1 b1 a1 = colorKey r2 g2 b2 a2 := by
  simp only [Bool.and_eq_true, decide_eq_true_eq] at h1 h2
  unfold colorEq colorKey
  rw [chanEq_eq 1 a1 a2 h1.2 h2.2, chanEq_eq 255 r1 r2 h1.1.1.1 h2.1.1.1,
    chanEq_eq 255 g1 g2 h1.1.1.2 h2.1.1.2, chanEq_eq 255 b1 b2 h1.1.2 h2.1.2]
  cases h : fuzzyEq a1 a2 <;> simp [← fuzzyEq_iff, h, and_assoc]

theorem colorEq_refl (r g b a : Rat) : colorEq r g b a r g b a = true := by
  simp [colorEq, chanEq, fuzzyEq_refl]

mutual
  theorem veq_refl' (sw : Sw) : ∀ (a : Value), noNaN a = true → veq sw a a = true
    | .null, _ | .bool _, _ | .str _ _, _ => by simp [veq]
    | .num n u, h => by
      simp only [noNaN, Bool.not_eq_true'] at h
      simp only [veq]; exact numEq_refl sw n u h
    | .color r g b a, _ => by simp only [veq]; exact colorEq_refl r g b a
    | .list es sp br, h => by
      simp only [noNaN] at h
      simp [veq, veqL_refl' sw es h]
    | .map ps, h => by
      simp only [noNaN] at h
      simp only [veq, decide_true, Bool.true_and]
      rw [subP_iff]; intro e he; rw [any_iff]
      have := veqP_refl' sw ps h e he
      exact ⟨e, he, by simp [this.1, this.2]⟩
    | .arglist es kw sp, h => by
      simp only [noNaN, Bool.and_eq_true] at h
      simp only [veq]
      split <;> simp [veqL_refl' sw es h.1, veqKw_refl' sw kw h.2]
  termination_by structural a => a
  theorem veqL_refl' (sw : Sw) : ∀ (l : VList), noNaNL l = true → veqL sw l l = true
    | .nil, _ => by simp [veqL]
    | .cons v t, h => by
      simp only [noNaNL, Bool.and_eq_true] at h
      simp [veqL, veq_refl' sw v h.1, veqL_refl' sw t h.2]
  termination_by structural l => l
  theorem veqKw_refl' (sw : Sw) : ∀ (p : VPairs), noNaNP p = true → veqKw sw p p = true
    | .nil, _ => by simp [veqKw]
    | .cons k v t, h => by
      simp only [noNaNP, Bool.and_eq_true] at h
      simp [veqKw, veq_refl' sw k h.1.1, veq_refl' sw v h.1.2, veqKw_refl' sw t h.2]
  termination_by structural p => p
  theorem veqP_refl' (sw : Sw) : ∀ (p : VPairs), noNaNP p = true →
      ∀ e ∈ p.toList, veq sw e.1 e.1 = true ∧ veq sw e.2 e.2 = true
    | .nil, _, e, he => by simp [VPairs.toList] at he
    | .cons k v t, h, e, he => by
      simp only [noNaNP, Bool.and_eq_true] at h
      simp only [VPairs.toList, List.mem_cons] at he
      rcases he with he | he
      · subst he; exact ⟨veq_refl' sw k h.1.1, veq_refl' sw v h.1.2⟩
      · exact veqP_refl' sw t h.2 e he
  termination_by structural p => p
end

/-! ### what `a == b` says about `b`, by the kind of `a` -/

theorem veq_null_inv {sw : Sw} {b : Value} (h : veq sw .null b = true) : b = .null := by
  cases b <;> simp only [veq, Bool.false_eq_true] at h
  rfl

theorem veq_bool_inv {sw : Sw} {x : Bool} {b : Value} (h : veq sw (.bool x) b = true) : b = .bool x := by
  cases b <;> simp only [veq, Bool.false_eq_true, beq_iff_eq] at h
  rw [h]

theorem veq_num_inv {sw : Sw} {n : Num} {u : U} {b : Value} (h : veq sw (.num n u) b = true) :
    ∃ n2 u2, b = .num n2 u2 ∧ numEq sw n u n2 u2 = true := by
  cases b <;> simp only [veq, Bool.false_eq_true] at h
  exact ⟨_, _, rfl, h⟩

theorem veq_str_inv {sw : Sw} {s : List Char} {q : Bool} {b : Value} (h : veq sw (.str s q) b = true) :
    ∃ q2, b = .str s q2 := by
  cases b <;> simp only [veq, Bool.false_eq_true, decide_eq_true_eq] at h
  exact ⟨_, by rw [h]⟩

theorem veq_color_inv {sw : Sw} {r g b' a : Rat} {b : Value} (h : veq sw (.color r g b' a) b = true) :
    ∃ r2 g2 b2 a2, b = .color r2 g2 b2 a2 ∧ colorEq r g b' a r2 g2 b2 a2 = true := by
  cases b <;> simp only [veq, Bool.false_eq_true] at h
  exact ⟨_, _, _, _, rfl, h⟩

theorem veq_map_inv {sw : Sw} {p : VPairs} {b : Value} (h : veq sw (.map p) b = true) :
    ∃ q, b = .map q ∧ p.length = q.length ∧ subP sw p q = true := by
  cases b <;> simp only [veq, Bool.false_eq_true, Bool.and_eq_true, decide_eq_true_eq] at h
  exact ⟨_, rfl, h⟩

/-- Where argument lists occur at all (`ok`), they are compared as the unbracketed lists of their
    elements. -/
def lview : Value → Option (VList × Sep × Bool)
  | .list l s b => some (l, s, b)
  | .arglist l _ s => some (l, s, false)
  | _ => none

theorem veq_lview (sw : Sw) (a b : Value) (ha : ok sw a = true) (hb : ok sw b = true)
    (l1 : VList) (s1 : Sep) (b1 : Bool) (hv : lview a = some (l1, s1, b1)) :
    veq sw a b = true ↔
      ∃ l2 s2 b2, lview b = some (l2, s2, b2) ∧ s1 = s2 ∧ b1 = b2 ∧ veqL sw l1 l2 = true := by
  cases a <;> simp only [lview, Option.some.injEq, Prod.mk.injEq, reduceCtorEq] at hv
  all_goals
    obtain ⟨rfl, rfl, rfl⟩ := hv
    simp only [ok, Bool.and_eq_true] at ha
    cases b <;> simp only [ok, Bool.and_eq_true] at hb <;> simp [veq, lview, and_assoc, ha, hb]

theorem okL_of_lview (sw : Sw) (a : Value) (ha : ok sw a = true) (l : VList) (s : Sep) (b : Bool)
    (hv : lview a = some (l, s, b)) : okL sw l = true := by
  cases a <;> simp only [lview, Option.some.injEq, Prod.mk.injEq, reduceCtorEq] at hv
  all_goals
    obtain ⟨rfl, rfl, rfl⟩ := hv
    simp only [ok, Bool.and_eq_true] at ha
  · exact ha
  · exact ha.1.2

theorem veq_trans_lview (sw : Sw) {a b c : Value} (ha : ok sw a = true) (hb : ok sw b = true)
    (hc : ok sw c = true) {l1 : VList} {s1 : Sep} {b1 : Bool} (hv : lview a = some (l1, s1, b1))
    (ih : ∀ l2 l3, okL sw l2 = true → okL sw l3 = true →
      veqL sw l1 l2 = true → veqL sw l2 l3 = true → veqL sw l1 l3 = true)
    (h1 : veq sw a b = true) (h2 : veq sw b c = true) : veq sw a c = true := by
  obtain ⟨l2, s2, b2, hv2, e1, e2, h12⟩ := (veq_lview sw a b ha hb _ _ _ hv).1 h1
  obtain ⟨l3, s3, b3, hv3, e3, e4, h23⟩ := (veq_lview sw b c hb hc _ _ _ hv2).1 h2
  exact (veq_lview sw a c ha hc _ _ _ hv).2 ⟨l3, s3, b3, hv3, e1.trans e3, e2.trans e4,
    ih l2 l3 (okL_of_lview sw b hb _ _ _ hv2) (okL_of_lview sw c hc _ _ _ hv3) h12 h23⟩

theorem veq_symm_lview (sw : Sw) {a b : Value} (ha : ok sw a = true) (hb : ok sw b = true)
    {l1 : VList} {s1 : Sep} {b1 : Bool} (hv : lview a = some (l1, s1, b1))
    (ih : ∀ l2, okL sw l2 = true → veqL sw l1 l2 = true → veqL sw l2 l1 = true)
    (h1 : veq sw a b = true) : veq sw b a = true := by
  obtain ⟨l2, s2, b2, hv2, e1, e2, h12⟩ := (veq_lview sw a b ha hb _ _ _ hv).1 h1
  exact (veq_lview sw b a hb ha _ _ _ hv2).2 ⟨l1, s1, b1, hv, e1.symm, e2.symm,
    ih l2 (okL_of_lview sw b hb _ _ _ hv2) h12⟩

mutual
  theorem veq_trans' (sw : Sw) (hc : sw.canon = true) : ∀ (a b c : Value),
      ok sw a = true → ok sw b = true → ok sw c = true →
      veq sw a b = true → veq sw b c = true → veq sw a c = true
    | .null, b, c, _, _, _, h1, h2 => by
      rw [veq_null_inv h1] at h2; exact h2
    | .bool x, b, c, _, _, _, h1, h2 => by
      rw [veq_bool_inv h1] at h2; exact h2
    | .num n1 u1, b, c, ha, hb, hc', h1, h2 => by
      obtain ⟨n2, u2, rfl, e1⟩ := veq_num_inv h1
      obtain ⟨n3, u3, rfl, e2⟩ := veq_num_inv h2
      simp only [veq]
      exact numEq_trans sw hc n1 n2 n3 u1 u2 u3 ha hb hc' e1 e2
    | .str s1 q1, b, c, _, _, _, h1, h2 => by
      obtain ⟨q2, rfl⟩ := veq_str_inv h1
      obtain ⟨q3, rfl⟩ := veq_str_inv h2
      simp [veq]
    | .color r1 g1 b1 a1, b, c, ha, hb, hc', h1, h2 => by
      obtain ⟨r2, g2, b2, a2, rfl, e1⟩ := veq_color_inv h1
      obtain ⟨r3, g3, b3, a3, rfl, e2⟩ := veq_color_inv h2
      simp only [veq]
      exact (colorEq_iff ha hc').2 (((colorEq_iff ha hb).1 e1).trans ((colorEq_iff hb hc').1 e2))
    | .list l1 s1 b1, b, c, ha, hb, hc', h1, h2 =>
      veq_trans_lview sw ha hb hc' rfl (veqL_trans' sw hc l1 · · ha) h1 h2
    | .arglist l1 k1 sp1, b, c, ha, hb, hc', h1, h2 =>
      veq_trans_lview sw ha hb hc' rfl (veqL_trans' sw hc l1 · · (okL_of_lview sw _ ha _ _ _ rfl)) h1 h2
    | .map p1, b, c, ha, hb, hc', h1, h2 => by
      obtain ⟨p2, rfl, e1, s1⟩ := veq_map_inv h1
      obtain ⟨p3, rfl, e2, s2⟩ := veq_map_inv h2
      simp only [veq, Bool.and_eq_true, decide_eq_true_eq]
      exact ⟨e1.trans e2, subP_trans' sw hc p1 p2 p3 ha hb hc' s1 s2⟩
  termination_by structural a => a
  theorem veqL_trans' (sw : Sw) (hc : sw.canon = true) : ∀ (l1 l2 l3 : VList),
      okL sw l1 = true → okL sw l2 = true → okL sw l3 = true →
      veqL sw l1 l2 = true → veqL sw l2 l3 = true → veqL sw l1 l3 = true
    | .nil, l2, l3, _, _, _, h1, h2 => by
      cases l2 <;> simp only [veqL, Bool.false_eq_true] at h1
      exact h2
    | .cons a t, l2, l3, ha, hb, hc', h1, h2 => by
      cases l2 <;> simp only [veqL, Bool.false_eq_true, Bool.and_eq_true] at h1
      rename_i b u
      cases l3 <;> simp only [veqL, Bool.false_eq_true, Bool.and_eq_true] at h2
      rename_i c w
      simp only [okL, Bool.and_eq_true] at ha hb hc'
      simp only [veqL, Bool.and_eq_true]
      exact ⟨veq_trans' sw hc a b c ha.1 hb.1 hc'.1 h1.1 h2.1,
        veqL_trans' sw hc t u w ha.2 hb.2 hc'.2 h1.2 h2.2⟩
  termination_by structural l1 => l1
  theorem subP_trans' (sw : Sw) (hc : sw.canon = true) : ∀ (p q r : VPairs),
      okP sw p = true → okP sw q = true → okP sw r = true →
      subP sw p q = true → subP sw q r = true → subP sw p r = true
    | .nil, _, _, _, _, _, _, _ => by simp [subP]
    | .cons k v t, q, r, hp, hq, hr, h1, h2 => by
      simp only [subP, Bool.and_eq_true] at h1 ⊢
      simp only [okP, Bool.and_eq_true] at hp
      refine ⟨?_, subP_trans' sw hc t q r hp.2 hq hr h1.2 h2⟩
      obtain ⟨x, hx, hfx⟩ := (any_iff _ q).1 h1.1
      simp only [Bool.and_eq_true] at hfx
      have := (subP_iff sw q r).1 h2 x hx
      obtain ⟨y, hy, hfy⟩ := (any_iff _ r).1 this
      simp only [Bool.and_eq_true] at hfy
      have okx := okP_mem sw q hq x hx
      have oky := okP_mem sw r hr y hy
      exact (any_iff _ r).2 ⟨y, hy, by
        simp [veq_trans' sw hc k x.1 y.1 hp.1.1 okx.1 oky.1 hfx.1 hfy.1,
          veq_trans' sw hc v x.2 y.2 hp.1.2 okx.2 oky.2 hfx.2 hfy.2]⟩
  termination_by structural p => p
end

/-! ### symmetry (needs pairwise unequal keys in the maps of the left operand) -/

theorem mapWfP_mem (sw : Sw) : ∀ (p : VPairs), mapWfP sw p = true →
    ∀ e ∈ p.toList, mapWf sw e.1 = true ∧ mapWf sw e.2 = true :=
  allP_mem (fun _ _ _ => rfl)

mutual
  theorem veq_symm' (sw : Sw) (hc : sw.canon = true) : ∀ (a b : Value),
      ok sw a = true → ok sw b = true → mapWf sw a = true →
      veq sw a b = true → veq sw b a = true
    | .null, b, _, _, _, h1 => by
      rw [veq_null_inv h1]; simp [veq]
    | .bool x, b, _, _, _, h1 => by
      rw [veq_bool_inv h1]; simp [veq]
    | .num n1 u1, b, ha, hb, _, h1 => by
      obtain ⟨n2, u2, rfl, e1⟩ := veq_num_inv h1
      simp only [veq]
      exact numEq_symm sw hc _ _ _ _ ha hb e1
    | .str s1 q1, b, _, _, _, h1 => by
      obtain ⟨q2, rfl⟩ := veq_str_inv h1
      simp [veq]
    | .color r1 g1 b1 a1, b, ha, hb, _, h1 => by
      obtain ⟨r2, g2, b2, a2, rfl, e1⟩ := veq_color_inv h1
      simp only [veq]
      exact (colorEq_iff hb ha).2 ((colorEq_iff ha hb).1 e1).symm
    | .list l1 s1 b1, b, ha, hb, hw, h1 =>
      veq_symm_lview sw ha hb rfl (veqL_symm' sw hc l1 · ha · hw) h1
    | .arglist l1 k1 sp1, b, ha, hb, hw, h1 => by
      simp only [mapWf, Bool.and_eq_true] at hw
      exact veq_symm_lview sw ha hb rfl (veqL_symm' sw hc l1 · (okL_of_lview sw _ ha _ _ _ rfl) · hw.1) h1
    | .map p, b, ha, hb, hw, h1 => by
      obtain ⟨q, rfl, e1, s1⟩ := veq_map_inv h1
      simp only [ok] at ha hb
      simp only [mapWf, Bool.and_eq_true] at hw
      simp only [veq, Bool.and_eq_true, decide_eq_true_eq]
      refine ⟨e1.symm, subP_symm_of sw p q e1 s1 hw.1 ?_ ?_⟩
      · intro e he x hx
        have okx := okP_mem sw q hb x hx
        have := veqP_symm' sw hc p ha hw.2 e he
        exact ⟨this.1 x.1 okx.1, this.2 x.2 okx.2⟩
      · intro e he e' he' x hx h2 h3
        have oke := okP_mem sw p ha e he
        have oke' := okP_mem sw p ha e' he'
        have okx := okP_mem sw q hb x hx
        exact veq_trans' sw hc e.1 x.1 e'.1 oke.1 okx.1 oke'.1 h2 h3
  termination_by structural a => a
  theorem veqL_symm' (sw : Sw) (hc : sw.canon = true) : ∀ (l1 l2 : VList),
      okL sw l1 = true → okL sw l2 = true → mapWfL sw l1 = true →
      veqL sw l1 l2 = true → veqL sw l2 l1 = true
    | .nil, l2, _, _, _, h1 => by
      cases l2 <;> simp only [veqL, Bool.false_eq_true] at h1 ⊢
    | .cons a t, l2, ha, hb, hw, h1 => by
      cases l2 <;> simp only [veqL, Bool.false_eq_true, Bool.and_eq_true] at h1 ⊢
      rename_i b u
      simp only [okL, Bool.and_eq_true] at ha hb
      simp only [mapWfL, Bool.and_eq_true] at hw
      exact ⟨veq_symm' sw hc a b ha.1 hb.1 hw.1 h1.1, veqL_symm' sw hc t u ha.2 hb.2 hw.2 h1.2⟩
  termination_by structural l1 => l1
  theorem veqP_symm' (sw : Sw) (hc : sw.canon = true) : ∀ (p : VPairs),
      okP sw p = true → mapWfP sw p = true →
      ∀ e ∈ p.toList, (∀ x, ok sw x = true → veq sw e.1 x = true → veq sw x e.1 = true) ∧
        (∀ x, ok sw x = true → veq sw e.2 x = true → veq sw x e.2 = true)
    | .nil, _, _, e, he => by simp [VPairs.toList] at he
    | .cons k v t, hp, hw, e, he => by
      simp only [okP, Bool.and_eq_true] at hp
      simp only [mapWfP, Bool.and_eq_true] at hw
      simp only [VPairs.toList, List.mem_cons] at he
      rcases he with he | he
      · subst he
        exact ⟨fun x hx h => veq_symm' sw hc k x hp.1.1 hx hw.1.1 h,
          fun x hx h => veq_symm' sw hc v x hp.1.2 hx hw.1.2 h⟩
      · exact veqP_symm' sw hc t hp.2 hw.2 e he
  termination_by structural p => p
end

end Grass.Value
