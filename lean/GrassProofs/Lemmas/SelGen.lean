import Grass.Selector
import GrassProofs.Lemmas.SelSem
/-
  The matching semantics with the compound matcher as a parameter (`mc`), in anchored
  (left-to-right) form.  Instances: `mc = mComp` (plain matching, the superselector walk of C11) and
  `mc = cComp credit` (credited matching, C10).
-/
namespace Grass.Selector

def stepsWith (mc : Compound → Ctx → Bool) : RSteps → Ctx → Bool
  | [], _ => true
  | (r, c) :: rest, p => (steps r p).any fun q => mc c q && stepsWith mc rest q

def complexWith (mc : Compound → Ctx → Bool) (X : Complex) (p : Ctx) : Bool :=
  match norm X with
  | some r => mc r.1 p && stepsWith mc r.2 p
  | none => false

theorem mSteps_eq_stepsWith : ∀ (st : RSteps) (p : Ctx), mSteps st p = stepsWith mComp st p := by
  intro st
  induction st with
  | nil => intro p; simp [mSteps, stepsWith]
  | cons x rest ih => intro p; obtain ⟨r, c⟩ := x; simp [mSteps, stepsWith, ih]

theorem matchesComplex_eq_complexWith (X : Complex) (p : Ctx) : matchesComplex X p = complexWith mComp X p := by
  unfold matchesComplex complexWith mRC
  cases norm X <;> simp [mSteps_eq_stepsWith]

/-- the forward normal form `(c, st)` matches with its leftmost compound at `q` and its target at `p` -/
def AnchoredFwd (mc : Compound → Ctx → Bool) : Compound → List (Rel × Compound) → Ctx → Ctx → Prop
  | c, [], q, p => q = p ∧ mc c p = true
  | c, (r, d) :: rest, q, p => mc c q = true ∧ ∃ q2, q ∈ steps r q2 ∧ AnchoredFwd mc d rest q2 p

theorem anchoredFwd_revGo (mc : Compound → Ctx → Bool) :
    ∀ (st : List (Rel × Compound)) (h : Compound) (acc : RSteps) (p : Ctx),
      (mc (revGo h acc st).1 p && stepsWith mc (revGo h acc st).2 p) = true ↔
        ∃ q, AnchoredFwd mc h st q p ∧ stepsWith mc acc q = true := by
  intro st
  induction st with
  | nil =>
    intro h acc p
    simp only [revGo, AnchoredFwd, Bool.and_eq_true]
    constructor
    · intro ⟨a, b⟩; exact ⟨p, ⟨rfl, a⟩, b⟩
    · intro ⟨q, ⟨e, a⟩, b⟩; subst e; exact ⟨a, b⟩
  | cons x rest ih =>
    intro h acc p
    obtain ⟨r, c⟩ := x
    simp only [revGo]
    rw [ih c ((r, h) :: acc) p]
    constructor
    · intro ⟨q2, hl, hm⟩
      simp only [stepsWith, List.any_eq_true, Bool.and_eq_true] at hm
      obtain ⟨q, hq, hm⟩ := hm
      exact ⟨q, ⟨hm.1, q2, hq, hl⟩, hm.2⟩
    · intro ⟨q, ⟨hc, q2, hq, hl⟩, hm⟩
      refine ⟨q2, hl, ?_⟩
      simp only [stepsWith, List.any_eq_true, Bool.and_eq_true]
      exact ⟨q, hq, hc, hm⟩

def Anchored (mc : Compound → Ctx → Bool) (X : Complex) (q p : Ctx) : Prop :=
  match fwd X with
  | none => False
  | some (c, st) => AnchoredFwd mc c st q p

theorem complexWith_iff (mc : Compound → Ctx → Bool) (X : Complex) (p : Ctx) :
    complexWith mc X p = true ↔ ∃ q, Anchored mc X q p := by
  unfold complexWith norm Anchored
  cases fwd X with
  | none => simp
  | some cs =>
    simp only [anchoredFwd_revGo]
    simp [stepsWith]

theorem matchesComplex_iff (X : Complex) (p : Ctx) : matchesComplex X p = true ↔ ∃ q, Anchored mComp X q p := by
  rw [matchesComplex_eq_complexWith, complexWith_iff]

/-! ### `Anchored` by the shape of the component vector -/

section
variable {mc : Compound → Ctx → Bool} {c d : Compound} {cb : Comb} {X : Complex} {q p : Ctx}

theorem anchored_nil : ¬ Anchored mc [] q p := by simp [Anchored, fwd]

theorem anchored_comb_head : ¬ Anchored mc (.comb cb :: X) q p := by simp [Anchored, fwd]

theorem anchored_single : Anchored mc [.compound c] q p ↔ q = p ∧ mc c p = true := by
  simp [Anchored, fwd, AnchoredFwd]

theorem anchored_comb : Anchored mc (.compound c :: .comb cb :: X) q p ↔
    mc c q = true ∧ ∃ q2, q ∈ steps cb.rel q2 ∧ Anchored mc X q2 p := by
  unfold Anchored
  simp only [fwd]
  cases fwd X <;> simp [AnchoredFwd]

theorem anchored_desc : Anchored mc (.compound c :: .compound d :: X) q p ↔
    mc c q = true ∧ ∃ q2, q ∈ steps .desc q2 ∧ Anchored mc (.compound d :: X) q2 p := by
  unfold Anchored
  simp only [fwd]
  cases fwd (.compound d :: X) <;> simp [AnchoredFwd]

end

/-- what remains to be matched to the right of a compound placed at `q` -/
def AnchoredRest (mc : Compound → Ctx → Bool) : Complex → Ctx → Ctx → Prop
  | [], q, p => q = p
  | .comb cb :: X, q, p => ∃ q2, q ∈ steps cb.rel q2 ∧ Anchored mc X q2 p
  | .compound d :: X, q, p => ∃ q2, q ∈ steps .desc q2 ∧ Anchored mc (.compound d :: X) q2 p

theorem anchored_cons {mc : Compound → Ctx → Bool} {c : Compound} {X : Complex} {q p : Ctx} :
    Anchored mc (.compound c :: X) q p ↔ mc c q = true ∧ AnchoredRest mc X q p := by
  match X with
  | [] =>
    rw [anchored_single]
    constructor
    · rintro ⟨rfl, h⟩; exact ⟨h, rfl⟩
    · rintro ⟨h, rfl⟩; exact ⟨rfl, h⟩
  | .comb _ :: _ => exact anchored_comb
  | .compound _ :: _ => exact anchored_desc

theorem anchored_head {mc : Compound → Ctx → Bool} {d : Compound} {X : Complex} {q p : Ctx}
    (h : Anchored mc (.compound d :: X) q p) : mc d q = true := (anchored_cons.1 h).1

/-! ### the matcher may be replaced compound by compound -/

theorem fwd_mem : ∀ (X : Complex) (c : Compound) (st : List (Rel × Compound)), fwd X = some (c, st) →
    ∀ d ∈ c :: st.map (·.2), Component.compound d ∈ X := by
  intro X
  fun_induction fwd X with
  | case1 => simp
  | case2 c => simp
  | case3 c cb rest d ds h ih =>
    intro c' st e d' hd'
    simp only [Option.some.injEq, Prod.mk.injEq] at e
    obtain ⟨rfl, rfl⟩ := e
    rcases List.mem_cons.1 hd' with rfl | hd'
    · simp
    · exact List.mem_cons_of_mem _ (List.mem_cons_of_mem _ (ih d ds h d' (by simpa using hd')))
  | case4 c cb rest h => simp
  | case5 c d rest d' ds h ih =>
    intro c' st e x hx
    simp only [Option.some.injEq, Prod.mk.injEq] at e
    obtain ⟨rfl, rfl⟩ := e
    rcases List.mem_cons.1 hx with rfl | hx
    · simp
    · exact List.mem_cons_of_mem _ (ih d' ds h x (by simpa using hx))
  | case6 c d rest h => simp
  | case7 => simp

theorem anchoredFwd_mono {mc1 mc2 : Compound → Ctx → Bool} :
    ∀ {st : List (Rel × Compound)} {c : Compound} {q p : Ctx},
      (∀ d ∈ c :: st.map (·.2), ∀ q, mc1 d q = true → mc2 d q = true) → AnchoredFwd mc1 c st q p → AnchoredFwd mc2 c st q p
  | [], c, _, p, hm, ⟨e, h⟩ => ⟨e, hm c (by simp) p h⟩
  | (_, _) :: _, c, q, _, hm, ⟨h, q2, hq, hl⟩ =>
    ⟨hm c (by simp) q h, q2, hq, anchoredFwd_mono (fun d hd => hm d (List.mem_cons_of_mem _ hd)) hl⟩

theorem anchored_mono {mc1 mc2 : Compound → Ctx → Bool} {X : Complex} {q p : Ctx}
    (hm : ∀ c, Component.compound c ∈ X → ∀ q, mc1 c q = true → mc2 c q = true) (h : Anchored mc1 X q p) :
    Anchored mc2 X q p := by
  unfold Anchored at h ⊢
  cases hf : fwd X with
  | none => simp [hf] at h
  | some cs =>
    rw [hf] at h
    exact anchoredFwd_mono (fun d hd => hm d (fwd_mem X cs.1 cs.2 hf d hd)) h

theorem anchored_congr {mc1 mc2 : Compound → Ctx → Bool} {X : Complex}
    (h : ∀ c, Component.compound c ∈ X → ∀ q, mc1 c q = mc2 c q) (q p : Ctx) :
    Anchored mc1 X q p ↔ Anchored mc2 X q p :=
  ⟨anchored_mono fun c hc q hq => h c hc q ▸ hq, anchored_mono fun c hc q hq => h c hc q ▸ hq⟩

end Grass.Selector
