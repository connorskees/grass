import GrassProofs.Lemmas.CssTreeBuild
/-
  C04 with bubbling at-rules: the tree read in index (= creation) order (`viewB`), what one `add_child`
  with the shallow sibling test does to that reading (`addChild_landing`), the invariant `CohB`.
-/
namespace Grass.CssTree

/-! ### trees with at-rules: contexts read off the parent chain -/

def Kind.isDecl : Kind → Bool | .decl _ _ => true | _ => false
def Kind.isAt : Kind → Bool | .media _ => true | .supports _ => true | .unknown _ _ => true | _ => false

/-- kinds of the proper ancestors of `j`, outermost first -/
def ctxUpF (t : Tree) : Nat → Nat → List Kind
  | 0, _ => []
  | f + 1, j =>
    if j = 0 then []
    else match parentOf t j with
      | none => []
      | some g => ctxUpF t f g ++ (match kindAt t g with | some k => [k] | none => [])

/-- context of the body of node `g`: its ancestors and itself -/
def fullCtx (t : Tree) (g : Nat) : List Kind :=
  ctxUpF t (g + 1) g ++ (match kindAt t g with | some k => [k] | none => [])

structure Good (t : Tree) : Prop where
  root : kindAt t 0 = none
  pos : 0 < t.length
  po : ∀ j g, parentOf t j = some g → g < j
  cv : ∀ j c, c ∈ childrenOf t j → c < t.length
  kinds : ∀ j, 0 < j → j < t.length → ∃ k, kindAt t j = some k
  pars : ∀ j, 0 < j → j < t.length → ∃ g, parentOf t j = some g
  -- child lists and parent pointers describe the same tree; declarations are leaves
  cp : ∀ p c, c ∈ childrenOf t p → parentOf t c = some p
  pc : ∀ j p, parentOf t j = some p → j ∈ childrenOf t p
  cnd : ∀ p, (childrenOf t p).Nodup
  ndp : ∀ p c, c ∈ childrenOf t p → ∀ n v, kindAt t p ≠ some (.decl n v)

/-- `t'` extends `t`: old nodes keep kind and parent -/
structure Ext (t t' : Tree) : Prop where
  len : t.length ≤ t'.length
  kind : ∀ j, j < t.length → kindAt t' j = kindAt t j
  par : ∀ j, j < t.length → parentOf t' j = parentOf t j

theorem Ext.refl (t : Tree) : Ext t t := ⟨Nat.le_refl _, fun _ _ => rfl, fun _ _ => rfl⟩
theorem Ext.trans {a b c : Tree} (h1 : Ext a b) (h2 : Ext b c) : Ext a c :=
  ⟨Nat.le_trans h1.len h2.len,
   fun j hj => by rw [h2.kind j (Nat.lt_of_lt_of_le hj h1.len), h1.kind j hj],
   fun j hj => by rw [h2.par j (Nat.lt_of_lt_of_le hj h1.len), h1.par j hj]⟩

theorem Ext.addRaw (t : Tree) (k : Kind) (p : Nat) : Ext t (addRaw t k p).1 :=
  ⟨by rw [addRaw_length]; omega, fun j hj => kindAt_addRaw_old t k p j hj, fun j hj => parentOf_addRaw_old t k p j hj⟩

theorem kindAt_none_of_ge (t : Tree) (j : Nat) (h : t.length ≤ j) : kindAt t j = none := by
  simp [kindAt, List.getElem?_eq_none h]
theorem parentOf_none_of_ge (t : Tree) (j : Nat) (h : t.length ≤ j) : parentOf t j = none := by
  simp [parentOf, List.getElem?_eq_none h]
theorem childrenOf_nil_of_ge (t : Tree) (j : Nat) (h : t.length ≤ j) : childrenOf t j = [] := by
  simp [childrenOf, List.getElem?_eq_none h]

theorem childrenOf_addRaw_new (t : Tree) (k : Kind) (p : Nat) (hp : p < t.length) :
    childrenOf (addRaw t k p).1 t.length = [] := by
  rw [childrenOf_addRaw t k p _ hp, if_neg (Nat.ne_of_gt hp), childrenOf_nil_of_ge t _ (Nat.le_refl _)]

theorem good_addRaw (t : Tree) (gd : Good t) (k : Kind) (p : Nat) (hp : p < t.length)
    (hpk : ∀ n v, kindAt t p ≠ some (.decl n v)) : Good (addRaw t k p).1 := by
  have K := kindAt_addRaw t k p
  have P := parentOf_addRaw t k p
  have C := fun j => childrenOf_addRaw t k p j hp
  refine ⟨?_, by rw [addRaw_length]; omega, ?_, ?_, ?_, ?_, ?_, ?_, ?_, ?_⟩
  · rw [K, if_neg (by omega)]; exact gd.root
  · intro j g hg
    rw [P] at hg
    split at hg
    · injection hg with hg; omega
    · exact gd.po j g hg
  · intro j c hc
    rw [addRaw_length]
    rw [C] at hc
    split at hc
    · simp only [List.mem_append, List.mem_singleton] at hc
      rcases hc with hc | hc
      · have := gd.cv p c hc; omega
      · omega
    · have := gd.cv j c hc; omega
  · intro j hj0 hj
    rw [K]
    split
    · exact ⟨k, rfl⟩
    · exact gd.kinds j hj0 (by rw [addRaw_length] at hj; omega)
  · intro j hj0 hj
    rw [P]
    split
    · exact ⟨p, rfl⟩
    · exact gd.pars j hj0 (by rw [addRaw_length] at hj; omega)
  · intro j c hc
    rw [C] at hc
    rw [P]
    split at hc
    · simp only [List.mem_append, List.mem_singleton] at hc
      rcases hc with hc | hc
      · rw [if_neg (Nat.ne_of_lt (gd.cv p c hc))]; subst j; exact gd.cp p c hc
      · subst j; rw [if_pos hc]
    · rw [if_neg (Nat.ne_of_lt (gd.cv j c hc))]; exact gd.cp j c hc
  · intro j g hg
    rw [P] at hg
    rw [C]
    split at hg
    · injection hg with hg; subst hg; subst j; simp
    · have hm := gd.pc j g hg
      split
      · subst g; simp [hm]
      · exact hm
  · intro j
    rw [C]
    split
    · rw [List.nodup_append]
      refine ⟨gd.cnd p, by simp, ?_⟩
      intro a ha b hb
      simp only [List.mem_singleton] at hb
      have := gd.cv p a ha
      omega
    · exact gd.cnd j
  · intro j c hc n v
    rw [C] at hc
    rw [K]
    split at hc
    · subst j; rw [if_neg (by omega)]; exact hpk n v
    · by_cases hjl : j = t.length
      · subst hjl; rw [childrenOf_nil_of_ge _ _ (Nat.le_refl _)] at hc; cases hc
      · rw [if_neg hjl]; exact gd.ndp j c hc n v

theorem parentOf_init (j : Nat) : parentOf Tree.init j = none := by
  cases j <;> simp [parentOf, Tree.init]

theorem childrenOf_init (j : Nat) : childrenOf Tree.init j = [] := by
  cases j <;> simp [childrenOf, Tree.init]

theorem good_init : Good Tree.init := by
  refine ⟨rfl, by simp [Tree.init], ?_, ?_, ?_, ?_, ?_, ?_, ?_, ?_⟩
  · intro j g hg; rw [parentOf_init] at hg; cases hg
  · intro j c hc; rw [childrenOf_init] at hc; cases hc
  · intro j h0 hj; simp [Tree.init] at hj; omega
  · intro j h0 hj; simp [Tree.init] at hj; omega
  · intro j c hc; rw [childrenOf_init] at hc; cases hc
  · intro j g hg; rw [parentOf_init] at hg; cases hg
  · intro j; rw [childrenOf_init]; exact List.nodup_nil
  · intro j c hc; rw [childrenOf_init] at hc; cases hc

theorem ctxUpF_fuel (t : Tree) (gd : Good t) : ∀ f j, j < f → ctxUpF t f j = ctxUpF t (j + 1) j := by
  intro f
  induction f using Nat.strongRecOn with
  | _ f ih =>
    intro j hj
    cases f with
    | zero => omega
    | succ f' =>
      by_cases h0 : j = 0
      · subst h0; simp [ctxUpF]
      · simp only [ctxUpF, h0, if_false]
        cases hp : parentOf t j with
        | none => rfl
        | some g =>
          have hg := gd.po j g hp
          simp only
          rw [ih f' (by omega) g (by omega)]
          cases j with
          | zero => omega
          | succ j' => rw [ih (j' + 1) (by omega) g (by omega)]

theorem ctxUpF_ext (t t' : Tree) (gd : Good t) (ex : Ext t t') : ∀ f j, j < t.length → ctxUpF t' f j = ctxUpF t f j
  | 0, _, _ => rfl
  | f + 1, j, hj => by
    by_cases h0 : j = 0
    · subst h0; simp [ctxUpF]
    · simp only [ctxUpF, h0, if_false, ex.par j hj]
      cases hp : parentOf t j with
      | none => rfl
      | some g =>
        have hg := gd.po j g hp
        simp only
        rw [ctxUpF_ext t t' gd ex f g (by omega), ex.kind g (by omega)]

theorem fullCtx_ext (t t' : Tree) (gd : Good t) (ex : Ext t t') (j : Nat) (hj : j < t.length) :
    fullCtx t' j = fullCtx t j := by
  simp only [fullCtx, ctxUpF_ext t t' gd ex _ j hj, ex.kind j hj]

theorem fullCtx_zero (t : Tree) (gd : Good t) : fullCtx t 0 = [] := by
  simp [fullCtx, ctxUpF, gd.root]

theorem ctxUp_eq_parent (t : Tree) (gd : Good t) (j g : Nat) (hj : j ≠ 0) (hp : parentOf t j = some g) :
    ctxUpF t (j + 1) j = fullCtx t g := by
  have hg := gd.po j g hp
  have h1 : ctxUpF t (j + 1) j = ctxUpF t j g ++ (match kindAt t g with | some k => [k] | none => []) := by
    simp only [ctxUpF, hj, if_false, hp]
  rw [h1, ctxUpF_fuel t gd j g hg]; rfl

theorem fullCtx_new (t : Tree) (gd : Good t) (k : Kind) (p : Nat) (hp : p < t.length)
    (hpk : ∀ n v, kindAt t p ≠ some (.decl n v)) :
    fullCtx (addRaw t k p).1 t.length = fullCtx t p ++ [k] := by
  have gd' := good_addRaw t gd k p hp hpk
  have h1 : ctxUpF (addRaw t k p).1 (t.length + 1) t.length = fullCtx (addRaw t k p).1 p :=
    ctxUp_eq_parent _ gd' t.length p (by have := gd.pos; omega) (parentOf_addRaw_new t k p)
  simp only [fullCtx] at h1 ⊢
  rw [h1, kindAt_addRaw_new]
  have := fullCtx_ext t _ gd (Ext.addRaw t k p) p hp
  simp only [fullCtx] at this
  rw [this]


/-! ### blocks read off the index tree in index order -/

def selOf : Kind → Option SelList | .rule s => some s | _ => none

def declsOfKids (t : Tree) (cs : List Nat) : List (String × String) :=
  cs.filterMap (fun c => match kindAt t c with | some (.decl n v) => some (n, v) | _ => none)

abbrev EntB := Nat × List Kind × Option SelList × List (String × String)

def entB (t : Tree) (j : Nat) : Option EntB :=
  match kindAt t j with
  | none => none
  | some k =>
    if k.isDecl then none
    else some (j, ctxUpF t (j + 1) j ++ (if k.isAt then [k] else []), selOf k, declsOfKids t (childrenOf t j))

def viewB (t : Tree) : List EntB := (List.range t.length).filterMap (entB t)

def extB (p : Nat) (ds : List (String × String)) (e : EntB) : EntB :=
  if e.1 = p then (e.1, e.2.1, e.2.2.1, e.2.2.2 ++ ds) else e

def toBlockB (e : EntB) : Block := { ctx := e.2.1, sel := e.2.2.1, decls := e.2.2.2 }

theorem declsOfKids_ext (t t' : Tree) (ex : Ext t t') (cs : List Nat) (h : ∀ c ∈ cs, c < t.length) :
    declsOfKids t' cs = declsOfKids t cs := by
  unfold declsOfKids
  apply filterMap_congr'
  intro c hc
  rw [ex.kind c (h c hc)]

theorem declsOfKids_append (t : Tree) (a b : List Nat) :
    declsOfKids t (a ++ b) = declsOfKids t a ++ declsOfKids t b := by
  simp [declsOfKids, List.filterMap_append]

theorem entB_old_ne (t : Tree) (gd : Good t) (k : Kind) (p j : Nat) (hp : p < t.length) (hj : j < t.length)
    (hne : j ≠ p) :
    entB (addRaw t k p).1 j = entB t j := by
  have ex := Ext.addRaw t k p
  unfold entB
  rw [ex.kind j hj, ctxUpF_ext t _ gd ex _ j hj, childrenOf_addRaw_other t k p j hp hne,
    declsOfKids_ext t _ ex _ (fun c hc => gd.cv j c hc)]

theorem entB_old_eq (t : Tree) (gd : Good t) (k : Kind) (p : Nat) (hp : p < t.length) :
    entB (addRaw t k p).1 p =
      (entB t p).map (fun e => (e.1, e.2.1, e.2.2.1, e.2.2.2 ++ declsOfKids (addRaw t k p).1 [t.length])) := by
  have ex := Ext.addRaw t k p
  unfold entB
  rw [ex.kind p hp, ctxUpF_ext t _ gd ex _ p hp, childrenOf_addRaw_parent t k p hp, declsOfKids_append,
    declsOfKids_ext t _ ex _ (fun c hc => gd.cv p c hc)]
  cases kindAt t p with
  | none => rfl
  | some kp => by_cases h : kp.isDecl = true <;> simp [h]

theorem declsOfKids_new (t : Tree) (k : Kind) (p : Nat) (hk : k.isDecl = false) :
    declsOfKids (addRaw t k p).1 [t.length] = [] := by
  simp only [declsOfKids, List.filterMap_cons, List.filterMap_nil, kindAt_addRaw_new]
  cases k <;> simp_all [Kind.isDecl]

theorem entB_fst (t : Tree) (j : Nat) (e : EntB) (he : entB t j = some e) : e.1 = j := by
  unfold entB at he
  cases hk : kindAt t j with
  | none => simp [hk] at he
  | some kk =>
    simp only [hk] at he
    by_cases hd : kk.isDecl = true
    · simp [hd] at he
    · simp [hd] at he; rw [← he]

theorem viewB_addNd (t : Tree) (gd : Good t) (k : Kind) (hk : k.isDecl = false) (p : Nat) (hp : p < t.length)
    (hpk : ∀ n v, kindAt t p ≠ some (.decl n v)) :
    viewB (addRaw t k p).1 =
      viewB t ++ [(t.length, fullCtx t p ++ (if k.isAt then [k] else []), selOf k, [])] := by
  have gd' := good_addRaw t gd k p hp hpk
  unfold viewB
  rw [addRaw_length, List.range_succ, List.filterMap_append]
  congr 1
  · apply filterMap_congr'
    intro j hj
    have hj : j < t.length := by simpa using hj
    by_cases hjp : j = p
    · subst hjp
      rw [entB_old_eq t gd k j hj]
      rw [declsOfKids_new t k j hk]
      cases entB t j with
      | none => rfl
      | some e => simp
    · exact entB_old_ne t gd k p j hp hj hjp
  · have h1 : ctxUpF (addRaw t k p).1 (t.length + 1) t.length = fullCtx t p := by
      rw [ctxUp_eq_parent _ gd' t.length p (by have := gd.pos; omega) (parentOf_addRaw_new t k p)]
      exact fullCtx_ext t _ gd (Ext.addRaw t k p) p hp
    simp [entB, kindAt_addRaw_new, hk, h1, childrenOf_addRaw_new t k p hp, declsOfKids]

theorem viewB_addDecl (t : Tree) (gd : Good t) (n v : String) (p : Nat) (hp : p < t.length) :
    viewB (addRaw t (.decl n v) p).1 = (viewB t).map (extB p [(n, v)]) := by
  unfold viewB
  rw [addRaw_length, List.range_succ, List.filterMap_append, List.map_filterMap]
  have hlast : List.filterMap (entB (addRaw t (.decl n v) p).1) [t.length] = [] := by
    simp [entB, kindAt_addRaw_new, Kind.isDecl]
  rw [hlast, List.append_nil]
  apply filterMap_congr'
  intro j hj
  have hj : j < t.length := by simpa using hj
  by_cases hjp : j = p
  · subst hjp
    rw [entB_old_eq t gd _ j hj]
    have : declsOfKids (addRaw t (.decl n v) j).1 [t.length] = [(n, v)] := by
      simp [declsOfKids, kindAt_addRaw_new]
    rw [this]
    cases he : entB t j with
    | none => rfl
    | some e =>
      have h1 := entB_fst t j e he
      simp [extB, h1]
  · rw [entB_old_ne t gd _ p j hp hj hjp]
    cases he : entB t j with
    | none => rfl
    | some e =>
      have h1 := entB_fst t j e he
      simp [extB, h1, hjp]

theorem viewB_idx_lt (t : Tree) : ∀ e ∈ viewB t, e.1 < t.length := by
  intro e he
  simp only [viewB, List.mem_filterMap, List.mem_range] at he
  obtain ⟨j, hj, h⟩ := he
  rw [entB_fst t j e h]; exact hj

theorem extB_append (p : Nat) (a b : List (String × String)) (e : EntB) :
    extB p b (extB p a e) = extB p (a ++ b) e := by
  unfold extB
  by_cases h : e.1 = p <;> simp [h]

theorem extB_nil (p : Nat) (e : EntB) : extB p [] e = e := by
  obtain ⟨a, b, c, d⟩ := e
  unfold extB; by_cases h : a = p <;> simp [h]

theorem extB_ne (p : Nat) (ds : List (String × String)) (e : EntB) (h : e.1 ≠ p) : extB p ds e = e := by
  simp [extB, h]


/-! ### `add_child`: where the node lands -/

theorem hasFollowingSibling_new (t : Tree) (k : Kind) (p : Nat) (hp : p < t.length) (h0 : 0 < t.length) :
    hasFollowingSibling (addRaw t k p).1 t.length = false := by
  unfold hasFollowingSibling
  have : t.length ≠ 0 := by omega
  simp [this, parentOf_addRaw_new, childrenOf_addRaw_parent t k p hp]

/-- the landing node of `add_child` before the sibling test -/
def landing (t : Tree) (P : Option Nat) (th : Through) : Nat :=
  match P with
  | none => 0
  | some 0 => 0
  | some p => climb t th t.length p

/-- `x` is the new node, `q` its parent (`L` or a copy of `L`), `pre` the block of the copy, if any. -/
structure LandOK (t : Tree) (L : Nat) (k : Kind) (t' : Tree) (x : Nat) (pre : List EntB) (q : Nat) : Prop where
  good : Good t'
  ext : Ext t t'
  last : x + 1 = t'.length
  fresh : t.length ≤ x
  kind : kindAt t' x = some k
  ctx : fullCtx t' x = fullCtx t L ++ [k]
  par : parentOf t' x = some q
  parCtx : fullCtx t' q = fullCtx t L
  parKind : q = 0 ∨ ∃ kq, kindAt t' q = some kq ∧ kindAt t L = some kq
  parPar : ∀ G, parentOf t' q = some G → parentOf t L = some G
  view : viewB t' = viewB t ++ pre ++ [(x, fullCtx t L ++ (if k.isAt then [k] else []), selOf k, [])]
  preEmpty : ∀ e ∈ pre, e.2.2.2 = [] ∧ t.length ≤ e.1 ∧ e.1 < x

theorem addChild_landing (t : Tree) (gd : Good t) (P : Option Nat) (k : Kind) (hk : k.isDecl = false)
    (th : Through) (L : Nat) (hL : L < t.length) (hland : landing t P th = L)
    (hLnd : ∀ kL, kindAt t L = some kL → kL.isDecl = false) :
    ∃ pre q, LandOK t L k (addChild false t P k th).1 (addChild false t P k th).2 pre q := by
  -- the plain case: the node is appended to the landing node
  have hLk : ∀ n v, kindAt t L ≠ some (.decl n v) := by
    intro n v h
    have := hLnd _ h
    simp [Kind.isDecl] at this
  have plain : ∃ pre q, LandOK t L k (addRaw t k L).1 (addRaw t k L).2 pre q :=
    ⟨[], L, {
      good := good_addRaw t gd k L hL hLk
      ext := Ext.addRaw t k L
      last := by rw [addRaw_length]; rfl
      fresh := Nat.le_refl _
      kind := kindAt_addRaw_new t k L
      ctx := fullCtx_new t gd k L hL hLk
      par := parentOf_addRaw_new t k L
      parCtx := fullCtx_ext t _ gd (Ext.addRaw t k L) L hL
      parKind := by
        by_cases h0 : L = 0
        · exact Or.inl h0
        · obtain ⟨kq, hkq⟩ := gd.kinds L (by omega) hL
          exact Or.inr ⟨kq, by rw [kindAt_addRaw_old t k L L hL]; exact hkq, hkq⟩
      parPar := fun G hG => by rw [parentOf_addRaw_old t k L L hL] at hG; exact hG
      view := by simp [viewB_addNd t gd k hk L hL hLk, addRaw_snd]
      preEmpty := by simp }⟩
  cases P with
  | none =>
    have : L = 0 := by simpa [landing] using hland.symm
    subst this
    exact plain
  | some p =>
    cases p with
    | zero =>
      have : L = 0 := by simpa [landing] using hland.symm
      subst this
      exact plain
    | succ p' =>
      have hl : climb t th t.length (p' + 1) = L := by simpa [landing] using hland
      by_cases hs : hasFollowingSibling t L = true
      · -- copy the landing node after its sibling
        have hL0 : L ≠ 0 := by
          intro h; subst h; simp [hasFollowingSibling] at hs
        obtain ⟨pk, hpk⟩ := gd.kinds L (by omega) hL
        cases hg : parentOf t L with
        | none => simp [hasFollowingSibling, hL0, hg] at hs
        | some g =>
          have hgl : g < L := gd.po L g hg
          have hpknd := hLnd pk hpk
          have hr : addChild false t (some (p' + 1)) k th =
              addRaw (addRaw t pk g).1 k t.length := by
            simp only [addChild, hl, hs, if_true, hpk, hg, Bool.false_eq_true, if_false, addRaw_snd]
          rw [hr]
          have hgk : ∀ n v, kindAt t g ≠ some (.decl n v) := gd.ndp g L (gd.pc L g hg)
          have hck : ∀ n v, kindAt (addRaw t pk g).1 t.length ≠ some (.decl n v) := by
            intro n v h
            rw [kindAt_addRaw_new] at h; injection h with h; subst h
            simp [Kind.isDecl] at hpknd
          have gd1 := good_addRaw t gd pk g (by omega) hgk
          have ex1 := Ext.addRaw t pk g
          have hlen1 : (addRaw t pk g).1.length = t.length + 1 := addRaw_length t pk g
          have hcp : t.length < (addRaw t pk g).1.length := by omega
          have fcL : fullCtx t L = fullCtx t g ++ [pk] := by
            simp only [fullCtx]
            rw [show ctxUpF t (L + 1) L = fullCtx t g from ctxUp_eq_parent t gd L g hL0 hg, hpk]
            rfl
          have fccp : fullCtx (addRaw t pk g).1 t.length = fullCtx t L := by
            rw [fullCtx_new t gd pk g (by omega) hgk, fcL]
          have ex2 := Ext.addRaw (addRaw t pk g).1 k t.length
          exact ⟨[(t.length, fullCtx t g ++ (if pk.isAt then [pk] else []), selOf pk, [])], t.length, {
            good := good_addRaw _ gd1 k t.length hcp hck
            ext := Ext.trans ex1 ex2
            last := by rw [addRaw_length, addRaw_snd]
            fresh := by rw [addRaw_snd, hlen1]; omega
            kind := by rw [addRaw_snd]; exact kindAt_addRaw_new _ k _
            ctx := by rw [addRaw_snd, fullCtx_new _ gd1 k t.length hcp hck, fccp]
            par := by rw [addRaw_snd]; exact parentOf_addRaw_new _ k _
            parCtx := by rw [fullCtx_ext _ _ gd1 ex2 t.length hcp, fccp]
            parKind := Or.inr ⟨pk, by rw [ex2.kind t.length hcp]; exact kindAt_addRaw_new t pk g, hpk⟩
            parPar := fun G hG => by
              rw [ex2.par t.length hcp, parentOf_addRaw_new] at hG
              rw [hg]; exact hG
            view := by
              rw [viewB_addNd _ gd1 k hk t.length hcp hck, viewB_addNd t gd pk hpknd g (by omega) hgk, addRaw_snd,
                hlen1, fccp]
            preEmpty := fun e he => by
              simp only [List.mem_singleton] at he
              subst he
              exact ⟨rfl, Nat.le_refl _, by rw [addRaw_snd, hlen1]; omega⟩ }⟩
      · have hs' : hasFollowingSibling t L = false := by simpa using hs
        have hr : addChild false t (some (p' + 1)) k th = addRaw t k L := by
          simp only [addChild, hl, hs', Bool.false_eq_true, if_false]
        rw [hr]; exact plain

theorem climb_stop (t : Tree) (th : Through) (f p : Nat) (k : Kind) (hk : kindAt t p = some k)
    (ht : th.test k = false) : climb t th (f + 1) p = p := by
  unfold climb
  by_cases h0 : p = 0
  · simp [h0]
  · simp only [h0, if_false, hk]
    cases parentOf t p <;> simp [ht]

theorem climb_step (t : Tree) (th : Through) (f p g : Nat) (k : Kind) (h0 : p ≠ 0) (hk : kindAt t p = some k)
    (hg : parentOf t p = some g) (ht : th.test k = true) : climb t th (f + 1) p = climb t th f g := by
  simp [climb, h0, hk, hg, ht]


/-! ### the bubbling fragment -/

mutual
  def bubOnly : Stmt → Bool
    | .decl _ => true
    | .rule _ b => bubOnlyL b
    | .media _ b => bubOnlyL b
    | .supports _ b => bubOnlyL b
    | .unknown _ _ b => bubOnlyL b
    | .atroot _ _ => false
  def bubOnlyL : Stmts → Bool
    | .nil => true
    | .cons s ss => bubOnly s && bubOnlyL ss
end

/-- (on the reversed frame list) no @media frame directly inside another -/
def noAdjR : List Kind → Bool
  | a :: b :: rest => !(a.isMedia && b.isMedia) && noAdjR (b :: rest)
  | _ => true

theorem noAdjR_snoc (fs : List Kind) (k : Kind) (h : noAdjR fs.reverse = true)
    (hk : k.isMedia = false ∨ ∀ b, fs.reverse.head? = some b → b.isMedia = false) :
    noAdjR (fs ++ [k]).reverse = true := by
  rw [List.reverse_append]
  show noAdjR (k :: fs.reverse) = true
  cases hr : fs.reverse with
  | nil => rfl
  | cons b rest =>
    rw [hr] at h
    have : (k.isMedia && b.isMedia) = false := by
      rcases hk with hk | hk
      · simp [hk]
      · simp [hk b (by rw [hr]; rfl)]
    simp [noAdjR, this, h]

theorem noAdjR_head (k : Kind) (l : List Kind) (h : noAdjR (k :: l) = true) (hk : k.isMedia = true) :
    ∀ b, l.head? = some b → b.isMedia = false := by
  intro b hb
  cases l with
  | nil => cases hb
  | cons c rest =>
    injection hb with hb; subst hb
    simp only [noAdjR, hk, Bool.true_and, Bool.and_eq_true, Bool.not_eq_true'] at h
    exact h.1

theorem noAdjR_tail (k : Kind) (l : List Kind) (h : noAdjR (k :: l) = true) : noAdjR l = true := by
  cases l with
  | nil => rfl
  | cons b rest => simp [noAdjR] at h; exact h.2

theorem innermostMedia_snoc (fs : List Kind) (k : Kind) :
    innermostMedia (fs ++ [k]) = (match k with | .media qs => some qs | _ => innermostMedia fs) := by
  unfold innermostMedia
  simp only [List.reverse_append, List.reverse_cons, List.reverse_nil, List.nil_append, List.cons_append,
    List.findSome?_cons]
  cases k <;> simp

theorem innermostMedia_none_head (fs : List Kind) (h : innermostMedia fs = none) :
    ∀ b, fs.reverse.head? = some b → b.isMedia = false := by
  intro b hb
  unfold innermostMedia at h
  cases hr : fs.reverse with
  | nil => rw [hr] at hb; cases hb
  | cons c rest =>
    rw [hr] at h hb
    injection hb with hb; subst hb
    cases c with
    | media q => simp at h
    | _ => rfl

theorem dropMedia_snoc_nonMedia (fs : List Kind) (k : Kind) (hk : k.isMedia = false) :
    ((fs ++ [k]).reverse.dropWhile Kind.isMedia).reverse = fs ++ [k] := by
  simp [List.reverse_append, hk]

theorem dropMedia_snoc_media (fs : List Kind) (k : Kind) (hk : k.isMedia = true)
    (h : noAdjR (fs ++ [k]).reverse = true) :
    ((fs ++ [k]).reverse.dropWhile Kind.isMedia).reverse = fs := by
  simp only [List.reverse_append, List.reverse_cons, List.reverse_nil, List.nil_append, List.cons_append] at h ⊢
  simp only [List.dropWhile, hk]
  cases hr : fs.reverse with
  | nil => simpa using hr
  | cons b rest =>
    rw [hr] at h
    simp only [noAdjR, hk, Bool.true_and, Bool.and_eq_true, Bool.not_eq_true'] at h
    simp only [List.dropWhile, h.1]
    rw [← hr]; simp

theorem any_unknown_snoc (fs : List Kind) (k : Kind) :
    (fs ++ [k]).any Kind.isUnknown = (fs.any Kind.isUnknown || k.isUnknown) := by
  simp [List.any_append]


def extOB (P : Option Nat) (ds : List (String × String)) : EntB → EntB :=
  match P with
  | some p => extB p ds
  | none => id

theorem extOB_nil (P : Option Nat) (e : EntB) : extOB P [] e = e := by
  cases P <;> simp [extOB, extB_nil]

theorem extOB_append (P : Option Nat) (a b : List (String × String)) (e : EntB) :
    extOB P b (extOB P a e) = extOB P (a ++ b) e := by
  cases P <;> simp [extOB, extB_append]

/-- spec result vs. what the visitor does to the tree (blocks compared after dropping empty ones) -/
def RelB (t : Tree) (P : Option Nat) : SpecRes → Except Err Tree → Prop
  | .error e, r => r = .error e
  | .ok (ds, bs), r => ∃ t', r = .ok t' ∧ Good t' ∧ Ext t t' ∧
      ∃ new, viewB t' = (viewB t).map (extOB P ds) ++ new ∧
        (new.map toBlockB).filter Block.nonEmpty = bs.filter Block.nonEmpty ∧ ∀ e ∈ new, t.length ≤ e.1

theorem extOB_new (t : Tree) (P : Option Nat) (hP : ∀ p, P = some p → p < t.length) (ds : List (String × String))
    (new : List EntB) (hn : ∀ e ∈ new, t.length ≤ e.1) : new.map (extOB P ds) = new := by
  cases P with
  | none => simp [extOB]
  | some p =>
    have := hP p rfl
    apply map_eq_self
    intro e he
    have := hn e he
    exact extB_ne p ds e (by omega)

theorem relB_seq (t : Tree) (P : Option Nat) (hP : ∀ p, P = some p → p < t.length)
    (r1 r2 : SpecRes) (b1 : Except Err Tree) (k : Tree → Except Err Tree)
    (h1 : RelB t P r1 b1)
    (h2 : ∀ t1, b1 = .ok t1 → Good t1 → Ext t t1 → RelB t1 P r2 (k t1)) :
    RelB t P (seqRes r1 r2) (bindT b1 k) := by
  cases r1 with
  | error e =>
    simp only [RelB] at h1
    subst h1
    simp [seqRes, RelB, bindT]
  | ok x =>
    obtain ⟨d1, bs1⟩ := x
    obtain ⟨t1, hb, gd1, ex1, n1, v1, m1, i1⟩ := h1
    subst hb
    have h2' := h2 t1 rfl gd1 ex1
    cases r2 with
    | error e =>
      simp only [RelB] at h2'
      simp [seqRes, RelB, bindT, h2']
    | ok y =>
      obtain ⟨d2, bs2⟩ := y
      obtain ⟨t2, hb2, gd2, ex2, n2, v2, m2, i2⟩ := h2'
      refine ⟨t2, by simpa [bindT] using hb2, gd2, Ext.trans ex1 ex2, n1 ++ n2, ?_, ?_, ?_⟩
      · rw [v2, v1, List.map_append, List.map_map, extOB_new t P hP d2 n1 i1, List.append_assoc]
        congr 1
        apply List.map_congr_left
        intro e _
        simp [Function.comp, extOB_append]
      · simp only [List.map_append, List.filter_append, m1, m2]
      · intro e he
        simp only [List.mem_append] at he
        rcases he with he | he
        · exact i1 e he
        · have := i2 e he; have := ex1.len; omega

theorem addDecls_B (p : Nat) : ∀ (ds : List (String × String)) (t : Tree), Good t → p < t.length →
    (∀ n v, kindAt t p ≠ some (.decl n v)) →
    Good (addDecls t (some p) ds) ∧ Ext t (addDecls t (some p) ds) ∧
    viewB (addDecls t (some p) ds) = (viewB t).map (extB p ds)
  | [], t, gd, _, _ => ⟨gd, Ext.refl t, by
      simp only [addDecls]; exact (map_eq_self _ _ (fun e _ => extB_nil p e)).symm⟩
  | (n, v) :: ds, t, gd, hp, hpk => by
    have gd1 := good_addRaw t gd (.decl n v) p hp hpk
    obtain ⟨g2, e2, v2⟩ := addDecls_B p ds (addRaw t (.decl n v) p).1 gd1 (by rw [addRaw_length]; omega)
      (by intro n' v'; rw [kindAt_addRaw_old t _ p p hp]; exact hpk n' v')
    simp only [addDecls, addStmt, Option.getD_some]
    refine ⟨g2, Ext.trans (Ext.addRaw t _ p) e2, ?_⟩
    rw [v2, viewB_addDecl t gd n v p hp, List.map_map]
    apply List.map_congr_left
    intro e _
    simp [Function.comp, extB_append]

/-- `A`: the nodes created before the new current parent `P'`, all without declarations. -/
theorem construct_rel (t0 t2 : Tree) (P0 : Option Nat) (P' : Nat) (ctx0 : List Kind) (sel0 : Option SelList)
    (A : List EntB) (hview : viewB t2 = viewB t0 ++ A ++ [(P', ctx0, sel0, [])])
    (hA : ∀ e ∈ A, e.2.2.2 = [] ∧ t0.length ≤ e.1 ∧ e.1 ≠ P') (hP' : t0.length ≤ P')
    (ex : Ext t0 t2) (specBody : SpecRes) (res : Except Err Tree) (hrel : RelB t2 (some P') specBody res)
    (c' : SCtx) (hc1 : c'.frames = ctx0) (hc2 : c'.home = sel0) :
    RelB t0 P0 (wrapBlock c' specBody) res := by
  cases specBody with
  | error e => simpa [wrapBlock, RelB] using hrel
  | ok x =>
    obtain ⟨ds', bs'⟩ := x
    obtain ⟨t', hb, gd', ex', new', hv, hm, hi⟩ := hrel
    refine ⟨t', hb, gd', Ext.trans ex ex', A ++ [(P', ctx0, sel0, ds')] ++ new', ?_, ?_, ?_⟩
    · rw [hv, hview, List.map_append, List.map_append]
      have e1 : (viewB t0).map (extOB (some P') ds') = viewB t0 := by
        apply map_eq_self
        intro e he
        have := viewB_idx_lt t0 e he
        exact extB_ne _ _ e (by omega)
      have e2 : (viewB t0).map (extOB P0 []) = viewB t0 := map_eq_self _ _ (fun e _ => extOB_nil P0 e)
      have e3 : A.map (extOB (some P') ds') = A := by
        apply map_eq_self
        intro e he
        exact extB_ne _ _ e (hA e he).2.2
      rw [e1, e2, e3]
      simp [extOB, extB]
    · have hAe : (A.map toBlockB).filter Block.nonEmpty = [] := by
        rw [List.filter_eq_nil_iff]
        intro b hb
        simp only [List.mem_map] at hb
        obtain ⟨e, he, rfl⟩ := hb
        simp [toBlockB, Block.nonEmpty, (hA e he).1]
      simp only [List.map_append, List.filter_append, hAe, List.nil_append, hm, List.map_cons, List.map_nil]
      simp only [toBlockB, hc1, hc2, List.filter_cons]
      split <;> simp
    · intro e he
      simp only [List.mem_append, List.mem_singleton] at he
      rcases he with (he | he) | he
      · exact (hA e he).2.1
      · subst he; exact hP'
      · have := hi e he; have := ex.len; omega


/-! ### coherence between the spec context and the visitor context -/

/-- `g`: the innermost at-rule node (ROOT if none); the open style rule's node sits directly below it. -/
def ParentIs (t : Tree) (P : Option Nat) (g : Nat) : Option SelList → Prop
  | none => P = (if g = 0 then none else some g)
  | some S => ∃ p, P = some p ∧ p ≠ 0 ∧ p < t.length ∧ kindAt t p = some (.rule S) ∧ parentOf t p = some g

/-- Spec and visitor context describe the same position outside any @at-root; `g` (ROOT or an at-rule
    below ROOT or an at-rule) has the frames as body context and carries the current parent. -/
structure CohB (t : Tree) (sc : SCtx) (vc : VCtx) : Prop where
  excl : sc.exclStyle = false
  aexcl : vc.atRootExcl = false
  sel : vc.styleRule = sc.sel
  unk : vc.inUnknown = sc.inUnknown
  unkf : sc.inUnknown = sc.frames.any Kind.isUnknown
  mq : vc.mq = innermostMedia sc.frames
  noadj : noAdjR sc.frames.reverse = true
  node : ∃ g, g < t.length ∧ fullCtx t g = sc.frames ∧ (g = 0 ∨ ∃ k, kindAt t g = some k ∧ k.isAt = true) ∧
           (∀ G, parentOf t g = some G → G = 0 ∨ ∃ kG, kindAt t G = some kG ∧ kG.isAt = true) ∧
           ParentIs t vc.parent g sc.sel

theorem isAt_of_atOrRoot (t : Tree) (gd : Good t) (g : Nat)
    (hk : g = 0 ∨ ∃ k, kindAt t g = some k ∧ k.isAt = true) : ∀ kL, kindAt t g = some kL → kL.isAt = true := by
  intro kL hkL
  rcases hk with h0 | ⟨k', h1, h2⟩
  · subst h0; rw [gd.root] at hkL; cases hkL
  · rw [h1] at hkL; injection hkL with hkL; subst hkL; exact h2

theorem atOrRoot_copy (t t1 : Tree) (gd : Good t) (L q : Nat)
    (hq : q = 0 ∨ ∃ kq, kindAt t1 q = some kq ∧ kindAt t L = some kq)
    (hL : L = 0 ∨ ∃ kL, kindAt t L = some kL ∧ kL.isAt = true) :
    q = 0 ∨ ∃ k, kindAt t1 q = some k ∧ k.isAt = true := by
  rcases hq with h0 | ⟨kq, h1, h2⟩
  · exact Or.inl h0
  · exact Or.inr ⟨kq, h1, isAt_of_atOrRoot t gd L hL kq h2⟩

structure CohCtx (sc : SCtx) (vc : VCtx) : Prop where
  excl : sc.exclStyle = false
  aexcl : vc.atRootExcl = false
  sel : vc.styleRule = sc.sel
  unk : vc.inUnknown = sc.inUnknown
  unkf : sc.inUnknown = sc.frames.any Kind.isUnknown
  mq : vc.mq = innermostMedia sc.frames
  noadj : noAdjR sc.frames.reverse = true

theorem CohB.ctx {t : Tree} {sc : SCtx} {vc : VCtx} (h : CohB t sc vc) : CohCtx sc vc :=
  ⟨h.excl, h.aexcl, h.sel, h.unk, h.unkf, h.mq, h.noadj⟩

theorem CohCtx.withNode {t : Tree} {sc : SCtx} {vc : VCtx} (h : CohCtx sc vc) (g : Nat) (hg : g < t.length)
    (hf : fullCtx t g = sc.frames) (hk : g = 0 ∨ ∃ k, kindAt t g = some k ∧ k.isAt = true)
    (hgp : ∀ G, parentOf t g = some G → G = 0 ∨ ∃ kG, kindAt t G = some kG ∧ kG.isAt = true)
    (hp : ParentIs t vc.parent g sc.sel) : CohB t sc vc :=
  ⟨h.excl, h.aexcl, h.sel, h.unk, h.unkf, h.mq, h.noadj, g, hg, hf, hk, hgp, hp⟩

theorem ParentIs.of_ext (t t' : Tree) (ex : Ext t t') (P : Option Nat) (g : Nat) (sel : Option SelList)
    (h : ParentIs t P g sel) : ParentIs t' P g sel := by
  cases sel with
  | none => exact h
  | some S =>
    obtain ⟨p, h1, h2, h3, h4, h5⟩ := h
    exact ⟨p, h1, h2, Nat.lt_of_lt_of_le h3 ex.len, by rw [ex.kind p h3]; exact h4, by rw [ex.par p h3]; exact h5⟩

theorem CohB.of_ext (t t' : Tree) (gd : Good t) (ex : Ext t t') (sc : SCtx) (vc : VCtx) (h : CohB t sc vc) :
    CohB t' sc vc := by
  obtain ⟨g, hg, hf, hk, hgp, hp⟩ := h.node
  refine h.ctx.withNode g (Nat.lt_of_lt_of_le hg ex.len) ?_ ?_ ?_ (ParentIs.of_ext t t' ex _ g _ hp)
  · rw [fullCtx_ext t t' gd ex g hg]; exact hf
  · rcases hk with h0 | ⟨k, hk1, hk2⟩
    · exact Or.inl h0
    · exact Or.inr ⟨k, by rw [ex.kind g hg]; exact hk1, hk2⟩
  · intro G hG
    rw [ex.par g hg] at hG
    rcases hgp G hG with h0 | ⟨kG, h1, h2⟩
    · exact Or.inl h0
    · have := gd.po g G hG
      exact Or.inr ⟨kG, by rw [ex.kind G (by omega)]; exact h1, h2⟩

theorem parentIs_lt (t : Tree) (P : Option Nat) (g : Nat) (hg : g < t.length) (sel : Option SelList)
    (h : ParentIs t P g sel) : ∀ p, P = some p → p < t.length := by
  intro p hp
  cases sel with
  | none =>
    simp only [ParentIs] at h
    by_cases h0 : g = 0
    · simp [h0] at h; rw [h] at hp; cases hp
    · simp [h0] at h; rw [h] at hp; injection hp with hp; omega
  | some S =>
    obtain ⟨p', h1, _, h3, _⟩ := h
    rw [h1] at hp; injection hp with hp; omega

theorem frames_of_node (t : Tree) (gd : Good t) (g : Nat) (h0 : g ≠ 0) (hg : g < t.length) (k : Kind)
    (hk : kindAt t g = some k) : ∃ G, parentOf t g = some G ∧ G < g ∧ fullCtx t g = fullCtx t G ++ [k] := by
  obtain ⟨G, hG⟩ := gd.pars g (by omega) hg
  refine ⟨G, hG, gd.po g G hG, ?_⟩
  simp only [fullCtx]
  rw [show ctxUpF t (g + 1) g = fullCtx t G from ctxUp_eq_parent t gd g G h0 hG, hk]
  rfl

theorem landing_some_succ (t : Tree) (th : Through) (p : Nat) (h : p ≠ 0) :
    landing t (some p) th = climb t th t.length p := by
  cases p with
  | zero => exact absurd rfl h
  | succ p' => rfl

/-- The walk first leaves the open style rule (if any) and is then at `g`, with fuel to spare. -/
theorem landing_eq_climb (t : Tree) (gd : Good t) (th : Through) (hrule : ∀ S, th.test (.rule S) = true)
    (P : Option Nat) (g : Nat) (hg : g < t.length) (sel : Option SelList) (hp : ParentIs t P g sel) :
    ∃ f, g < f ∧ landing t P th = climb t th f g := by
  cases sel with
  | none =>
    simp only [ParentIs] at hp
    by_cases h0 : g = 0
    · simp [h0] at hp; subst hp; subst h0
      exact ⟨1, by omega, by simp [landing, climb_zero]⟩
    · simp [h0] at hp; subst hp
      exact ⟨t.length, hg, landing_some_succ t th g h0⟩
  | some S =>
    obtain ⟨p, h1, h2, h3, h4, h5⟩ := hp
    subst h1
    have hgp := gd.po p g h5
    obtain ⟨f, hf⟩ : ∃ f, t.length = f + 1 := ⟨t.length - 1, by omega⟩
    exact ⟨f, by omega, by rw [landing_some_succ t th p h2, hf, climb_step t th f p g _ h2 h4 h5 (hrule S)]⟩

theorem climb_stays (t : Tree) (gd : Good t) (th : Through) (f g : Nat) (hg : g < t.length) (hf : g < f)
    (hstop : ∀ k, kindAt t g = some k → th.test k = false) : climb t th f g = g := by
  by_cases h0 : g = 0
  · subst h0; exact climb_zero t th f
  · obtain ⟨f', rfl⟩ : ∃ f', f = f' + 1 := ⟨f - 1, by omega⟩
    obtain ⟨k, hk⟩ := gd.kinds g (by omega) hg
    exact climb_stop t th f' g k hk (hstop k hk)

theorem landing_at_g (t : Tree) (gd : Good t) (th : Through) (hrule : ∀ S, th.test (.rule S) = true)
    (P : Option Nat) (g : Nat) (hg : g < t.length) (sel : Option SelList) (hp : ParentIs t P g sel)
    (hstop : ∀ k, kindAt t g = some k → th.test k = false) : landing t P th = g := by
  obtain ⟨f, hf, e⟩ := landing_eq_climb t gd th hrule P g hg sel hp
  rw [e]; exact climb_stays t gd th f g hg hf hstop

theorem landing_at_G (t : Tree) (gd : Good t) (th : Through) (hrule : ∀ S, th.test (.rule S) = true)
    (P : Option Nat) (g G : Nat) (hg : g < t.length) (h0 : g ≠ 0) (sel : Option SelList) (hp : ParentIs t P g sel)
    (kg : Kind) (hkg : kindAt t g = some kg) (hthrough : th.test kg = true) (hG : parentOf t g = some G)
    (hstop : ∀ k, kindAt t G = some k → th.test k = false) : landing t P th = G := by
  obtain ⟨f, hf, e⟩ := landing_eq_climb t gd th hrule P g hg sel hp
  obtain ⟨f', rfl⟩ : ∃ f', f = f' + 1 := ⟨f - 1, by omega⟩
  have hGg := gd.po g G hG
  rw [e, climb_step t th f' g G kg h0 hkg hG hthrough]
  exact climb_stays t gd th f' G (by omega) (by omega) hstop

end Grass.CssTree
