import GrassProofs.Lemmas.Serialize
/-
  C05 / C06, the statement tree: every rendering is scanner-neutral under the leaf guard (`visit_N`,
  `topLoop_N`, `finish_N`); invisible statements write nothing (`visit_invisible`).
-/
namespace Grass.Serialize

/-! ## what `visit_stmt` writes -/

theorem visit_invisible (st : Style) (ind : Nat) (s : Stmt) (h : s.isInvisible = true) :
    visitStmt st ind s = (false, []) := by
  fun_cases visitStmt st ind s <;> simp_all [Stmt.isInvisible]

/-- `did_write` is the negation of `is_invisible`. -/
theorem visit_fst (st : Style) (ind : Nat) (s : Stmt) : (visitStmt st ind s).1 = !s.isInvisible := by
  fun_cases visitStmt st ind s
  all_goals simp_all
  all_goals simp [Stmt.isInvisible, *]

theorem visit_visible (st : Style) (ind : Nat) (s : Stmt) (h : s.isInvisible = false) :
    (visitStmt st ind s).1 = true := by
  rw [visit_fst, h]; rfl

theorem visit_rule (st : Style) (ind : Nat) (ge : Bool) (sel : Selector) (body : Stmts)
    (h : (Stmt.rule ge sel body).isInvisible = false) :
    (visitStmt st ind (.rule ge sel body)).2 =
      indentOut st ind ++ rulePrelude st sel ++ writeChildren st ind body := by
  rw [visitStmt, h]; rfl

theorem visit_decl (st : Style) (ind : Nat) (name : Str) (custom : Bool) (v : Value) (h : v.isBlank = false) :
    (visitStmt st ind (.decl name custom v)).2 = indentOut st ind ++ declText st name custom v := by
  rw [visitStmt, h]; simp [declText, List.append_assoc]

theorem visit_media (st : Style) (ind : Nat) (ge : Bool) (qs : List Query) (body : Stmts)
    (h : (Stmt.media ge qs body).isInvisible = false) :
    (visitStmt st ind (.media ge qs body)).2 =
      indentOut st ind ++ mediaPrelude st qs ++ writeChildren st ind body := by
  rw [visitStmt, h]; simp [mediaPrelude, writeChildren, List.append_assoc]

theorem visit_supports (st : Style) (ind : Nat) (ge : Bool) (params : Str) (body : Stmts)
    (h : (Stmt.supports ge params body).isInvisible = false) :
    (visitStmt st ind (.supports ge params body)).2 =
      indentOut st ind ++ supportsPrelude params ++ writeChildren st ind body := by
  rw [visitStmt, h]; simp [supportsPrelude, writeChildren, List.append_assoc]

theorem visit_unknown (st : Style) (ind : Nat) (ge : Bool) (name params : Str) (hasBody : Bool) (body : Stmts) :
    (visitStmt st ind (.unknown ge name params hasBody body)).2 =
      indentOut st ind ++ unknownPrelude name params ++
        (if !hasBody then [] else if body.allInvisible then lit " {}" else writeChildren st ind body) := by
  rw [visitStmt]; simp [unknownPrelude, writeChildren, List.append_assoc]

theorem visit_kf (st : Style) (ind : Nat) (sels : List Str) (body : Stmts)
    (h : (Stmt.kf sels body).isInvisible = false) :
    (visitStmt st ind (.kf sels body)).2 = indentOut st ind ++ kfPrelude sels ++ writeChildren st ind body := by
  rw [visitStmt, h]; rfl

theorem visit_comment (st : Style) (ind : Nat) (text : Str) (col : Nat) :
    (visitStmt st ind (.comment text col)).2 =
      if commentKept st text then indentOut st ind ++ commentOut text col else [] := by
  unfold visitStmt; split <;> rfl

theorem visit_import (st : Style) (ind : Nat) (url : Str) (mods : Option Str) :
    (visitStmt st ind (.import url mods)).2 = indentOut st ind ++ importText url mods := by
  unfold visitStmt; simp [importText, List.append_assoc]

/-! ## scanner-neutral output -/

theorem N_single (c : Char) (h : neutral [c] = true) : N [c] := N_of_neutral h

theorem N_spaces (n : Nat) : N (spaces n) := by
  induction n with
  | zero => exact N_nil
  | succ k ih =>
    have : spaces (k + 1) = [' '] ++ spaces k := by simp [spaces, List.replicate_succ]
    rw [this]; exact N_append (N_single ' ' (by decide)) ih

theorem N_indentOut (st : Style) (ind : Nat) : N (indentOut st ind) := by
  unfold indentOut; split; exact N_nil; exact N_spaces ind

theorem N_optNl (st : Style) : N (optNl st) := by
  unfold optNl; split; exact N_nil; exact N_single '\n' (by decide)

theorem N_optSp (st : Style) : N (optSp st) := by
  unfold optSp; split; exact N_nil; exact N_single ' ' (by decide)

theorem N_lit (s : String) (h : neutral (lit s) = true) : N (lit s) := N_of_neutral h

theorem N_block (st : Style) (ind : Nat) (body : Str) (h : N body) :
    N (openBlock st ++ body ++ closeBlock st ind) := by
  intro d
  have ho : run ⟨.normal, d⟩ (openBlock st) = some ⟨.normal, d + 1⟩ := by cases st <;> rfl
  have hc : run ⟨.normal, d + 1⟩ (closeBlock st ind) = some ⟨.normal, d⟩ := by
    unfold closeBlock
    rw [run_append, N_indentOut st ind (d + 1)]
    simp [run, step, stepNormal]
  rw [run_append, run_append, ho, Option.bind_some, h (d + 1), Option.bind_some, hc]

theorem N_atom (a : Atom) (h : a.ok = true) : N a.out := by
  cases a with
  | raw s => exact N_of_neutral h
  | quoted s => exact N_quote s

theorem N_sepOut (st : Style) (sep : Sep) (h : sep ≠ .slash) : N (sepOut st sep) := by
  cases sep with
  | space => exact N_single ' ' (by decide)
  | comma =>
    simp only [sepOut]; split
    · exact N_single ',' (by decide)
    · exact N_lit ", " (by decide)
  | slash => exact absurd rfl h

theorem N_listLoop (st : Style) (sep : Sep) (hs : sep ≠ .slash) (items : List Atom)
    (h : items.all Atom.ok = true) : N (listLoop st sep items) := by
  induction items with
  | nil => exact N_nil
  | cons a r ih =>
    simp only [List.all_cons, Bool.and_eq_true] at h
    cases r with
    | nil => simpa [listLoop] using N_atom a h.1
    | cons b r' =>
      simp only [listLoop]
      exact N_append (N_append (N_atom a h.1) (N_sepOut st sep hs)) (ih h.2)

theorem all_filter {α} (p q : α → Bool) (l : List α) (h : l.all p = true) : (l.filter q).all p = true := by
  simp only [List.all_eq_true, List.mem_filter] at *
  exact fun x hx => h x hx.1

theorem N_value (st : Style) (v : Value) (h : v.ok st = true) : N (v.out st) := by
  cases v with
  | atom a => exact N_atom a h
  | list sep items =>
    cases sep with
    | slash => exact N_of_neutral h
    | space => exact N_listLoop st .space (by decide) _ (all_filter _ _ _ h)
    | comma => exact N_listLoop st .comma (by decide) _ (all_filter _ _ _ h)

theorem N_childSemi (st : Style) (l : Bool) (s : Stmt) : N (childSemi st l s) := by
  unfold childSemi; split
  · exact N_single ';' (by decide)
  · exact N_nil

theorem N_cons (c : Char) (x : Str) (hc : neutral [c] = true) (hx : N x) : N (c :: x) :=
  N_append (a := [c]) (N_single c hc) hx

theorem N_opt_params (params : Str) (h : neutral params = true) :
    N (if params.isEmpty then [] else ' ' :: params) := by
  split
  · exact N_nil
  · exact N_cons ' ' _ (by decide) (N_of_neutral h)

theorem N_params (name params : Str) (hn : neutral name = true) (hp : neutral params = true) :
    N (unknownPrelude name params) :=
  N_cons '@' _ (by decide) (N_append (N_of_neutral hn) (N_opt_params params hp))

mutual
theorem visit_N (st : Style) : ∀ (s : Stmt) (ind : Nat), s.leavesOk st = true → N (visitStmt st ind s).2
  | .rule ge sel body, ind, h => by
    simp only [Stmt.leavesOk, Bool.and_eq_true] at h
    cases hv : (Stmt.rule ge sel body).isInvisible
    · rw [visit_rule st ind ge sel body hv]
      exact N_append (N_append (N_indentOut st ind) (N_of_neutral h.1))
        (N_block st ind _ (children_N st body (ind + 2) h.2))
    · rw [visit_invisible st ind _ hv]; exact N_nil
  | .decl name custom v, ind, h => by
    simp only [Stmt.leavesOk, Bool.and_eq_true] at h
    cases hv : (Stmt.decl name custom v).isInvisible
    · rw [visit_decl st ind name custom v hv]
      refine N_append (N_indentOut st ind)
        (N_append (N_append (N_append (N_of_neutral h.1) (N_single ':' (by decide))) ?_) (N_value st v h.2))
      split
      · exact N_single ' ' (by decide)
      · exact N_nil
    · rw [visit_invisible st ind _ hv]; exact N_nil
  | .media ge qs body, ind, h => by
    simp only [Stmt.leavesOk, Bool.and_eq_true] at h
    cases hv : (Stmt.media ge qs body).isInvisible
    · rw [visit_media st ind ge qs body hv]
      exact N_append (N_append (N_indentOut st ind) (N_append (N_lit "@media " (by decide)) (N_of_neutral h.1)))
        (N_block st ind _ (children_N st body (ind + 2) h.2))
    · rw [visit_invisible st ind _ hv]; exact N_nil
  | .supports ge params body, ind, h => by
    simp only [Stmt.leavesOk, Bool.and_eq_true] at h
    cases hv : (Stmt.supports ge params body).isInvisible
    · rw [visit_supports st ind ge params body hv]
      exact N_append (N_append (N_indentOut st ind) (N_append (N_lit "@supports" (by decide)) (N_opt_params params h.1)))
        (N_block st ind _ (children_N st body (ind + 2) h.2))
    · rw [visit_invisible st ind _ hv]; exact N_nil
  | .unknown ge name params hasBody body, ind, h => by
    simp only [Stmt.leavesOk, Bool.and_eq_true] at h
    rw [visit_unknown]
    refine N_append (N_append (N_indentOut st ind) (N_params name params h.1.1 h.1.2)) ?_
    split
    · exact N_nil
    · split
      · exact N_lit " {}" (by decide)
      · exact N_block st ind _ (children_N st body (ind + 2) h.2)
  | .kf sels body, ind, h => by
    simp only [Stmt.leavesOk, Bool.and_eq_true] at h
    cases hv : (Stmt.kf sels body).isInvisible
    · rw [visit_kf st ind sels body hv]
      exact N_append (N_append (N_indentOut st ind) (N_of_neutral h.1))
        (N_block st ind _ (children_N st body (ind + 2) h.2))
    · rw [visit_invisible st ind _ hv]; exact N_nil
  | .comment text col, ind, h => by
    simp only [Stmt.leavesOk] at h
    rw [visit_comment]
    split
    · exact N_append (N_indentOut st ind) (N_of_neutral h)
    · exact N_nil
  | .import url mods, ind, h => by
    simp only [Stmt.leavesOk, Bool.and_eq_true] at h
    rw [visit_import]
    refine N_append (N_indentOut st ind) (N_append (N_append (N_lit "@import " (by decide)) (N_of_neutral h.1)) ?_)
    cases mods with
    | none => exact N_nil
    | some m => exact N_cons ' ' _ (by decide) (N_of_neutral h.2)
theorem children_N (st : Style) : ∀ (ss : Stmts) (ind : Nat), ss.leavesOk st = true → N (childrenLoop st ind ss)
  | .nil, ind, _ => by rw [childrenLoop]; exact N_nil
  | .cons s ss, ind, h => by
    simp only [Stmts.leavesOk, Bool.and_eq_true] at h
    unfold childrenLoop
    have h1 := visit_N st s ind h.1
    have h2 := children_N st ss ind h.2
    refine N_append ?_ h2
    cases hw : (visitStmt st ind s).1
    · simp only [Bool.false_eq_true, if_false]; exact N_nil
    · simp only [if_true]
      exact N_append (N_append h1 (N_childSemi st _ s)) (N_optNl st)
end

theorem isEmpty_append' {α} (a b : List α) : (a ++ b).isEmpty = (a.isEmpty && b.isEmpty) := by
  cases a <;> simp

theorem visitGroup_buf (st : Style) (T : Top) (s : Stmt) :
    (visitGroup st T s).buf = T.buf ++ (if T.prevSemi then [';'] else []) ++
      (if !(T.buf.isEmpty && !T.prevSemi) then optNl st ++ (if T.prevGroupEnd then optNl st else []) else []) ++
      (visitStmt st 0 s).2 := by
  obtain ⟨buf, pg, ps⟩ := T
  cases ps <;> cases pg <;> cases hb : buf.isEmpty <;> simp [visitGroup, hb, isEmpty_append']

theorem finish_false (st : Style) (T : Top) :
    finish st false T = T.buf ++ (if T.prevSemi then [';'] else []) ++
      (if !(T.buf.isEmpty && !T.prevSemi) then optNl st else []) := by
  obtain ⟨buf, pg, ps⟩ := T
  cases ps <;> cases hb : buf.isEmpty <;> simp [finish, hb, isEmpty_append']

theorem N_semi (b : Bool) : N (if b then [';'] else []) := by
  split
  · exact N_single ';' (by decide)
  · exact N_nil

theorem visitGroup_N (st : Style) (T : Top) (s : Stmt) (hT : N T.buf) (hs : s.leavesOk st = true) :
    N (visitGroup st T s).buf := by
  rw [visitGroup_buf]
  refine N_append (N_append (N_append hT (N_semi _)) ?_) (visit_N st s 0 hs)
  split
  · refine N_append (N_optNl st) ?_
    split
    · exact N_optNl st
    · exact N_nil
  · exact N_nil

theorem topLoop_N (st : Style) (t : List Stmt) (T : Top) (hT : N T.buf) (ht : treeOk st t = true) :
    N (topLoop st T t).buf := by
  induction t generalizing T with
  | nil => simpa [topLoop] using hT
  | cons s ss ih =>
    simp only [treeOk, List.all_cons, Bool.and_eq_true] at ht
    simp only [topLoop]
    split
    · exact ih T hT (by simpa [treeOk] using ht.2)
    · exact ih _ (visitGroup_N st T s hT ht.1) (by simpa [treeOk] using ht.2)

theorem finish_header (st : Style) (cs : Bool) (T : Top) :
    finish st cs T =
      (if cs && T.buf.any isNonAscii then (if st.isCompressed then [bom] else charsetPrefix) else []) ++
        finish st false T := by
  unfold finish
  cases cs <;> cases T.buf.any isNonAscii <;> cases st <;> rfl

theorem hasCharsetOrBom_header (st : Style) (x : Str) :
    hasCharsetOrBom ((if st.isCompressed then [bom] else charsetPrefix) ++ x) = true := by
  cases st <;> simp [hasCharsetOrBom, startsWith, Style.isCompressed]

theorem finish_N (st : Style) (cs : Bool) (T : Top) (hT : N T.buf) : N (finish st cs T) := by
  rw [finish_header, finish_false]
  refine N_append ?_ (N_append (N_append hT (N_semi _)) ?_)
  · split
    · split
      · exact N_of_neutral (by decide)
      · exact N_of_neutral (by decide +kernel)
    · exact N_nil
  · split
    · exact N_optNl st
    · exact N_nil

theorem topLoop_append (st : Style) (a b : List Stmt) (T : Top) :
    topLoop st T (a ++ b) = topLoop st (topLoop st T a) b := by
  induction a generalizing T with
  | nil => rfl
  | cons s ss ih => simp only [List.cons_append, topLoop]; split <;> exact ih _

end Grass.Serialize
