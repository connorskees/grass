import GrassProofs.Lemmas.SerializeReadTree
import GrassProofs.Lemmas.SerializeRead
/-
  For `C05_fixed_point_model`: a read tree satisfying `embedOk`, embedded back into statements, is
  readable and its canonical tree is the read tree itself (`embed_top`).
-/
namespace Grass.Serialize

theorem splitColon_eq (t n v : Str) (h : splitColon t = some (n, v)) : t = n ++ ':' :: v := by
  induction t generalizing n with
  | nil => simp [splitColon] at h
  | cons c cs ih =>
    simp only [splitColon] at h
    by_cases hc : c = ':'
    · subst hc; simp at h; obtain ⟨h1, h2⟩ := h; subst h1; subst h2; rfl
    · simp only [hc, if_false, Option.map_eq_some_iff] at h
      obtain ⟨r, hr, he⟩ := h
      obtain ⟨r1, r2⟩ := r
      simp only [Prod.mk.injEq] at he
      obtain ⟨e1, e2⟩ := he
      subst e1; subst e2
      rw [ih r1 hr]; rfl

theorem unquotedLoop_no_nl (x : Str) (h : '\n' ∉ x) : unquotedLoop false x = x := by
  induction x with
  | nil => simp [unquotedLoop]
  | cons c cs ih =>
    simp only [List.mem_cons, not_or] at h
    have a : c ≠ '\n' := fun e => h.1 e.symm
    by_cases b : c = ' '
    · subst b; simp [unquotedLoop, ih h.2]
    · simp [unquotedLoop, a, b, ih h.2]

theorem canonKids_allInvisible (st : Style) : ∀ (ss : Stmts), ss.allInvisible = true → canonKids st ss = .nil
  | .nil, _ => by rw [canonKids]
  | .cons s ss, h => by
    simp only [Stmts.allInvisible, Bool.and_eq_true] at h
    rw [canonKids, canon_invisible st s h.1, canonKids_allInvisible st ss h.2]; rfl

theorem atText_shape (p : Str) (h : isAtText p = true) : p = '@' :: p.drop 1 := by
  cases p with
  | nil => simp [isAtText] at h
  | cons c cs => simp [isAtText] at h; subst h; rfl

theorem unknownPrelude_nil (name : Str) : unknownPrelude name [] = '@' :: name := by
  simp [unknownPrelude]

theorem textOk_parts (P : Char → Bool) (p : Str) (h : textOk P p = true) : hdrOk p = true ∧ nm P p = p ∧ '\n' ∉ p := by
  simp only [textOk, Bool.and_eq_true, beq_iff_eq, Bool.not_eq_true', List.contains_eq_mem, decide_eq_false_iff_not] at h
  exact ⟨h.1.1, h.1.2, h.2⟩

theorem hdrOk_ne_nil (p : Str) (h : hdrOk p = true) : p ≠ [] := by
  intro e; subst e; simp [hdrOk, headOk] at h

mutual
theorem embed_node (st : Style) : ∀ (n : RNode), n.embedOk = true →
    n.embed.readable st = true ∧ canonStmt st n.embed = some n
  | .block p kids, h => by
    simp only [RNode.embedOk, Bool.and_eq_true, Bool.or_eq_true, Bool.not_eq_true'] at h
    obtain ⟨⟨ht, hk⟩, hv⟩ := h
    obtain ⟨hp, hs, _⟩ := textOk_parts Ppre p ht
    obtain ⟨ik1, ik2⟩ := embed_kids st kids hk
    by_cases ha : isAtText p = true
    · have hp' := atText_shape p ha
      simp only [RNode.embed, ha, if_true]
      refine ⟨?_, ?_⟩
      · simp only [Stmt.readable, Bool.and_eq_true, unknownPrelude_nil, ← hp']
        exact ⟨hp, ik1⟩
      · rw [canonStmt]
        simp only [Bool.not_true, Bool.false_eq_true, if_false, unknownPrelude_nil, ← hp', hs]
        by_cases hi : kids.embed.allInvisible = true
        · simp only [hi, if_true]
          rw [← ik2, canonKids_allInvisible st _ hi]
        · simp only [hi, Bool.false_eq_true, if_false, ik2]
    · have ha' : isAtText p = false := by simpa using ha
      have hvis : kids.embed.allInvisible = false := by
        rcases hv with e | e
        · rw [ha'] at e; simp at e
        · exact e
      simp only [RNode.embed, ha', Bool.false_eq_true, if_false]
      have hinv : (Stmt.rule true [⟨false, [.compound [.text p]]⟩] kids.embed).isInvisible = false := by
        simp [Stmt.isInvisible, selectorInvisible, Complex.isInvisible, Component.isInvisible, compoundInvisible,
          Simple.isInvisible, hvis]
      have hsel : rulePrelude st [⟨false, [.compound [.text p]]⟩] = p := selectorOut_single st p (hdrOk_ne_nil p hp)
      refine ⟨?_, ?_⟩
      · simp only [Stmt.readable, hinv, Bool.false_or, Bool.and_eq_true, hsel]
        exact ⟨hp, ik1⟩
      · rw [canonStmt]
        simp only [hinv, Bool.false_eq_true, if_false, hsel, hs, ik2]
  | .item t, h => by
    simp only [RNode.embedOk, Bool.and_eq_true, Bool.or_eq_true] at h
    obtain ⟨ht, hv⟩ := h
    obtain ⟨hp, hs, hnl⟩ := textOk_parts Pitem t ht
    by_cases ha : isAtText t = true
    · have hp' := atText_shape t ha
      simp only [RNode.embed, ha, if_true]
      refine ⟨?_, ?_⟩
      · simp only [Stmt.readable, Stmts.readable, Bool.and_true, unknownPrelude_nil, ← hp']
        exact hp
      · rw [canonStmt]
        simp only [Bool.not_false, if_true, unknownPrelude_nil, ← hp', hs]
    · have ha' : isAtText t = false := by simpa using ha
      rw [ha'] at hv
      simp only [Bool.false_eq_true, false_or] at hv
      cases hsp : splitColon t with
      | none => rw [hsp] at hv; simp at hv
      | some r =>
        obtain ⟨n, v⟩ := r
        rw [hsp] at hv
        simp only [Bool.and_eq_true, Bool.not_eq_true'] at hv
        have et := splitColon_eq t n v hsp
        have hnlv : '\n' ∉ v := by
          intro hm; apply hnl; rw [et]; simp [hm]
        have hdt : ∀ st, declText st n true (.atom (.raw v)) = t := by
          intro st
          simp [declText, Value.out, Atom.out, unquotedOut, unquotedLoop_no_nl v hnlv, et]
        simp only [RNode.embed, ha', Bool.false_eq_true, if_false, hsp]
        have hb : Value.isBlank (.atom (.raw v)) = false := by simpa [Value.isBlank, Atom.isBlank] using hv.1
        refine ⟨?_, ?_⟩
        · simp only [Stmt.readable, hb, Bool.false_or, hdt]; exact hp
        · rw [canonStmt]
          simp only [hb, Bool.false_eq_true, if_false, hdt, hs]
  | .comment c, h => by
    simp only [RNode.embedOk, Bool.and_eq_true, beq_iff_eq] at h
    obtain ⟨⟨hc, hl⟩, he⟩ := h
    have hlit : lit "/*!" = ['/', '*', '!'] := by decide
    simp only [RNode.embed]
    refine ⟨?_, ?_⟩
    · simp only [Stmt.readable, he, hc, Bool.true_and, beq_iff_eq, hlit]
      rfl
    · rw [canonStmt]
      simp only [he, hl, if_true]
theorem embed_kids (st : Style) : ∀ (ns : RNodes), ns.embedOk = true →
    ns.embed.readable st = true ∧ canonKids st ns.embed = ns
  | .nil, _ => by
    simp only [RNodes.embed, Stmts.readable, true_and]; rw [canonKids]
  | .cons n ns, h => by
    simp only [RNodes.embedOk, Bool.and_eq_true] at h
    obtain ⟨a1, a2⟩ := embed_node st n h.1
    obtain ⟨b1, b2⟩ := embed_kids st ns h.2
    simp only [RNodes.embed, Stmts.readable, a1, b1, Bool.and_self, true_and]
    rw [canonKids, a2, b2]; rfl
end

theorem embed_top (st : Style) : ∀ (c : RNodes), c.embedOk = true →
    treeReadable st (embedTop c) = true ∧ canonTop st (embedTop c) = c
  | .nil, _ => ⟨rfl, rfl⟩
  | .cons n ns, h => by
    simp only [RNodes.embedOk, Bool.and_eq_true] at h
    obtain ⟨a1, a2⟩ := embed_node st n h.1
    obtain ⟨b1, b2⟩ := embed_top st ns h.2
    refine ⟨?_, ?_⟩
    · simp only [embedTop, RNodes.toList, List.map_cons, treeReadable, List.all_cons, a1, Bool.true_and]
      simpa [treeReadable, embedTop] using b1
    · simp only [embedTop, RNodes.toList, List.map_cons, canonTop, a2, consOpt]
      simp only [embedTop] at b2
      rw [b2]

end Grass.Serialize
