import Grass.Module
/- `List.lookup` against `setAssoc`, `eraseKey` and filters on the key; `setVar`. -/
namespace Grass.Module

theorem lookup_isSome_iff_mem_keys (l : List (Ident × Val)) (k : Ident) :
    (l.lookup k).isSome = true ↔ k ∈ l.map (·.1) := by
  rw [List.lookup_isSome_iff, List.mem_map]
  exact ⟨fun ⟨p, hp, hk⟩ => ⟨p, hp, (beq_iff_eq.mp hk).symm⟩, fun ⟨p, hp, hk⟩ => ⟨p, hp, beq_iff_eq.mpr hk.symm⟩⟩

theorem any_fst_beq (l : List (Ident × Val)) (n : Ident) : l.any (·.1 == n) = (l.lookup n).isSome := by
  rw [Bool.eq_iff_iff, List.any_eq_true, List.lookup_isSome_iff]
  exact ⟨fun ⟨p, hp, hk⟩ => ⟨p, hp, beq_iff_eq.mpr (beq_iff_eq.mp hk).symm⟩,
    fun ⟨p, hp, hk⟩ => ⟨p, hp, beq_iff_eq.mpr (beq_iff_eq.mp hk).symm⟩⟩

theorem lookup_filter_fst (l : List (Ident × Val)) (p : Ident → Bool) (k : Ident) :
    (l.filter fun e => p e.1).lookup k = if p k then l.lookup k else none := by
  induction l with
  | nil => simp
  | cons e l ih =>
    obtain ⟨a, x⟩ := e
    by_cases hk : k = a
    · subst hk
      by_cases hp : p k <;> simp [hp, ih]
    · have hb : (k == a) = false := beq_eq_false_iff_ne.mpr hk
      by_cases hp : p a <;> simp [List.lookup_cons, hp, hb, ih]

theorem lookup_eraseKey (l : List (Ident × Val)) (n k : Ident) :
    (eraseKey l n).lookup k = if k = n then none else l.lookup k := by
  rw [eraseKey, lookup_filter_fst l (· != n)]
  by_cases h : k = n <;> simp [h]

theorem lookup_setAssoc (l : List (Ident × Val)) (n : Ident) (v : Val) (k : Ident) :
    (setAssoc l n v).lookup k = if k = n then some v else l.lookup k := by
  have upd : (l.map fun e => if e.1 == n then (n, v) else e).lookup k
      = if k = n then (l.lookup n).map fun _ => v else l.lookup k := by
    induction l with
    | nil => simp
    | cons e l ih =>
      obtain ⟨a, x⟩ := e
      simp only [List.map_cons, List.lookup_cons]
      by_cases he : a = n
      · subst he
        by_cases hk : k = a
        · subst hk; simp
        · simpa [List.lookup_cons, beq_eq_false_iff_ne.mpr hk, hk] using ih
      · by_cases hk : k = n
        · subst hk
          simpa [List.lookup_cons, he, beq_eq_false_iff_ne.mpr (Ne.symm he)] using ih
        · by_cases hka : k = a
          · subst hka; simp [he]
          · simpa [List.lookup_cons, he, hk, beq_eq_false_iff_ne.mpr hka] using ih
  unfold setAssoc
  rw [any_fst_beq]
  split
  · rename_i h
    rw [upd]
    obtain ⟨x, hx⟩ := Option.isSome_iff_exists.mp h
    simp [hx]
  · rename_i h
    rw [List.lookup_append, List.lookup_cons, List.lookup_nil]
    by_cases hk : k = n
    · subst hk; simp [Option.not_isSome_iff_eq_none.mp h]
    · simp [hk, beq_eq_false_iff_ne.mpr hk]

theorem setAssoc_keys (l : List (Ident × Val)) (n : Ident) (v : Val) (h : (l.lookup n).isSome = true) :
    (setAssoc l n v).map (·.1) = l.map (·.1) := by
  rw [setAssoc, any_fst_beq, if_pos h, List.map_map]
  apply List.map_congr_left
  intro e _
  simp only [Function.comp]
  split
  · rename_i he; exact (beq_iff_eq.mp he).symm
  · rfl

theorem lookup_filterMap_get (g : Ident → Option Val) (ks : List Ident) (k : Ident) (h : k ∈ ks) :
    (ks.filterMap fun x => (g x).map fun v => (x, v)).lookup k = g k := by
  induction ks with
  | nil => cases h
  | cons a ks ih =>
    by_cases hk : k = a
    · subst hk
      cases hg : g k with
      | some v => simp [hg]
      | none =>
        simp only [List.filterMap_cons, hg, Option.map_none]
        rw [List.lookup_eq_none_iff]
        intro p hp
        obtain ⟨x, _, hx⟩ := List.mem_filterMap.mp hp
        cases hgx : g x with
        | none => simp [hgx] at hx
        | some v =>
          simp only [hgx, Option.map_some, Option.some.injEq] at hx
          subst hx
          exact bne_iff_ne.mpr (fun he => by rw [he, hgx] at hg; cases hg)
    · have hm : k ∈ ks := (List.mem_cons.mp h).resolve_left hk
      cases hg : g a with
      | none => simpa [hg] using ih hm
      | some v => simpa [hg, List.lookup_cons, beq_eq_false_iff_ne.mpr hk] using ih hm

theorem eq_of_nodup_map {α β : Type} {f : α → β} {l : List α} (h : (l.map f).Nodup) {a b : α} (ha : a ∈ l) (hb : b ∈ l)
    (hf : f a = f b) : a = b := by
  have hp : l.Pairwise (fun x y => f x = f y → x = y) := (List.pairwise_map.mp h).imp fun hne he => absurd he hne
  exact List.Pairwise.forall_of_forall_of_flip (fun _ _ _ => rfl) hp (hp.imp fun h he => (h he.symm).symm) ha hb hf

theorem setVar_length : ∀ (ms : List Mod) (id : Nat) (n : Ident) (v : Val), (setVar ms id n v).length = ms.length := by
  intro ms
  induction ms with
  | nil => intros; rfl
  | cons m rest ih =>
    intro id n v
    unfold setVar
    split <;> simp [ih]

end Grass.Module
