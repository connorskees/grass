import Grass.Module
import GrassProofs.Lemmas.ModuleAssoc
import GrassProofs.Lemmas.ModuleLoader
/-
  For `C12_with_unknown_is_error`: a configured variable that nothing can take stays in the
  configuration (or the compilation fails on the way).
-/
namespace Grass.Module

/-- the name under which a configured variable reaches the module behind `@forward … as p*` -/
def fwdName (r : FwdRule) (n : Ident) : Option Ident :=
  match r.pfx with
  | some p => if p.isPrefixOf n then some (n.drop p.length) else none
  | none => some n

/-- The statement cannot take the configured variable, which the module sees as `vis`; `rec` answers
    for a forwarded module.  A `!default` declaration must be of another name; `@forward` hands the
    variable on through the prefix; under `@forward … with (…)` either the clause sets the name itself
    (the outer value is never used) or the forwarded module must not be able to take it.  The clause
    names no variable twice (the parser rejects it). -/
def stmtKeeps (rec : Url → Option Ident → Bool) (vis : Option Ident) : Stmt → Bool
  | .var m _ true => vis != some m
  | .forward u r [] => rec u (vis.bind (fwdName r))
  | .forward u r (w :: ws) =>
    decide ((w :: ws).map (·.1)).Nodup &&
    (match vis.bind (fwdName r) with
     | none => true
     | some n' => (w :: ws).any (fun e => e.1 == n' && !e.2.2) || rec u (some n'))
  | _ => true

/-- nothing reachable from `u` through `@forward`s (to depth `d`) declares the variable `!default` -/
def cannotConsume (proj : Project) : Nat → Url → Option Ident → Bool
  | 0, _, _ => false
  | d + 1, u, vis =>
    match resolve proj u with
    | none => true
    | some src => src.body.all (stmtKeeps (cannotConsume proj d) vis)

def Cfg.KeepsAt (b : Ident) (c c' : Cfg) : Prop :=
  c'.layers = c.layers ∧ c'.explicit = c.explicit ∧ c'.base.lookup b = c.base.lookup b

theorem Cfg.KeepsAt.refl (b : Ident) (c : Cfg) : c.KeepsAt b c := ⟨rfl, rfl, rfl⟩

theorem Cfg.KeepsAt.trans {b : Ident} {c1 c2 c3 : Cfg} (h12 : c1.KeepsAt b c2) (h23 : c2.KeepsAt b c3) : c1.KeepsAt b c3 :=
  ⟨h23.1.trans h12.1, h23.2.1.trans h12.2.1, h23.2.2.trans h12.2.2⟩

/-- a loader that leaves the configured value under base key `b` alone whenever `rec` says so -/
def KeepsB (loadF : LoadF) (rec : Url → Option Ident → Bool) : Prop :=
  ∀ (url : Url) (cfg : Cfg) (st : St) (b : Ident) (vis : Option Ident) (id : Nat) (cfg' : Cfg),
    cfg.explicit = true → (∀ n, viaLayers cfg.layers n = some b → some n = vis) → rec url vis = true →
    (loadF url cfg st).res = .ok (id, cfg') → cfg.KeepsAt b cfg'

theorem remove_shape (c : Cfg) (m : Ident) : (c.remove m).2.layers = c.layers ∧ (c.remove m).2.explicit = c.explicit := by
  unfold Cfg.remove
  split <;> exact ⟨rfl, rfl⟩

theorem remove_keepsAt (c : Cfg) (m b : Ident) (h : viaLayers c.layers m ≠ some b ∨ c.base.lookup b = none) :
    c.KeepsAt b (c.remove m).2 := by
  refine ⟨(remove_shape c m).1, (remove_shape c m).2, ?_⟩
  unfold Cfg.remove
  split
  · rfl
  · rename_i b' hb'
    show (eraseKey c.base b').lookup b = _
    rw [lookup_eraseKey]
    split
    · rename_i hbb
      exact (h.resolve_left (fun hne => hne (hbb ▸ hb'))).symm
    · rfl

theorem mem_layerKeys_of_viaLayers : ∀ (ls : List CfgLayer) (base : List (Ident × Val)) (m b : Ident),
    viaLayers ls m = some b → (base.lookup b).isSome = true → m ∈ layerKeys ls (base.map (·.1)) := by
  intro ls
  induction ls with
  | nil =>
    intro base m b h hb
    cases h
    exact (lookup_isSome_iff_mem_keys _ _).mp hb
  | cons l ls ih =>
    intro base m b h hb
    cases l with
    | limited ks =>
      simp only [viaLayers] at h
      split at h
      · rename_i hc; simpa [layerKeys] using hc
      · cases h
    | unprefixed p =>
      simp only [viaLayers] at h
      have := ih base (p ++ m) b h hb
      simp only [layerKeys, List.mem_map, List.mem_filter]
      exact ⟨p ++ m, ⟨this, by simp [List.isPrefixOf_iff_prefix]⟩, by simp⟩

theorem removeAll_keepsAt (b : Ident) : ∀ (ns : List Ident) (c : Cfg),
    (∀ n ∈ ns, viaLayers c.layers n ≠ some b ∨ c.base.lookup b = none) → c.KeepsAt b (removeAll ns c) := by
  intro ns
  induction ns with
  | nil => intro c _; exact .refl b c
  | cons n ns ih =>
    intro c h
    have h1 := remove_keepsAt c n b (h n List.mem_cons_self)
    refine h1.trans (ih (c.remove n).2 (fun n' hn' => ?_))
    rw [h1.1, h1.2.2]
    exact h n' (List.mem_cons_of_mem _ hn')

/-! ### `add_forward_configuration`, `remove_used_configuration` -/

theorem fwdCfgLoop_cons (e : Ident × Val × Bool) (rest : List (Ident × Val × Bool)) (adj : Cfg) (nv : List (Ident × Val)) :
    fwdCfgLoop (e :: rest) adj nv =
      fwdCfgLoop rest (if e.2.2 then (adj.remove e.1).2 else adj)
        (setAssoc nv e.1 (if e.2.2 then (adj.remove e.1).1.getD e.2.1 else e.2.1)) := by
  rw [fwdCfgLoop]
  split
  · split
    · rename_i heq; rw [heq]; rfl
    · rename_i heq; rw [heq]; rfl
  · rfl

theorem loop_shape : ∀ (ws : List (Ident × Val × Bool)) (adj : Cfg) (nv : List (Ident × Val)),
    (fwdCfgLoop ws adj nv).1.layers = adj.layers ∧ (fwdCfgLoop ws adj nv).1.explicit = adj.explicit
  | [], _, _ => ⟨rfl, rfl⟩
  | e :: rest, adj, nv => by
    rw [fwdCfgLoop_cons]
    have h1 : (if e.2.2 then (adj.remove e.1).2 else adj).layers = adj.layers ∧
        (if e.2.2 then (adj.remove e.1).2 else adj).explicit = adj.explicit := by
      split
      · exact remove_shape adj e.1
      · exact ⟨rfl, rfl⟩
    exact ⟨(loop_shape rest _ _).1.trans h1.1, (loop_shape rest _ _).2.trans h1.2⟩

theorem loop_keepsAt (b : Ident) : ∀ (ws : List (Ident × Val × Bool)) (adj : Cfg) (nv : List (Ident × Val)),
    (∀ e ∈ ws, e.2.2 = true → viaLayers adj.layers e.1 ≠ some b) → adj.KeepsAt b (fwdCfgLoop ws adj nv).1
  | [], adj, _, _ => .refl b adj
  | e :: rest, adj, nv, h => by
    rw [fwdCfgLoop_cons]
    have h1 : adj.KeepsAt b (if e.2.2 then (adj.remove e.1).2 else adj) := by
      split
      · rename_i hg
        exact remove_keepsAt adj e.1 b (.inl (h e List.mem_cons_self hg))
      · exact .refl b adj
    exact h1.trans (loop_keepsAt b rest _ _ fun x hx hg => h1.1 ▸ h x (List.mem_cons_of_mem _ hx) hg)

theorem loop_snd_lookup (k : Ident) : ∀ (ws : List (Ident × Val × Bool)) (adj : Cfg) (nv : List (Ident × Val)),
    (∀ e ∈ ws, e.1 ≠ k) → (fwdCfgLoop ws adj nv).2.lookup k = nv.lookup k
  | [], _, _, _ => rfl
  | e :: rest, adj, nv, h => by
    rw [fwdCfgLoop_cons, loop_snd_lookup k rest _ _ fun x hx => h x (List.mem_cons_of_mem _ hx), lookup_setAssoc,
      if_neg (Ne.symm (h e List.mem_cons_self))]

theorem loop_snd_isSome (k : Ident) : ∀ (ws : List (Ident × Val × Bool)) (adj : Cfg) (nv : List (Ident × Val)),
    ((nv.lookup k).isSome = true ∨ ∃ e ∈ ws, e.1 = k) → ((fwdCfgLoop ws adj nv).2.lookup k).isSome = true
  | [], _, _, h => h.resolve_right nofun
  | e :: rest, adj, nv, h => by
    rw [fwdCfgLoop_cons]
    refine loop_snd_isSome k rest _ _ ?_
    rw [lookup_setAssoc]
    by_cases hk : k = e.1
    · exact .inl (by rw [if_pos hk]; rfl)
    · rw [if_neg hk]
      exact h.imp id fun ⟨x, hx, hxk⟩ => ⟨x, (List.mem_cons.mp hx).resolve_left (fun he => hk (he ▸ hxk.symm)), hxk⟩

theorem removeUsed_keepsAt (up down : Cfg) (ex : List Ident) (b : Ident)
    (h : ∀ n, viaLayers up.layers n = some b → ex.contains n = true ∨ down.keys.contains n = true ∨ up.base.lookup b = none) :
    up.KeepsAt b (removeUsed up down ex) := by
  refine removeAll_keepsAt b _ up fun n hn => ?_
  by_cases hvl : viaLayers up.layers n = some b
  · simp only [List.mem_filter, Bool.and_eq_true, Bool.not_eq_true'] at hn
    rcases h n hvl with h | h | h
    · rw [h] at hn; cases hn.2.1
    · rw [h] at hn; cases hn.2.2
    · exact .inr h
  · exact .inl hvl

theorem viaLayers_limited {ks : List Ident} {ls : List CfgLayer} {n b : Ident}
    (h : viaLayers (.limited ks :: ls) n = some b) : viaLayers ls n = some b := by
  simp only [viaLayers] at h
  split at h
  · exact h
  · cases h

/-- a view name that stands for `b` behind the `@forward` is the forwarded form of the one before -/
theorem throughForward_vis (sw : Switches) (hsw : sw.fwdCfgImplicit = false) (cfg : Cfg) (r : FwdRule) (b : Ident)
    (vis : Option Ident) (hv : ∀ n, viaLayers cfg.layers n = some b → some n = vis) :
    (throughForward sw cfg r).2 = true →
    (throughForward sw cfg r).1.base = cfg.base ∧ (throughForward sw cfg r).1.explicit = cfg.explicit ∧
      ∀ n', viaLayers (throughForward sw cfg r).1.layers n' = some b → some n' = vis.bind (fwdName r) := by
  unfold throughForward
  split
  · exact nofun
  · refine fun _ => ⟨rfl, by simp [hsw], fun n' h => ?_⟩
    cases hp : r.pfx with
    | none =>
      simp only [hp] at h
      have h1 : viaLayers cfg.layers n' = some b := by
        cases hvis : r.vis with
        | all => rw [hvis] at h; exact h
        | allow vs fs => rw [hvis] at h; exact viaLayers_limited h
        | hide vs fs => rw [hvis] at h; exact viaLayers_limited h
      rw [← hv n' h1]
      simp [fwdName, hp]
    | some p =>
      simp only [hp] at h
      have h1 : viaLayers (.unprefixed p :: cfg.layers) n' = some b := by
        cases hvis : r.vis with
        | all => rw [hvis] at h; exact h
        | allow vs fs => rw [hvis] at h; exact viaLayers_limited h
        | hide vs fs => rw [hvis] at h; exact viaLayers_limited h
      rw [← hv (p ++ n') h1]
      have hpre : p.isPrefixOf (p ++ n') = true := by simp [List.isPrefixOf_iff_prefix]
      simp [fwdName, hp, hpre]

/-- the heart of `@forward … with`: what `addForwardCfg`, the nested load and `removeUsed` do to the
    outer value under key `b` -/
theorem forwardWith_keeps (loadF : LoadF) (rec : Url → Option Ident → Bool) (hL : KeepsB loadF rec)
    (url : Url) (adj : Cfg) (W : List (Ident × Val × Bool)) (st : St) (b : Ident) (vis' : Option Ident)
    (hex : adj.explicit = true) (hv : ∀ m, viaLayers adj.layers m = some b → some m = vis')
    (hnd : (W.map (·.1)).Nodup)
    (hs : (match vis' with
      | none => true
      | some n' => W.any (fun e => e.1 == n' && !e.2.2) || rec url (some n')) = true)
    (id : Nat) (new1 : Cfg) (hr : (loadF url (addForwardCfg adj W).2 st).res = .ok (id, new1))
    (hlo : ({ new1 with base := new1.base.filter fun e => (W.map (·.1)).contains e.1 } : Cfg).leftover = false) :
    (removeUsed (addForwardCfg adj W).1 new1 ((W.filter fun e => !e.2.2).map (·.1))).base.lookup b = adj.base.lookup b := by
  simp only [addForwardCfg] at hr ⊢
  generalize hstart : (adj.keys.filterMap fun k => (adj.get k).map fun v => (k, v)) = start at hr ⊢
  -- enough: no `!default` entry stands for `b`, and a name that does is no candidate for removal
  have fin : (∀ e ∈ W, e.2.2 = true → viaLayers adj.layers e.1 ≠ some b) →
      (∀ n, viaLayers adj.layers n = some b → ((W.filter fun e => !e.2.2).map (·.1)).contains n = true ∨
        new1.keys.contains n = true ∨ adj.base.lookup b = none) →
      (removeUsed (fwdCfgLoop W adj start).1 new1 ((W.filter fun e => !e.2.2).map (·.1))).base.lookup b
        = adj.base.lookup b := by
    intro h1 h2
    have hk := loop_keepsAt b W adj start h1
    rw [(removeUsed_keepsAt _ new1 _ b (by rw [hk.1, hk.2.2]; exact h2)).2.2, hk.2.2]
  cases vis' with
  | none => exact fin (fun e _ _ hvl => nomatch hv e.1 hvl) (fun n hvl => nomatch hv n hvl)
  | some n' =>
    have hname : ∀ m, viaLayers adj.layers m = some b → m = n' := fun m h => Option.some.inj (hv m h)
    replace hs := Bool.or_eq_true_iff.mp hs
    by_cases hU : W.any (fun e => e.1 == n' && !e.2.2) = true
    · -- the clause sets the name itself: the loop leaves it alone and `removeUsed` excepts it
      obtain ⟨e0, he0, hn0, hg0⟩ : ∃ e0 ∈ W, e0.1 = n' ∧ e0.2.2 = false := by simpa using hU
      refine fin (fun e he hg hvl => ?_) (fun n hvl => .inl ?_)
      · rw [eq_of_nodup_map hnd he he0 ((hname _ hvl).trans hn0.symm), hg0] at hg
        cases hg
      · rw [hname n hvl, List.contains_iff_mem, List.mem_map]
        exact ⟨e0, List.mem_filter.mpr ⟨he0, by rw [hg0]; rfl⟩, hn0⟩
    · -- otherwise the forwarded module cannot take it
      obtain ⟨hl2, he2, hb2⟩ := hL url ⟨(fwdCfgLoop W adj start).2, [], _⟩ st n' (some n') id new1
        (by rw [(loop_shape W adj start).2, hex]; rfl) (fun m hm => by cases hm; rfl) (hs.resolve_left hU) hr
      simp only at hl2 he2 hb2
      by_cases hG : ∃ e ∈ W, e.1 = n'
      · -- a `!default` entry took the outer value, and it is left over
        exfalso
        have hsome : (new1.base.lookup n').isSome = true := by
          rw [hb2]; exact loop_snd_isSome n' W adj start (.inr hG)
        have hin : (W.map (·.1)).contains n' = true := by
          obtain ⟨e, he, hn⟩ := hG
          exact List.contains_iff_mem.mpr (List.mem_map.mpr ⟨e, he, hn⟩)
        have hne : (new1.base.filter fun e => (W.map (·.1)).contains e.1).isEmpty = false := by
          cases hfl : new1.base.filter fun e => (W.map (·.1)).contains e.1 with
          | nil =>
            have hf := lookup_filter_fst new1.base (fun k => (W.map (·.1)).contains k) n'
            rw [if_pos hin, hfl] at hf
            rw [← hf] at hsome
            cases hsome
          | cons _ _ => rfl
        have hE : new1.explicit = true := by rw [he2, (loop_shape W adj start).2, hex]; rfl
        simp only [Cfg.leftover, Cfg.isEmpty, hl2, layersEmpty, hne, hE] at hlo
        cases hlo
      · -- the clause does not name it: the value was copied and is still there
        refine fin (fun e he _ hvl => hG ⟨e, he, hname _ hvl⟩) (fun n hvl => ?_)
        cases hlk : adj.base.lookup b with
        | none => exact .inr (.inr rfl)
        | some val =>
          refine .inr (.inl ?_)
          obtain rfl : n = n' := hname n hvl
          have h1 : new1.base.lookup n = some val := by
            rw [hb2, loop_snd_lookup n W adj _ (fun e he hn => hG ⟨e, he, hn⟩), ← hstart,
              lookup_filterMap_get adj.get adj.keys n (mem_layerKeys_of_viaLayers adj.layers adj.base n b hvl (by rw [hlk]; rfl))]
            simp [Cfg.get, hvl, hlk]
          simp only [Cfg.keys, hl2, layerKeys, List.contains_iff_mem]
          exact (lookup_isSome_iff_mem_keys _ _).mp (by rw [h1]; rfl)

theorem step_keepsAt {sw : Switches} {loadF : LoadF} {s : Stmt} {env : Env} {cfg : Cfg} {st : St} {b : Ident}
    (hs : ∀ u r w, s ≠ .forward u r w) (hv : ∀ m v, s = .var m v true → viaLayers cfg.layers m ≠ some b)
    {env' : Env} {cfg' : Cfg} (h : (step sw loadF s env cfg st).res = .ok (env', cfg')) : cfg.KeepsAt b cfg' := by
  rcases step_cfg hs h with hc | ⟨m, v, hm, hc⟩
  · rw [hc]; exact .refl b cfg
  · rw [hc]; exact remove_keepsAt cfg m b (.inl (hv m v hm))

/-- The switch and the loader matter only at a `@forward`, which is where the configuration is handed on. -/
theorem step_keepsB (sw : Switches) (loadF : LoadF) (rec : Url → Option Ident → Bool) (s : Stmt) (env : Env) (cfg : Cfg)
    (st : St) (b : Ident) (vis : Option Ident)
    (hF : ∀ u r w, s = .forward u r w → sw.fwdCfgImplicit = false ∧ KeepsB loadF rec)
    (hex : cfg.explicit = true) (hv : ∀ n, viaLayers cfg.layers n = some b → some n = vis)
    (hs : stmtKeeps rec vis s = true)
    (env' : Env) (cfg' : Cfg) (h : (step sw loadF s env cfg st).res = .ok (env', cfg')) : cfg.KeepsAt b cfg' := by
  by_cases hf : ∃ u r w, s = .forward u r w
  · obtain ⟨url, rule, withs, rfl⟩ := hf
    obtain ⟨hsw, hL⟩ := hF url rule withs rfl
    -- only a configuration that shares its base with `cfg` matters; then `throughForward_vis` applies
    have htf := throughForward_vis sw hsw cfg rule b vis hv
    simp only [step] at h
    generalize throughForward sw cfg rule = tf at htf h
    obtain ⟨adj, shared⟩ := tf
    have fin : ∀ base', (shared = true → base'.lookup b = adj.base.lookup b) →
        cfg.KeepsAt b (if shared = true then { cfg with base := base' } else cfg) := by
      intro base' hb'
      cases shared with
      | false => exact .refl b cfg
      | true => exact ⟨rfl, rfl, (hb' rfl).trans (by rw [(htf rfl).1])⟩
    cases withs with
    | nil =>
      simp only [stmtKeeps] at hs
      simp only [List.isEmpty_nil, if_true] at h
      cases hr : (loadF url adj st).res with
      | error e => simp only [hr] at h; cases h
      | ok r =>
        simp only [hr] at h
        cases h
        refine fin _ (fun hsh => ?_)
        obtain ⟨_, hexp, hvis'⟩ := htf hsh
        exact (hL url adj st b _ r.1 r.2 (hexp.trans hex) hvis' hs hr).2.2
    | cons w ws =>
      simp only [stmtKeeps, Bool.and_eq_true, decide_eq_true_eq] at hs
      simp only [List.isEmpty_cons, Bool.false_eq_true, if_false] at h
      by_cases hp : (sw.viewIterPanics && !adj.layers.isEmpty) = true
      · rw [if_pos hp] at h; cases h
      · rw [if_neg hp] at h
        cases hr : (loadF url (addForwardCfg adj (w :: ws)).2 st).res with
        | error e => simp only [hr] at h; cases h
        | ok r =>
          simp only [hr] at h
          split at h
          · cases h
          · rename_i hlo
            cases h
            refine fin _ (fun hsh => ?_)
            obtain ⟨_, hexp, hvis'⟩ := htf hsh
            exact forwardWith_keeps loadF rec hL url adj (w :: ws) st b _ (hexp.trans hex) hvis' hs.1 hs.2 r.1 r.2 hr
              (by simpa using hlo)
  · refine step_keepsAt (fun u r w hsf => hf ⟨u, r, w, hsf⟩) (fun m v hm hvl => ?_) h
    subst hm
    simp [stmtKeeps, ← hv m hvl] at hs

theorem evalStmts_keepsB (sw : Switches) (loadF : LoadF) (rec : Url → Option Ident → Bool) (b : Ident) (vis : Option Ident) :
    ∀ (ss : List Stmt), (∀ u r w, Stmt.forward u r w ∈ ss → sw.fwdCfgImplicit = false ∧ KeepsB loadF rec) →
      (∀ s ∈ ss, stmtKeeps rec vis s = true) → ∀ (env : Env) (cfg : Cfg) (st : St),
      cfg.explicit = true → (∀ n, viaLayers cfg.layers n = some b → some n = vis) → ∀ (env' : Env) (cfg' : Cfg),
      (evalStmts sw loadF ss env cfg st).res = .ok (env', cfg') → cfg.KeepsAt b cfg' := by
  intro ss
  induction ss with
  | nil => intro _ _ env cfg st _ _ env' cfg' h; cases h; exact .refl b cfg
  | cons s rest ih =>
    intro hF hk env cfg st hex hv env' cfg' h
    simp only [evalStmts] at h
    cases hs : (step sw loadF s env cfg st).res with
    | error e => simp only [hs] at h; cases h
    | ok r1 =>
      simp only [hs] at h
      have h1 := step_keepsB sw loadF rec s env cfg st b vis (fun u r w hs => hF u r w (hs ▸ List.mem_cons_self)) hex hv
        (hk s List.mem_cons_self) r1.1 r1.2 hs
      exact h1.trans (ih (fun u r w hm => hF u r w (List.mem_cons_of_mem _ hm)) (fun s hs => hk s (List.mem_cons_of_mem _ hs))
        r1.1 r1.2 _ (h1.2.1.trans hex) (by rw [h1.1]; exact hv) env' cfg' h)

/-- A load leaves alone what nothing reachable can take.  A configuration stays explicit through
    `@forward` only with the switch off; a module without `@forward` needs no such assumption. -/
theorem load_keepsAt (sw : Switches) (proj : Project) : ∀ (fuel d : Nat) (url : Url) (cfg : Cfg) (st : St) (b : Ident)
    (vis : Option Ident) (id : Nat) (cfg' : Cfg),
    (sw.fwdCfgImplicit = false ∨ ∀ src, resolve proj url = some src → ∀ u r w, Stmt.forward u r w ∉ src.body) →
    cfg.explicit = true → (∀ n, viaLayers cfg.layers n = some b → some n = vis) → cannotConsume proj d url vis = true →
    (load sw proj fuel url cfg st).res = .ok (id, cfg') → cfg.KeepsAt b cfg' := by
  intro fuel
  induction fuel with
  | zero => intro d url cfg st b vis id cfg' _ _ _ _ h; cases h
  | succ fuel ih =>
    intro d url cfg st b vis id cfg' hsw hex hv hc h
    cases d with
    | zero => cases hc
    | succ d =>
      rcases load_cases sw proj fuel url cfg st with ⟨e, ho, _⟩ | ⟨_, _, id', _, ho⟩ | ⟨src, hres, _, _, o1, ho1, herr, hok⟩
      · rw [ho] at h; cases h
      · rw [ho] at h; cases h; exact .refl b cfg
      · simp only [cannotConsume, hres, List.all_eq_true] at hc
        cases h1 : o1.res with
        | error e => rw [herr e h1] at h; cases h
        | ok r1 =>
          rw [hok r1.1 r1.2 h1] at h
          cases h
          refine evalStmts_keepsB sw _ _ b vis src.body (fun u r w hm => ?_) hc _ cfg _ hex hv r1.1 r1.2 (ho1 ▸ h1)
          have hsw' := hsw.resolve_right (fun hno => hno src hres u r w hm)
          exact ⟨hsw', fun url cfg st b vis id cfg' => ih d url cfg st b vis id cfg' (.inl hsw')⟩

end Grass.Module
