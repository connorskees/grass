import GrassProofs.Lemmas.CalcFns
/-
  Each reduction step applied to numbers whose units are all compatible with one unit `g` gives a
  number (no operation left standing, no error, no coercion) whose unit is again compatible with `g`.
-/
namespace Grass.Calc

theorem compatible_self_of_left (a b : CUnit) (h : compatible a b = true) : compatible a a = true :=
  compatible_trans a b a h (compatible_symm a b h)

theorem compatible_via (a b g : CUnit) (ha : compatible a g = true) (hb : compatible b g = true) :
    compatible a b = true :=
  compatible_trans a g b ha (compatible_symm b g hb)

theorem operate_sum_known (cfg : Cfg) (imm : Bool) (op : Op) (hop : op = .plus ∨ op = .minus)
    (a b : Rat) (ua ub : CUnit) (hc : compatible ua ub = true) :
    ∃ n, operate cfg imm op (.number a ua) (.number b ub) = .ok ⟨.number n ua, false⟩ := by
  obtain ⟨c, -, h⟩ := foldSum_compatible cfg imm op ⟨a, ua⟩ ⟨b, ub⟩ hc
  refine ⟨op.lin a c, ?_⟩
  rw [operate_eq]
  rcases hop with rfl | rfl <;> exact h

theorem numMul_scalar_right (a b : Num) (hb : b.u = ⟨[], []⟩) : (numMul a b).u = a.u := by
  simp [numMul, hb, CUnit.isNone]

theorem numMul_scalar_left (a b : Num) (ha : a.u = ⟨[], []⟩) : (numMul a b).u = b.u := by
  rcases b with ⟨bn, ⟨on, od⟩⟩
  rcases a with ⟨an, au⟩
  simp only [] at ha; subst ha
  unfold numMul
  split
  · rename_i e; simp at e; simp [e]
  · simp only [multiplyUnits, List.isEmpty_nil, Bool.true_and, anyConvertible, List.any_nil, Bool.not_false,
      Bool.and_true]
    cases od <;> simp

theorem numDiv_scalar (a b : Num) (hb : b.u = ⟨[], []⟩) :
    numDiv a b = .err .nonFinite ∨ ∃ r, numDiv a b = .ok r ∧ r.u = a.u := by
  unfold numDiv
  split
  · exact Or.inl rfl
  · right; simp [hb, CUnit.isNone]

theorem map_simplify_numbers :
    ∀ (l : List CalcArg), (∀ x ∈ l, ∃ n v, x = .number n v) → l.map simplify = l := by
  intro l
  induction l with
  | nil => intro _; rfl
  | cons x xs ih =>
    intro h
    obtain ⟨n, v, e⟩ := h x (List.mem_cons_self)
    subst e
    simp only [List.map, simplify]
    rw [ih (fun y hy => h y (List.mem_cons_of_mem _ hy))]

theorem extremumLoop_known (isMax : Bool) (g : CUnit) :
    ∀ (rest : List CalcArg) (m : Num), compatible m.u g = true →
      (∀ x ∈ rest, ∃ n v, x = .number n v ∧ compatible v g = true) →
      ∃ r, extremumLoop isMax (some m) rest = .ok (some r, false) ∧ compatible r.u g = true := by
  intro rest
  induction rest with
  | nil => intro m hm _; exact ⟨m, by simp [extremumLoop], hm⟩
  | cons x xs ih =>
    intro m hm h
    obtain ⟨n, u, e, hu⟩ := h x (List.mem_cons_self)
    subst e
    have hmu : compatible m.u u = true := compatible_via _ _ g hm hu
    have hcmp : comparable m.u u = true := compatible_comparable _ _ hmu
    have hcv := convert_isSome n u m.u (Or.inl (compatible_comparable _ _ (compatible_symm _ _ hmu)))
    simp only [extremumLoop, hcmp, Bool.not_true, Bool.false_eq_true, if_false]
    cases hc : convert n u m.u with
    | none => simp [hc] at hcv
    | some c =>
      simp only []
      have hrest : ∀ y ∈ xs, ∃ n v, y = .number n v ∧ compatible v g = true :=
        fun y hy => h y (List.mem_cons_of_mem _ hy)
      by_cases hlt : (if isMax = true then m.n < c else m.n > c)
      · obtain ⟨r, hr, hru⟩ := ih ⟨n, u⟩ hu hrest
        refine ⟨r, ?_, hru⟩
        simp [hlt, hr, Res.bind, hmu]
      · obtain ⟨r, hr, hru⟩ := ih m hm hrest
        refine ⟨r, ?_, hru⟩
        simp [hlt, hr, Res.bind, hmu]

theorem extremumFn_known (cfg : Cfg) (isMax : Bool) (g : CUnit) (args : List CalcArg) (hne : args ≠ [])
    (h : ∀ x ∈ args, ∃ n v, x = .number n v ∧ compatible v g = true) :
    ∃ n u, extremumFn cfg isMax args = .ok ⟨.number n u, false⟩ ∧ compatible u g = true := by
  unfold extremumFn
  simp only []
  rw [map_simplify_numbers args (fun x hx => by obtain ⟨n, v, e, _⟩ := h x hx; exact ⟨n, v, e⟩)]
  cases args with
  | nil => exact absurd rfl hne
  | cons x xs =>
    obtain ⟨n, u, e, hu⟩ := h x (List.mem_cons_self)
    subst e
    obtain ⟨r, hr, hru⟩ := extremumLoop_known isMax g xs ⟨n, u⟩ hu
      (fun y hy => h y (List.mem_cons_of_mem _ hy))
    refine ⟨r.n, r.u, ?_, hru⟩
    simp [extremumLoop, hr, Res.bind]

theorem clampReduce_known (cfg : Cfg) (mn v mx : Num) (g : CUnit)
    (h1 : compatible mn.u g = true) (h2 : compatible v.u g = true) (h3 : compatible mx.u g = true) :
    ∃ r, clampReduce cfg mn v mx = .ok r ∧ compatible r.u g = true := by
  obtain ⟨r, hr, e⟩ := clampReduce_ok cfg mn v mx (compatible_via _ _ g h1 h2) (compatible_via _ _ g h1 h3)
  refine ⟨r, hr, ?_⟩
  rcases e with rfl | rfl | rfl <;> assumption

theorem clampFn_known (cfg : Cfg) (g : CUnit) (a b c : Rat) (ua ub uc : CUnit)
    (h1 : compatible ua g = true) (h2 : compatible ub g = true) (h3 : compatible uc g = true) :
    ∃ n u, clampFn cfg [.number a ua, .number b ub, .number c uc] = .ok ⟨.number n u, false⟩ ∧
      compatible u g = true := by
  have hab := compatible_via _ _ g h1 h2
  have hac := compatible_via _ _ g h1 h3
  obtain ⟨r, hr, hru⟩ := clampReduce_known cfg ⟨a, ua⟩ ⟨b, ub⟩ ⟨c, uc⟩ g h1 h2 h3
  refine ⟨r.n, r.u, ?_, hru⟩
  simp [clampFn, simplify, hab, hac, compatible_comparable _ _ hab, compatible_comparable _ _ hac, hr, Res.bind]

end Grass.Calc
