import Grass.Eval
/-
  The information order on results ("out of fuel" below everything); one evaluation level `stepF` is
  monotone in the recursion record, hence `run n ⊑ run (n + k)`.
-/
namespace Grass.Eval

/-- `a ⊑ b`: `a` ran out of fuel, or the two results are the same. -/
def Res.le {α : Type} (a b : Res α) : Prop := a = .oof ∨ a = b

theorem Res.le.eq_of_ne_oof {α : Type} {a b : Res α} (h : Res.le a b) (ha : a ≠ .oof) : b = a :=
  h.elim (fun e => absurd e ha) Eq.symm

theorem Res.le_trans {α : Type} {a b c : Res α} (h1 : Res.le a b) (h2 : Res.le b c) : Res.le a c := by
  rcases h1 with h | h
  · exact .inl h
  · rw [h]; exact h2

def M.le {α : Type} (x y : M α) : Prop := ∀ st, Res.le (x st) (y st)

theorem M.le_refl {α : Type} (x : M α) : M.le x x := fun _ => .inr rfl

theorem bind_le {α β : Type} {x x' : M α} {f f' : α → M β}
    (hx : M.le x x') (hf : ∀ a, M.le (f a) (f' a)) : M.le (x >>= f) (x' >>= f') := by
  intro st
  show Res.le (M.bind x f st) (M.bind x' f' st)
  unfold M.bind
  rcases hx st with h | h
  · left; rw [h]
  · rw [h]
    cases x' st with
    | ok a st' => exact hf a st'
    | err e st' => right; rfl
    | oof => left; rfl

theorem bind_le_left {α β : Type} {x x' : M α} (f : α → M β) (hx : M.le x x') :
    M.le (x >>= f) (x' >>= f) := bind_le hx fun _ => M.le_refl _

theorem bind_le_right {α β : Type} (x : M α) {f f' : α → M β} (hf : ∀ a, M.le (f a) (f' a)) :
    M.le (x >>= f) (x >>= f') := bind_le (M.le_refl _) hf

theorem ite_le {α : Type} (c : Prop) [Decidable c] {x x' y y' : M α} (hx : M.le x x') (hy : M.le y y') :
    M.le (if c then x else y) (if c then x' else y') := by
  split
  · exact hx
  · exact hy

structure Rec.le (r r' : Rec) : Prop where
  expr : ∀ c e, M.le (r.expr c e) (r'.expr c e)
  block : ∀ c ss, M.le (r.block c ss) (r'.block c ss)
  loop : ∀ c e b, M.le (r.loop c e b) (r'.loop c e b)

theorem Rec.le_refl (r : Rec) : Rec.le r r where
  expr := fun _ _ => M.le_refl _
  block := fun _ _ => M.le_refl _
  loop := fun _ _ _ => M.le_refl _

theorem Rec.le_trans {a b c : Rec} (h1 : Rec.le a b) (h2 : Rec.le b c) : Rec.le a c where
  expr := fun x y st => Res.le_trans (h1.expr x y st) (h2.expr x y st)
  block := fun x y st => Res.le_trans (h1.block x y st) (h2.block x y st)
  loop := fun x y z st => Res.le_trans (h1.loop x y z st) (h2.loop x y z st)

theorem mapM'_le {α β : Type} {f g : α → M β} (h : ∀ a, M.le (f a) (g a)) :
    ∀ l, M.le (mapM' f l) (mapM' g l)
  | [] => M.le_refl _
  | a :: as => bind_le (h a) fun _ => bind_le_left _ (mapM'_le h as)

theorem forEachM_le {α : Type} {f g : α → M (Option Value)} (h : ∀ a, M.le (f a) (g a)) :
    ∀ l, M.le (forEachM f l) (forEachM g l)
  | [] => M.le_refl _
  | a :: as => by
    unfold forEachM
    refine bind_le (h a) fun out => ?_
    split
    · exact M.le_refl _
    · exact forEachM_le h as

theorem evalNamed_le {f g : Expr → M Value} (h : ∀ a, M.le (f a) (g a)) :
    ∀ l, M.le (evalNamed f l) (evalNamed g l)
  | [] => M.le_refl _
  | (_, e) :: r => bind_le (h e) fun _ => bind_le_left _ (evalNamed_le h r)

theorem evalInterp_le {f g : Expr → M Value} (h : ∀ a, M.le (f a) (g a)) :
    ∀ l, M.le (evalInterp f l) (evalInterp g l)
  | [] => M.le_refl _
  | (_, none) :: r => bind_le_left _ (evalInterp_le h r)
  | (_, some e) :: r => bind_le (h e) fun _ => bind_le_right _ fun _ => bind_le_left _ (evalInterp_le h r)

theorem evalArgs_le {r r' : Rec} (hr : Rec.le r r') (ctx : Ctx) (a : Args) :
    M.le (evalArgs r ctx a) (evalArgs r' ctx a) := by
  unfold evalArgs
  refine bind_le (mapM'_le (hr.expr ctx) _) fun pos => bind_le (evalNamed_le (hr.expr ctx) _) fun named => ?_
  split
  · exact M.le_refl _
  · exact bind_le_left _ (hr.expr ctx _)

theorem bindRest_le {r r' : Rec} (hr : Rec.le r r') (ctx : Ctx) (fid : Nat) :
    ∀ ps named, M.le (bindRest r ctx fid ps named) (bindRest r' ctx fid ps named)
  | [], _ => M.le_refl _
  | (p, d) :: ps, named => by
    unfold bindRest
    refine bind_le ?_ fun v => bind_le_right _ fun _ => bindRest_le hr ctx fid ps _
    split
    · exact M.le_refl _
    · split
      · exact hr.expr ctx _
      · exact M.le_refl _

theorem invoke_le {α : Type} {r r' : Rec} (hr : Rec.le r r') (dev : Dev) (mk : Nat → Ctx) (ps : Params)
    (ev : Evaled) {body body' : Ctx → M α} (hb : ∀ c, M.le (body c) (body' c)) :
    M.le (invoke r dev mk ps ev body) (invoke r' dev mk ps ev body') := by
  unfold invoke
  refine bind_le_right _ fun fid => ?_
  split
  · exact M.le_refl _
  · exact bind_le_right _ fun _ => bind_le (bindRest_le hr _ _ _ _) fun left =>
      bind_le_right _ fun _ => bind_le_left _ (hb _)

theorem firstClause_le {r r' : Rec} (hr : Rec.le r r') (ctx : Ctx) :
    ∀ cl, M.le (firstClause r ctx cl) (firstClause r' ctx cl)
  | [] => M.le_refl _
  | (c, _) :: rest => bind_le (hr.expr ctx c) fun _ => ite_le _ (M.le_refl _) (firstClause_le hr ctx rest)

theorem inScope_le {α : Type} (ctx : Ctx) (semi : Bool) {body body' : Ctx → M α}
    (hb : ∀ c, M.le (body c) (body' c)) : M.le (inScope ctx semi body) (inScope ctx semi body') :=
  bind_le_right _ fun _ => hb _

theorem exprF_le {r r' : Rec} (hr : Rec.le r r') (ctx : Ctx) (e : Expr) :
    M.le (exprF r ctx e) (exprF r' ctx e) := by
  have he := hr.expr ctx
  unfold exprF
  -- one case per clause of `exprF`, in its order
  split
  next => exact M.le_refl _
  next => exact M.le_refl _
  next a b => exact bind_le (he a) fun x => ite_le _ (he b) (M.le_refl _)
  next a b => exact bind_le (he a) fun x => ite_le _ (M.le_refl _) (he b)
  next a b _ _ => exact bind_le (he a) fun x => bind_le_left _ (he b)
  next a => exact bind_le_left _ (he a)
  next a => exact bind_le_left _ (he a)
  next es _ _ => exact bind_le_left _ (mapM'_le he es)
  next kvs => exact bind_le (mapM'_le he _) fun ks => bind_le_left _ (mapM'_le he _)
  next c a b => exact bind_le (he c) fun x => ite_le _ (he a) (he b)
  next parts => exact bind_le_left _ (evalInterp_le he parts)
  next f pos named rest =>
    refine bind_le (evalArgs_le hr ctx _) fun ev => bind_le_right _ fun st => ?_
    split
    next c _ => exact invoke_le hr _ _ _ _ fun ctx' => bind_le_left _ (hr.block ctx' c.body)
    next => exact M.le_refl _

theorem emitDecl_le {r r' : Rec} (hr : Rec.le r r') (ctx : Ctx) (prop : String) (e : Expr) :
    M.le (emitDecl r ctx prop e) (emitDecl r' ctx prop e) :=
  bind_le_left _ (hr.expr ctx e)

theorem stmtF_le {r r' : Rec} (hr : Rec.le r r') (ctx : Ctx) (s : Stmt) :
    M.le (stmtF r ctx s) (stmtF r' ctx s) := by
  have he := hr.expr ctx
  have hb := hr.block
  unfold stmtF
  split
  next prop e => exact ite_le _ (M.le_refl _) (emitDecl_le hr ctx prop e)
  next parts e =>
    exact ite_le _ (M.le_refl _) (bind_le (evalInterp_le he parts) fun prop => emitDecl_le hr ctx _ e)
  next sel body => exact inScope_le ctx false fun ctx' => hb _ body
  next n e glob dflt => exact bind_le_right _ fun st => ite_le _ (M.le_refl _) (bind_le_left _ (he e))
  next clauses els =>
    refine bind_le (firstClause_le hr ctx clauses) fun chosen => inScope_le ctx true fun ctx' => ?_
    split
    next b _ => exact hb ctx' b
    next => exact M.le_refl _
  next x lo hi inclusive body =>
    refine bind_le (he lo) fun _ => bind_le_right _ fun a => bind_le (he hi) fun _ =>
      bind_le_right _ fun b => inScope_le ctx true fun ctx' => ?_
    split
    · exact forEachM_le (fun i => bind_le_right _ fun _ => hb ctx' body) _
    · exact M.le_refl _
  next xs e body =>
    refine bind_le (he e) fun l => inScope_le ctx true fun ctx' => ?_
    split
    · exact forEachM_le (fun v => bind_le_right _ fun _ => hb ctx' body) _
    · exact M.le_refl _
  next c body => exact inScope_le ctx true fun ctx' => hr.loop ctx' c body
  next => exact M.le_refl _
  next e => exact ite_le _ (M.le_refl _) (bind_le_left _ (he e))
  next => exact M.le_refl _
  next name args content =>
    refine bind_le_right _ fun st => ?_
    split
    · exact M.le_refl _
    next c _ =>
      exact ite_le _ (M.le_refl _) (bind_le (evalArgs_le hr ctx args) fun ev =>
        invoke_le hr _ _ _ _ fun ctx' => bind_le_left _ (hb ctx' c.body))
  next args =>
    split
    · exact M.le_refl _
    next ps body env outer _ =>
      exact bind_le (evalArgs_le hr ctx args) fun ev =>
        invoke_le hr _ _ _ _ fun ctx' => bind_le_left _ (hb ctx' body)
  next e => exact bind_le_left _ (he e)
  next e => exact bind_le_left _ (he e)
  next e => exact bind_le_left _ (he e)

theorem loopF_le {r r' : Rec} (hr : Rec.le r r') (ctx : Ctx) (c : Expr) (body : List Stmt) :
    M.le (loopF r ctx c body) (loopF r' ctx c body) := by
  unfold loopF
  refine bind_le (hr.expr ctx c) fun v => ite_le _ (bind_le (hr.block ctx body) fun out => ?_) (M.le_refl _)
  split
  · exact M.le_refl _
  · exact hr.loop ctx c body

theorem stepF_le {r r' : Rec} (hr : Rec.le r r') : Rec.le (stepF r) (stepF r') where
  expr := fun c e => exprF_le hr c e
  block := fun c ss => forEachM_le (fun s => bind_le (M.le_refl _) (fun _ => stmtF_le hr c s)) ss
  loop := fun c e b => loopF_le hr c e b

theorem bottom_le (r : Rec) : Rec.le Rec.bottom r where
  expr := fun _ _ _ => .inl rfl
  block := fun _ _ _ => .inl rfl
  loop := fun _ _ _ _ => .inl rfl

theorem run_le_succ : ∀ n, Rec.le (run n) (run (n + 1))
  | 0 => bottom_le _
  | n + 1 => stepF_le (run_le_succ n)

theorem run_le_add (n : Nat) : ∀ k, Rec.le (run n) (run (n + k))
  | 0 => Rec.le_refl _
  | k + 1 => Rec.le_trans (run_le_add n k) (run_le_succ (n + k))

end Grass.Eval
