import Grass.Calc
/-
  The conversion table is the quotient of one coefficient per unit (`table_eq`); `comparable`,
  `compatible` and `convert` see two units only as absent, equal, or plain units of one family.
-/
namespace Grass.Calc

/-- the families of `UNIT_CONVERSION_TABLE` -/
def Kind.convertible : Kind → Bool
  | .absolute | .angle | .time | .frequency | .resolution => true
  | _ => false

/-- the unit a family is measured in; outside the table, the unit itself -/
def BU.ref (b : BU) : BU :=
  match b.kind with
  | .absolute => .px
  | .angle => .deg
  | .time => .s
  | .frequency => .hz
  | .resolution => .dppx
  | _ => b

/-- how many reference units one unit is -/
def BU.coef : BU → Rat
  | .inch => 96
  | .cm => 4800 / 127
  | .mm => 480 / 127
  | .pt => 4 / 3
  | .q => 120 / 127
  | .pc => 16
  | .turn => 360
  | .grad => 9 / 10
  | .rad => 180 / piF
  | .ms => 1 / 1000
  | .khz => 1000
  | .dpi => 1 / 96
  | .dpcm => 127 / 4800
  | _ => 1

def BU.all : List BU :=
  [.px, .inch, .cm, .mm, .pt, .em, .rem, .pct, .vw, .deg, .turn, .s, .ms, .q, .pc, .grad, .rad, .hz, .khz,
   .dpi, .dpcm, .dppx]

theorem BU.forall_of_all {p : BU → Bool} (h : BU.all.all p = true) (b : BU) : p b = true :=
  List.all_eq_true.mp h b (by cases b <;> decide +kernel)

theorem table_eq (to frm : BU) :
    table to frm =
      if to.kind.convertible && frm.kind == to.kind then some (frm.coef / to.coef) else none := by
  have h : BU.all.all (fun to => BU.all.all fun frm => decide (table to frm =
      if to.kind.convertible && frm.kind == to.kind then some (frm.coef / to.coef) else none)) = true := by
    decide +kernel
  exact of_decide_eq_true (BU.forall_of_all (BU.forall_of_all h to) frm)

theorem coef_pos (b : BU) : 0 < b.coef :=
  of_decide_eq_true (BU.forall_of_all (p := fun b => decide (0 < b.coef)) (by decide +kernel) b)

theorem size_eq (ρ : Env) (b : BU) : b.size ρ = b.coef * b.ref.size ρ := by
  cases b <;> simp only [BU.size, BU.coef, BU.ref, BU.kind, Rat.one_mul]
  -- left: `ms` and `dpi`, written as quotients in `BU.size`
  all_goals rw [Rat.div_def, Rat.div_def, Rat.one_mul, Rat.mul_comm]

theorem ref_congr {a b : BU} (hc : a.kind.convertible = true) (h : b.kind = a.kind) : b.ref = a.ref := by
  unfold BU.ref
  rw [h]
  cases hk : a.kind <;> simp [hk, Kind.convertible] at hc ⊢

theorem size_pos (ρ : Env) (h : ρ.wf) (b : BU) : 0 < b.size ρ := by
  have : 0 < b.ref.size ρ := by
    obtain ⟨h1, h2, h3, h4, h5, h6, h7, h8, h9⟩ := h
    cases b <;> simp only [BU.ref, BU.kind, BU.size, h1, h2, h3, h4, h5, h6, h7, h8, h9]
  rw [size_eq]
  exact Rat.mul_pos (coef_pos b) this

theorem table_ratio (ρ : Env) (to frm : BU) (f : Rat) (h : table to frm = some f) :
    f * to.size ρ = frm.size ρ := by
  rw [table_eq] at h
  split at h
  · rename_i hc
    simp only [Bool.and_eq_true, beq_iff_eq] at hc
    injection h with h
    subst h
    rw [size_eq ρ to, size_eq ρ frm, ref_congr hc.1 hc.2]
    have := coef_pos to
    grind
  · cases h

@[simp] theorem isNone_iff (u : CUnit) : u.isNone = true ↔ u = ⟨[], []⟩ := by
  rcases u with ⟨n, d⟩
  cases n <;> cases d <;> simp [CUnit.isNone]

theorem BU.kind_ne_none (b : BU) : b.kind ≠ .none := by
  cases b <;> simp [BU.kind]

theorem kind_eq_none_iff (u : CUnit) : u.kind = .none ↔ u = ⟨[], []⟩ := by
  unfold CUnit.kind
  split <;> simp_all [BU.kind_ne_none]

theorem single_of_convertible {u : CUnit} (h : u.kind.convertible = true) :
    ∃ b, u = ⟨[b], []⟩ ∧ b.kind = u.kind := by
  unfold CUnit.kind at h ⊢
  split at h
  · cases h
  · exact ⟨_, rfl, rfl⟩
  · cases h

/-- two plain units of one family of the conversion table -/
def sameFamily (a b : CUnit) : Prop := a.kind.convertible = true ∧ b.kind = a.kind

theorem sameFamily.symm {a b : CUnit} (h : sameFamily a b) : sameFamily b a :=
  ⟨h.2 ▸ h.1, h.2.symm⟩

theorem sameFamily.trans {a b c : CUnit} (h1 : sameFamily a b) (h2 : sameFamily b c) : sameFamily a c :=
  ⟨h1.1, h2.2.trans h1.2⟩

theorem sameFamily.ne_none {a b : CUnit} (h : sameFamily a b) : a ≠ ⟨[], []⟩ ∧ b ≠ ⟨[], []⟩ := by
  refine ⟨?_, ?_⟩ <;> rintro rfl
  · cases h.1
  · rw [(kind_eq_none_iff a).mp h.2.symm] at h
    cases h.1

theorem comparable_iff (a b : CUnit) :
    comparable a b = true ↔ (a.isNone = true ∨ b.isNone = true) ∨ a = b ∨ sameFamily a b := by
  unfold comparable sameFamily
  by_cases hb : b.isNone = true
  · simp [hb]
  · have := kind_eq_none_iff a
    cases hk : a.kind <;> simp_all [Kind.convertible]
    all_goals exact fun e => e ▸ hk

theorem compatible_iff (a b : CUnit) : compatible a b = true ↔ a = b ∨ sameFamily a b := by
  unfold compatible
  split
  · rename_i h
    simp only [Bool.and_eq_true, Bool.or_eq_true, bne_iff_ne, isNone_iff] at h
    have : ¬ sameFamily a b := fun hs => h.1.elim hs.ne_none.1 hs.ne_none.2
    simp [h.2, this]
  · rename_i h
    simp only [Bool.and_eq_true, Bool.or_eq_true, bne_iff_ne, isNone_iff, not_and, Decidable.not_not] at h
    rw [comparable_iff, isNone_iff, isNone_iff]
    constructor
    · rintro ((e | e) | e | hs)
      · exact Or.inl (h (Or.inl e))
      · exact Or.inl (h (Or.inr e))
      · exact Or.inl e
      · exact Or.inr hs
    · exact Or.inr

theorem comparable_comm (a b : CUnit) : comparable a b = comparable b a := by
  have symm : ∀ a b, comparable a b = true → comparable b a = true := fun a b h =>
    (comparable_iff b a).mpr (((comparable_iff a b).mp h).imp Or.symm (Or.imp Eq.symm sameFamily.symm))
  exact Bool.eq_iff_iff.mpr ⟨symm a b, symm b a⟩

theorem compatible_comparable (a b : CUnit) (h : compatible a b = true) : comparable a b = true :=
  (comparable_iff a b).mpr (Or.inr ((compatible_iff a b).mp h))

theorem compatible_symm (a b : CUnit) (h : compatible a b = true) : compatible b a = true :=
  (compatible_iff b a).mpr (((compatible_iff a b).mp h).imp Eq.symm sameFamily.symm)

theorem compatible_trans (a b c : CUnit) (h1 : compatible a b = true) (h2 : compatible b c = true) :
    compatible a c = true := by
  rw [compatible_iff] at h1 h2 ⊢
  rcases h1 with rfl | s1
  · exact h2
  · rcases h2 with rfl | s2
    · exact Or.inr s1
    · exact Or.inr (s1.trans s2)

theorem compatible_none_right (a : CUnit) (h : compatible a ⟨[], []⟩ = true) : a = ⟨[], []⟩ :=
  ((compatible_iff _ _).mp h).elim id fun hs => absurd rfl hs.ne_none.2

theorem unitVal_none (ρ : Env) : unitVal ρ ⟨[], []⟩ = 1 := by
  simp [unitVal, prodSize]; grind

theorem unitVal_single (ρ : Env) (b : BU) : unitVal ρ ⟨[b], []⟩ = b.size ρ := by
  simp [unitVal, prodSize]; grind

theorem convert_eq_some {x y : Rat} {frm to : CUnit} (h : convert x frm to = some y) :
    (((frm.isNone = true ∨ to.isNone = true) ∨ frm = to) ∧ y = x) ∨
      ∃ f t c, frm = ⟨[f], []⟩ ∧ to = ⟨[t], []⟩ ∧ table t f = some c ∧ y = x * c := by
  unfold convert at h
  split at h
  · rename_i hn
    simp only [Bool.or_eq_true, beq_iff_eq] at hn
    injection h with h
    exact Or.inl ⟨hn, h.symm⟩
  · split at h
    · cases h
    · split at h
      · rename_i t f _ _
        obtain ⟨c, hc, rfl⟩ := Option.map_eq_some_iff.mp h
        exact Or.inr ⟨f, t, c, rfl, rfl, hc, rfl⟩
      · cases h

theorem convert_id (x : Rat) {frm to : CUnit} (h : (frm.isNone = true ∨ to.isNone = true) ∨ frm = to) :
    convert x frm to = some x := by
  unfold convert
  rw [if_pos]
  simpa using h

theorem convert_isSome (x : Rat) (frm to : CUnit)
    (h : comparable frm to = true ∨ comparable to frm = true) : (convert x frm to).isSome = true := by
  have hc : comparable frm to = true := h.elim id fun h => comparable_comm to frm ▸ h
  rcases (comparable_iff frm to).mp hc with hid | hid | h
  · rw [convert_id x (.inl hid)]
    rfl
  · rw [convert_id x (.inr hid)]
    rfl
  · obtain ⟨f, rfl, -⟩ := single_of_convertible h.1
    obtain ⟨t, rfl, -⟩ := single_of_convertible h.symm.1
    have hk : f.kind.convertible = true ∧ t.kind = f.kind := h
    unfold convert
    simp only [hc]
    split
    · rfl
    · simp [table_eq, hk.1, hk.2]

theorem convert_value (ρ : Env) (x y : Rat) (frm to : CUnit)
    (hc : compatible frm to = true) (h : convert x frm to = some y) :
    y * unitVal ρ to = x * unitVal ρ frm := by
  rcases convert_eq_some h with ⟨hn, rfl⟩ | ⟨f, t, c, rfl, rfl, ht, rfl⟩
  · have : frm = to := by
      rcases (compatible_iff frm to).mp hc with e | hs
      · exact e
      · simp only [isNone_iff] at hn
        rcases hn with (e | e) | e
        · exact absurd e hs.ne_none.1
        · exact absurd e hs.ne_none.2
        · exact e
    rw [this]
  · rw [unitVal_single, unitVal_single, ← table_ratio ρ t f c ht, Rat.mul_assoc]

theorem convert_compatible (x : Rat) {frm to : CUnit} (hc : compatible frm to = true) :
    ∃ c, convert x frm to = some c ∧ ∀ ρ, c * unitVal ρ to = x * unitVal ρ frm := by
  have hs := convert_isSome x frm to (Or.inl (compatible_comparable _ _ hc))
  cases h : convert x frm to with
  | none => simp [h] at hs
  | some c => exact ⟨c, rfl, fun ρ => convert_value ρ x c frm to hc h⟩

theorem prodSize_pos (ρ : Env) (h : ρ.wf) (l : List BU) : 0 < prodSize ρ l := by
  induction l with
  | nil => simp only [prodSize]; grind
  | cons b bs ih =>
    simp only [prodSize]
    exact Rat.mul_pos (size_pos ρ h b) ih

theorem prodSize_append (ρ : Env) (a b : List BU) : prodSize ρ (a ++ b) = prodSize ρ a * prodSize ρ b := by
  induction a with
  | nil => simp [prodSize]
  | cons x xs ih => simp only [List.cons_append, prodSize, ih]; grind

theorem convFactor_ratio (ρ : Env) (d n : BU) (f : Rat) (h : convFactor d n = some f) :
    f * n.size ρ = d.size ρ := by
  unfold convFactor at h
  split at h
  · rename_i e; subst e; injection h with h; subst h; grind
  · exact table_ratio ρ n d f h

theorem removeFirstConv_prod (ρ : Env) (n : BU) :
    ∀ (ds ds' : List BU) (f : Rat), removeFirstConv n ds = some (f, ds') →
      prodSize ρ ds = f * n.size ρ * prodSize ρ ds' := by
  intro ds
  induction ds with
  | nil => intro ds' f h; simp [removeFirstConv] at h
  | cons d ds ih =>
    intro ds' f h
    unfold removeFirstConv at h
    split at h
    · rename_i f0 hf
      injection h with h; injection h with h1 h2; subst h1; subst h2
      simp only [prodSize]; rw [convFactor_ratio ρ d n f0 hf]
    · split at h
      · rename_i f1 r hr
        injection h with h; injection h with h1 h2; subst h1; subst h2
        simp only [prodSize]; rw [ih r f1 hr]; grind
      · cases h

theorem cancelLoop_prod (ρ : Env) (hw : ρ.wf) :
    ∀ (ns ds : List BU) (x x' : Rat) (kept ds' : List BU), cancelLoop ns ds x = (x', kept, ds') →
      x' * prodSize ρ kept * prodSize ρ ds = x * prodSize ρ ns * prodSize ρ ds' := by
  intro ns
  induction ns with
  | nil =>
    intro ds x x' kept ds' h
    simp [cancelLoop] at h
    obtain ⟨h1, h2, h3⟩ := h; subst h1; subst h2; subst h3; simp [prodSize]
  | cons n ns ih =>
    intro ds x x' kept ds' h
    unfold cancelLoop at h
    split at h
    · rename_i f ds1 hr
      have h1 := removeFirstConv_prod ρ n ds ds1 f hr
      have h2 := ih ds1 (x / f) x' kept ds' h
      have hn := size_pos ρ hw n
      have hd := prodSize_pos ρ hw ds
      have hd1 := prodSize_pos ρ hw ds1
      have hf : f ≠ 0 := by
        intro e; subst e; grind
      simp only [prodSize]
      rw [h1]
      have : x' * prodSize ρ kept * (f * n.size ρ * prodSize ρ ds1)
           = f * n.size ρ * (x' * prodSize ρ kept * prodSize ρ ds1) := by grind
      rw [this, h2]; grind
    · rename_i hr
      cases hc : cancelLoop ns ds x with
      | mk x0 rest =>
        obtain ⟨k0, d0⟩ := rest
        rw [hc] at h
        simp at h
        obtain ⟨e1, e2, e3⟩ := h; subst e1; subst e2; subst e3
        have := ih ds x x0 k0 d0 hc
        simp only [prodSize]; grind

theorem cancel_arith (x1 x2 num a b c d k1 k2 b' d' : Rat)
    (hb : 0 < b) (hd : 0 < d) (hb' : 0 < b') (hd' : 0 < d')
    (e1 : x1 * k1 * d = num * a * d') (e2 : x2 * k2 * b = x1 * c * b') :
    x2 * (k1 * k2 / (b' * d')) = num * (a / b) * (c / d) := by
  have h1 : b' * d' ≠ 0 := by
    have := Rat.mul_pos hb' hd'; grind
  have hb0 : b ≠ 0 := by grind
  have hd0 : d ≠ 0 := by grind
  have key : x2 * (k1 * k2) * (b * d) = num * a * c * (b' * d') := by
    have : x2 * (k1 * k2) * (b * d) = (x2 * k2 * b) * (k1 * d) := by grind
    rw [this, e2]
    have : x1 * c * b' * (k1 * d) = (x1 * k1 * d) * (c * b') := by grind
    rw [this, e1]; grind
  grind

theorem multiplyUnits_value (ρ : Env) (hw : ρ.wf) (su ou : CUnit) (num : Rat) (hou : ou.isNone = false) :
    (multiplyUnits su num ou).val ρ = num * unitVal ρ su * unitVal ρ ou := by
  rcases su with ⟨nu, du⟩
  rcases ou with ⟨on, od⟩
  have pnu := prodSize_pos ρ hw nu
  have pdu := prodSize_pos ρ hw du
  have pon := prodSize_pos ρ hw on
  have pod := prodSize_pos ρ hw od
  unfold multiplyUnits
  simp only []
  split
  · rename_i hc
    simp only [Bool.and_eq_true, List.isEmpty_iff] at hc
    obtain ⟨⟨e1, e2⟩, _⟩ := hc; subst e1; subst e2
    simp only [Num.val, unitVal, prodSize]; grind
  · split
    · rename_i hc
      simp only [Bool.and_eq_true, List.isEmpty_iff] at hc
      obtain ⟨e1, e2⟩ := hc; subst e1; subst e2
      simp only [Num.val, unitVal, prodSize]; grind
    · split
      · rename_i hc
        simp only [Bool.and_eq_true, Bool.or_eq_true, List.isEmpty_iff, Bool.not_eq_true'] at hc
        obtain ⟨⟨_, e1⟩, e2⟩ := hc
        subst e1
        rcases e2 with e2 | ⟨e2, _⟩
        · subst e2; simp [CUnit.isNone] at hou
        · subst e2; simp only [Num.val, unitVal, prodSize]; grind
      · cases h1 : cancelLoop nu od num with
        | mk x1 r1 =>
          obtain ⟨k1, od'⟩ := r1
          cases h2 : cancelLoop on du x1 with
          | mk x2 r2 =>
            obtain ⟨k2, du'⟩ := r2
            have e1 := cancelLoop_prod ρ hw nu od num x1 k1 od' h1
            have e2 := cancelLoop_prod ρ hw on du x1 x2 k2 du' h2
            have pk1 := prodSize_pos ρ hw k1
            have pk2 := prodSize_pos ρ hw k2
            have pod' := prodSize_pos ρ hw od'
            have pdu' := prodSize_pos ρ hw du'
            simp only [Num.val, unitVal, prodSize_append]
            exact cancel_arith x1 x2 num _ _ _ _ _ _ _ _ pdu pod pdu' pod' e1 e2

end Grass.Calc
