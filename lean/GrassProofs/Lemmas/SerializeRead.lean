import GrassProofs.Lemmas.SerializeTree
/-
  For `C06_decl_only_exact_readback`: on declaration-only trees the serializer's text with whitespace
  dropped is `flatText st t` (`sel{n:v;n:v}…`), from which `readCss` returns the rule list.
-/
namespace Grass.Serialize

theorem splitOnC_ne_nil (c : Char) (s : Str) : splitOnC c s ≠ [] := by
  induction s with
  | nil => simp [splitOnC]
  | cons x xs ih =>
    simp only [splitOnC]
    cases h : splitOnC c xs with
    | nil => simp
    | cons l ls => by_cases hx : x = c <;> simp [hx]

theorem splitOnC_notin (c : Char) (s : Str) (h : c ∉ s) : splitOnC c s = [s] := by
  induction s with
  | nil => simp [splitOnC]
  | cons x xs ih =>
    simp only [List.mem_cons, not_or] at h
    simp only [splitOnC, ih h.2]
    have : x ≠ c := fun e => h.1 e.symm
    simp [this]

theorem splitOnC_append (c : Char) (a b : Str) (h : c ∉ a) :
    splitOnC c (a ++ c :: b) = a :: splitOnC c b := by
  induction a with
  | nil =>
    simp only [List.nil_append, splitOnC]
    cases hb : splitOnC c b with
    | nil => exact absurd hb (splitOnC_ne_nil c b)
    | cons l ls => simp
  | cons x xs ih =>
    simp only [List.mem_cons, not_or] at h
    simp only [List.cons_append, splitOnC, ih h.2]
    have : x ≠ c := fun e => h.1 e.symm
    simp [this]

/-! the text without whitespace -/

def declFlat (d : Str × Str) : Str := d.1 ++ ':' :: d.2

def declsFlat (st : Style) : List (Str × Str) → Str
  | [] => []
  | [d] => declFlat d ++ (if st.isCompressed then [] else [';'])
  | d :: e :: r => declFlat d ++ ';' :: declsFlat st (e :: r)

def ruleFlat (st : Style) (r : SRule) : Str := r.sel ++ '{' :: (declsFlat st r.decls ++ ['}'])

def flatText (st : Style) (t : List SRule) : Str :=
  ((t.filter (fun r => !r.decls.isEmpty)).map (ruleFlat st)).flatten

def declOk (d : Str × Str) : Bool := word d.1 && word d.2

def wordChar (c : Char) : Bool := c ≠ ' ' && c ≠ '\n' && c ≠ '{' && c ≠ '}' && c ≠ ';' && c ≠ ':'

theorem word_notin (x : Str) (h : word x = true) (c : Char) (hc : wordChar c = false) : c ∉ x := by
  have h2 : x.all wordChar = true := (Bool.and_eq_true _ _ ▸ h).2
  intro hm
  rw [List.all_eq_true.mp h2 c hm] at hc; cases hc

theorem word_ne_nil (x : Str) (h : word x = true) : x ≠ [] := by
  intro e; subst e; simp [word] at h

theorem declFlat_notin (d : Str × Str) (h : declOk d = true) (c : Char) (hc : wordChar c = false) (h3 : c ≠ ':') :
    c ∉ declFlat d := by
  simp only [declOk, Bool.and_eq_true] at h
  simp [declFlat, word_notin d.1 h.1 c hc, word_notin d.2 h.2 c hc, h3]

theorem declFlat_ne_nil (d : Str × Str) : declFlat d ≠ [] := by simp [declFlat]

theorem readDecl_declFlat (d : Str × Str) (h : declOk d = true) : readDecl (declFlat d) = some d := by
  simp only [declOk, Bool.and_eq_true] at h
  have h1 := word_notin d.1 h.1 ':' rfl
  have h2 := word_notin d.2 h.2 ':' rfl
  simp [readDecl, declFlat, splitOnC_append ':' d.1 d.2 h1, splitOnC_notin ':' d.2 h2]

theorem declsFlat_notin (st : Style) (ds : List (Str × Str)) (h : ds.all declOk = true) (c : Char)
    (hc : wordChar c = false) (h3 : c ≠ ':') (hsemi : c ≠ ';') : c ∉ declsFlat st ds := by
  induction ds with
  | nil => simp [declsFlat]
  | cons d r ih =>
    simp only [List.all_cons, Bool.and_eq_true] at h
    have hd := declFlat_notin d h.1 c hc h3
    cases r with
    | nil =>
      simp only [declsFlat]
      cases st <;> simp [Style.isCompressed, hd, hsemi]
    | cons e r' =>
      simp only [declsFlat]
      simp [hd, hsemi, ih h.2]

theorem split_declsFlat (st : Style) (ds : List (Str × Str)) (h : ds.all declOk = true) :
    (splitOnC ';' (declsFlat st ds)).filter (fun d => !d.isEmpty) = ds.map declFlat := by
  induction ds with
  | nil => simp [declsFlat, splitOnC]
  | cons d r ih =>
    simp only [List.all_cons, Bool.and_eq_true] at h
    have hd := declFlat_notin d h.1 ';' rfl (by decide)
    have hne := declFlat_ne_nil d
    cases r with
    | nil =>
      cases st
      · simp only [declsFlat, Style.isCompressed, Bool.false_eq_true, if_false]
        rw [splitOnC_append ';' _ [] hd]
        simp [splitOnC, hne]
      · simp only [declsFlat, Style.isCompressed, if_true, List.append_nil]
        rw [splitOnC_notin ';' _ hd]
        simp [hne]
    | cons e r' =>
      simp only [declsFlat]
      rw [splitOnC_append ';' _ _ hd]
      simp only [List.filter_cons, List.map_cons]
      have := ih h.2
      simp [hne, this]

theorem mapM_readDecl (ds : List (Str × Str)) (h : ds.all declOk = true) :
    (ds.map declFlat).mapM readDecl = some ds := by
  induction ds with
  | nil => simp
  | cons d r ih =>
    simp only [List.all_cons, Bool.and_eq_true] at h
    simp [List.mapM_cons, readDecl_declFlat d h.1, ih h.2]

theorem readRule_flat (st : Style) (r : SRule) (h : r.ok = true) :
    readRule (r.sel ++ '{' :: declsFlat st r.decls) = some (r.sel, r.decls) := by
  simp only [SRule.ok, Bool.and_eq_true] at h
  have hd : r.decls.all declOk = true := h.2
  have h1 := word_notin r.sel h.1 '{' rfl
  have h2 := declsFlat_notin st r.decls hd '{' rfl (by decide) (by decide)
  simp [readRule, splitOnC_append '{' _ _ h1, splitOnC_notin '{' _ h2, split_declsFlat st r.decls hd,
    mapM_readDecl r.decls hd]

def ruleHead (st : Style) (r : SRule) : Str := r.sel ++ '{' :: declsFlat st r.decls

theorem ruleFlat_eq (st : Style) (r : SRule) : ruleFlat st r = ruleHead st r ++ ['}'] := by
  simp [ruleFlat, ruleHead]

theorem ruleHead_notin (st : Style) (r : SRule) (h : r.ok = true) : '}' ∉ ruleHead st r := by
  simp only [SRule.ok, Bool.and_eq_true] at h
  have h1 := word_notin r.sel h.1 '}' rfl
  have h2 := declsFlat_notin st r.decls h.2 '}' rfl (by decide) (by decide)
  simp [ruleHead, h1, h2]

theorem split_flat (st : Style) (t : List SRule) (h : t.all SRule.ok = true) :
    splitOnC '}' (flatText st t) = (t.filter (fun r => !r.decls.isEmpty)).map (ruleHead st) ++ [[]] := by
  induction t with
  | nil => simp [flatText, splitOnC]
  | cons r rs ih =>
    simp only [List.all_cons, Bool.and_eq_true] at h
    have ih' := ih h.2
    by_cases hv : r.decls.isEmpty = true
    · simpa [flatText, List.filter_cons, hv] using ih'
    · have : flatText st (r :: rs) = ruleHead st r ++ '}' :: flatText st rs := by
        simp [flatText, hv, ruleFlat_eq]
      rw [this, splitOnC_append '}' _ _ (ruleHead_notin st r h.1), ih']
      simp [hv]

theorem mapM_readRule (st : Style) (l : List SRule) (h : l.all SRule.ok = true) :
    (l.map (ruleHead st)).mapM readRule = some (l.map (fun r => (r.sel, r.decls))) := by
  induction l with
  | nil => simp
  | cons r rs ih =>
    simp only [List.all_cons, Bool.and_eq_true] at h
    simp [List.mapM_cons, ruleHead, readRule_flat st r h.1, ih h.2]

theorem readCss_of_flat (st : Style) (t : List SRule) (h : t.all SRule.ok = true) (s : Str)
    (hs : dropWs s = flatText st t) : readCss s = some (rulesOf t) := by
  have hf : (t.filter (fun r => !r.decls.isEmpty)).all SRule.ok = true := all_filter _ _ _ h
  simp only [readCss, hs, split_flat st t h]
  simp [List.getLast?_append, mapM_readRule st _ hf, rulesOf]

/-! the serializer on the subset -/

theorem dropWs_append (a b : Str) : dropWs (a ++ b) = dropWs a ++ dropWs b := by simp [dropWs]

theorem dropWs_word (x : Str) (h : word x = true) : dropWs x = x := by
  simp only [dropWs, List.filter_eq_self]
  intro c hc
  have h1 := word_notin x h ' ' rfl
  have h2 := word_notin x h '\n' rfl
  have : c ≠ ' ' := fun e => h1 (e ▸ hc)
  have : c ≠ '\n' := fun e => h2 (e ▸ hc)
  simp [isWs, *]

theorem dropWs_spaces (n : Nat) : dropWs (spaces n) = [] := by
  simp [dropWs, spaces, isWs]

theorem dropWs_indentOut (st : Style) (n : Nat) : dropWs (indentOut st n) = [] := by
  unfold indentOut; split
  · rfl
  · exact dropWs_spaces n

theorem dropWs_optNl (st : Style) : dropWs (optNl st) = [] := by
  cases st <;> simp [optNl, Style.isCompressed, dropWs, isWs]

theorem dropWs_openBlock (st : Style) : dropWs (openBlock st) = ['{'] := by
  cases st <;> decide

theorem dropWs_closeBlock (st : Style) (n : Nat) : dropWs (closeBlock st n) = ['}'] := by
  simp [closeBlock, dropWs_append, dropWs_indentOut]; simp [dropWs, isWs]

theorem unquotedLoop_word (x : Str) (h1 : ' ' ∉ x) (h2 : '\n' ∉ x) : unquotedLoop false x = x := by
  induction x with
  | nil => simp [unquotedLoop]
  | cons c cs ih =>
    simp only [List.mem_cons, not_or] at h1 h2
    have a : c ≠ ' ' := fun e => h1.1 e.symm
    have b : c ≠ '\n' := fun e => h2.1 e.symm
    simp [unquotedLoop, a, b, ih h1.2 h2.2]

theorem unquotedOut_word (x : Str) (h : word x = true) : unquotedOut x = x :=
  unquotedLoop_word x (word_notin x h ' ' rfl) (word_notin x h '\n' rfl)

theorem declStmt_visible (d : Str × Str) (h : declOk d = true) : (declStmt d).isInvisible = false := by
  simp only [declOk, Bool.and_eq_true] at h
  have := word_ne_nil d.2 h.2
  simp [declStmt, Stmt.isInvisible, Value.isBlank, Atom.isBlank, this]

theorem visit_declStmt (st : Style) (ind : Nat) (d : Str × Str) (h : declOk d = true) :
    (visitStmt st ind (declStmt d)).1 = true ∧ dropWs (visitStmt st ind (declStmt d)).2 = declFlat d := by
  have hv := declStmt_visible d h
  simp only [declOk, Bool.and_eq_true] at h
  refine ⟨visit_visible st ind _ hv, ?_⟩
  simp only [declStmt] at hv ⊢
  rw [visit_decl st ind d.1 false (.atom (.raw d.2)) hv]
  simp only [dropWs_append, dropWs_indentOut, Value.out, Atom.out, unquotedOut_word d.2 h.2,
    dropWs_word d.1 h.1, dropWs_word d.2 h.2, declFlat, declText]
  cases st <;> simp [Style.isCompressed, dropWs, isWs]

theorem declStmt_semi (d : Str × Str) : (declStmt d).requiresSemicolon = true := rfl

theorem children_decls (st : Style) (ind : Nat) (ds : List (Str × Str)) (h : ds.all declOk = true) :
    dropWs (childrenLoop st ind (Stmts.ofList (ds.map declStmt))) = declsFlat st ds := by
  induction ds with
  | nil => simp [Stmts.ofList, childrenLoop, declsFlat, dropWs]
  | cons d r ih =>
    simp only [List.all_cons, Bool.and_eq_true] at h
    obtain ⟨hw, hout⟩ := visit_declStmt st ind d h.1
    have ih' := ih h.2
    cases r with
    | nil =>
      simp only [List.map_cons, List.map_nil, Stmts.ofList]
      unfold childrenLoop
      simp only [hw, if_true, dropWs_append, hout, dropWs_optNl, childSemi, declStmt_semi]
      unfold childrenLoop
      cases st <;> simp [Style.isCompressed, declsFlat, dropWs, isWs]
    | cons e r' =>
      simp only [List.map_cons, Stmts.ofList] at ih' ⊢
      conv => lhs; unfold childrenLoop
      simp only [hw, if_true, dropWs_append, hout, dropWs_optNl, childSemi, declStmt_semi, ih']
      simp [declsFlat, dropWs, isWs]

theorem selectorOut_single (st : Style) (sel : Str) (h : sel ≠ []) :
    selectorOut st [⟨false, [.compound [.text sel]]⟩] = sel := by
  have : (sel.isEmpty) = false := by cases sel <;> simp_all
  simp [selectorOut, Complex.isInvisible, Component.isInvisible, compoundInvisible, Simple.isInvisible,
    selectorLoop, complexOut, Component.out, compoundOut, Simple.out, this]

theorem allInvisible_decls (ds : List (Str × Str)) (h : ds.all declOk = true) :
    (Stmts.ofList (ds.map declStmt)).allInvisible = ds.isEmpty := by
  cases ds with
  | nil => simp [Stmts.ofList, Stmts.allInvisible]
  | cons d r =>
    simp only [List.all_cons, Bool.and_eq_true] at h
    simp [Stmts.ofList, Stmts.allInvisible, declStmt_visible d h.1]

theorem toStmt_invisible (r : SRule) (h : r.ok = true) : r.toStmt.isInvisible = r.decls.isEmpty := by
  simp only [SRule.ok, Bool.and_eq_true] at h
  simp [SRule.toStmt, Stmt.isInvisible, selectorInvisible, Complex.isInvisible, Component.isInvisible,
    compoundInvisible, Simple.isInvisible, allInvisible_decls r.decls h.2]

theorem visit_toStmt (st : Style) (r : SRule) (h : r.ok = true) (hv : r.decls.isEmpty = false) :
    dropWs (visitStmt st 0 r.toStmt).2 = ruleFlat st r := by
  have hi := toStmt_invisible r h
  rw [hv] at hi
  simp only [SRule.ok, Bool.and_eq_true] at h
  simp only [SRule.toStmt] at hi ⊢
  rw [visit_rule st 0 _ _ _ hi]
  simp only [writeChildren, rulePrelude, blockOut, dropWs_append, dropWs_indentOut, selectorOut_single st r.sel (word_ne_nil _ h.1),
    dropWs_word r.sel h.1, dropWs_openBlock, dropWs_closeBlock, children_decls st 2 r.decls h.2]
  simp [ruleFlat]

theorem toStmt_flags (r : SRule) : r.toStmt.requiresSemicolon = false := rfl

theorem topLoop_subset (st : Style) (t : List SRule) (h : t.all SRule.ok = true) (T : Top)
    (hT : T.prevSemi = false) :
    (topLoop st T (t.map SRule.toStmt)).prevSemi = false ∧
    dropWs (topLoop st T (t.map SRule.toStmt)).buf = dropWs T.buf ++ flatText st t := by
  induction t generalizing T with
  | nil => simp [topLoop, hT, flatText]
  | cons r rs ih =>
    simp only [List.all_cons, Bool.and_eq_true] at h
    simp only [List.map_cons, topLoop, toStmt_invisible r h.1]
    by_cases hv : r.decls.isEmpty = true
    · simp only [hv, if_true]
      have := ih h.2 T hT
      simpa [flatText, List.filter_cons, hv] using this
    · have hv' : r.decls.isEmpty = false := by simpa using hv
      simp only [hv', Bool.false_eq_true, if_false]
      have hg : (visitGroup st T r.toStmt).prevSemi = false := by simp [visitGroup, toStmt_flags]
      have hb : dropWs (visitGroup st T r.toStmt).buf = dropWs T.buf ++ ruleFlat st r := by
        simp only [visitGroup, hT, Bool.false_eq_true, if_false, dropWs_append, visit_toStmt st r h.1 hv']
        congr 1
        by_cases e1 : T.buf.isEmpty = true <;> by_cases e2 : T.prevGroupEnd = true <;>
          simp [e1, e2, dropWs_append, dropWs_optNl] <;> (try (split <;> simp [dropWs_append, dropWs_optNl]))
      obtain ⟨i1, i2⟩ := ih h.2 _ hg
      refine ⟨i1, ?_⟩
      rw [i2, hb]
      simp [flatText, hv']

theorem dropWs_serialize (st : Style) (t : List SRule) (h : t.all SRule.ok = true) :
    dropWs (serialize st false (t.map SRule.toStmt)) = flatText st t := by
  obtain ⟨h1, h2⟩ := topLoop_subset st t h Top.init rfl
  simp only [serialize, finish, h1, Bool.and_false, Bool.false_eq_true, if_false]
  have : dropWs (Top.init).buf = [] := rfl
  rw [this, List.nil_append] at h2
  split
  · rw [dropWs_append, dropWs_optNl, List.append_nil, h2]
  · exact h2

theorem readCss_serialize (st : Style) (t : List SRule) (h : t.all SRule.ok = true) :
    readCss (serialize st false (t.map SRule.toStmt)) = some (rulesOf t) :=
  readCss_of_flat st t h _ (dropWs_serialize st t h)

end Grass.Serialize
