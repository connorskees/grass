import Grass.Diag
/-
  Every state predicate that the primitive state updates (`doDebug`, `doWarn`, `skipWarn`, and those
  that leave `log`, `visited` and `emitted` alone) preserve is preserved by the whole interpreter.
  `@for` and the terminating counting `@while` are `@each` over the values of the counter.
-/
namespace Grass.Diag

structure Prim (cfg : Cfg) (Inv : St → Prop) : Prop where
  debug : ∀ st f l m, Inv st → Inv (st.doDebug cfg f l m)
  warn : ∀ st f l m, Inv st → Inv (st.doWarn cfg f l m)
  skip : ∀ st f l, cfg.warnDedupBySpan = true → Inv st → Inv (st.skipWarn f l)
  /-- any update that leaves the three logging fields alone -/
  admin : ∀ st st' : St, st'.log = st.log → st'.visited = st.visited → st'.emitted = st.emitted →
    Inv st → Inv st'

/-- `Inv` holds of the state a result carries (if it carries one). -/
def Res.Holds {α : Type} (Inv : St → Prop) : Res α → Prop
  | .ok _ st => Inv st
  | .err _ st => Inv st
  | _ => True

variable {cfg : Cfg} {prog : List Stmts} {Inv : St → Prop} {α β : Type}

theorem Res.Holds.of_st? {r : Res α} (h : r.Holds Inv) {st : St} (hs : r.st? = some st) :
    Inv st := by
  cases r with
  | ok a st' => cases hs; exact h
  | err e st' => cases hs; exact h
  | outOfFuel => cases hs
  | unsupported => cases hs

theorem Res.Holds.popContent (P : Prim cfg Inv) {r : Res α} (h : r.Holds Inv) :
    r.popContent.Holds Inv := by
  cases r with
  | ok a st => exact P.admin st _ rfl rfl rfl h
  | err e st => exact h
  | outOfFuel => trivial
  | unsupported => trivial

/- Sequencing.  The interpreter writes it in two ways (`| r => r` or the other cases spelt out), and
   Lean compiles a `match` per type of the matched term: one statement per shape and type, for
   `exact` to unify with. -/

theorem Res.Holds.bindVal {r : Res Val} (h : r.Holds Inv) {k : Val → St → Res β}
    (hk : ∀ v st, Inv st → (k v st).Holds Inv) :
    (match (generalizing := false) r with
      | .ok v st => k v st
      | .err e st => .err e st
      | .outOfFuel => .outOfFuel
      | .unsupported => .unsupported : Res β).Holds Inv := by
  cases r with
  | ok a st => exact hk a st h
  | err e st => exact h
  | _ => trivial

theorem Res.Holds.bindUnit {r : Res Unit} (h : r.Holds Inv) {k : Unit → St → Res β}
    (hk : ∀ u st, Inv st → (k u st).Holds Inv) :
    (match (generalizing := false) r with
      | .ok u st => k u st
      | .err e st => .err e st
      | .outOfFuel => .outOfFuel
      | .unsupported => .unsupported : Res β).Holds Inv := by
  cases r with
  | ok a st => exact hk a st h
  | err e st => exact h
  | _ => trivial

theorem Res.Holds.bindVal' {r : Res Val} (h : r.Holds Inv) {k : Val → St → Res Val}
    (hk : ∀ v st, Inv st → (k v st).Holds Inv) :
    (match r with
      | .ok v st => k v st
      | r => r).Holds Inv := by
  cases r with
  | ok a st => exact hk a st h
  | err e st => exact h
  | _ => trivial

theorem Res.Holds.bindUnit' {r : Res Unit} (h : r.Holds Inv) {k : Unit → St → Res Unit}
    (hk : ∀ u st, Inv st → (k u st).Holds Inv) :
    (match r with
      | .ok u st => k u st
      | r => r).Holds Inv := by
  cases r with
  | ok a st => exact hk a st h
  | err e st => exact h
  | _ => trivial

variable (cfg prog Inv) in
structure Preserves (fuel : Nat) : Prop where
  eval : ∀ ctx line env e st, Inv st → (evalExpr cfg prog fuel ctx line env e st).Holds Inv
  stmt : ∀ ctx env s st, Inv st → (execStmt cfg prog fuel ctx env s st).Holds Inv
  stmts : ∀ ctx env ss st, Inv st → (execStmts cfg prog fuel ctx env ss st).Holds Inv
  loopFor : ∀ ctx env x body i dir count st, Inv st →
    (execFor cfg prog fuel ctx env x body i dir count st).Holds Inv
  loopEach : ∀ ctx env x body vals st, Inv st →
    (execEach cfg prog fuel ctx env x body vals st).Holds Inv
  loopWhile : ∀ ctx env x body i bound step st, Inv st →
    (execWhile cfg prog fuel ctx env x body i bound step st).Holds Inv
  incl : ∀ ctx line env m arg cnt st, Inv st →
    (execIncl cfg prog fuel ctx line env m arg cnt st).Holds Inv

variable {fuel : Nat} (ih : Preserves cfg prog Inv fuel)
include ih

theorem evalExpr_preserves (ctx : Ctx) (line : Nat) (env : Env) (e : Expr) {st : St}
    (hst : Inv st) : (evalExpr cfg prog (fuel + 1) ctx line env e st).Holds Inv := by
  cases e with
  | int n => rw [evalExpr]; exact hst
  | str id => rw [evalExpr]; exact hst
  | var x =>
    rw [evalExpr]
    split <;> exact hst
  | call f arg =>
    rw [evalExpr]
    refine (ih.eval ctx line env arg st hst).bindVal' fun v st1 h1 => ?_
    split
    · trivial
    · exact (ih.stmts _ _ _ _ h1).bindUnit fun _ st2 h2 => ih.eval _ _ _ _ _ h2
  | pair a b =>
    rw [evalExpr]
    refine (ih.eval ctx line env a st hst).bindVal' fun va st1 h1 => ?_
    refine (ih.eval ctx line env b st1 h1).bindVal' fun vb st2 h2 => ?_
    split
    · trivial
    · exact h2

theorem execStmt_preserves (P : Prim cfg Inv) (ctx : Ctx) (env : Env) (s : Stmt) {st : St}
    (hst : Inv st) : (execStmt cfg prog (fuel + 1) ctx env s st).Holds Inv := by
  cases s with
  | debug line e =>
    rw [execStmt]
    split
    · exact P.debug _ _ _ _ hst
    · exact (ih.eval ctx line env e st hst).bindVal fun v st1 h => P.debug _ _ _ _ h
  | warn line e =>
    rw [execStmt]
    split
    · rename_i hc
      exact P.skip _ _ _ (Bool.and_eq_true_iff.mp hc).1 hst
    · exact (ih.eval ctx line env e st hst).bindVal fun v st1 h => P.warn _ _ _ _ h
  | error line e =>
    rw [execStmt]
    exact (ih.eval ctx line env e st hst).bindVal fun v st1 h => h
  | letCall line e =>
    rw [execStmt]
    exact (ih.eval ctx line env e st hst).bindVal fun v st1 h => h
  | forLoop line x frm to inclusive body => rw [execStmt]; exact ih.loopFor _ _ _ _ _ _ _ _ hst
  | each line x vals body => rw [execStmt]; exact ih.loopEach _ _ _ _ _ _ hst
  | whileLoop line x init bound step body => rw [execStmt]; exact ih.loopWhile _ _ _ _ _ _ _ _ hst
  | incl line m arg => rw [execStmt]; exact ih.incl _ _ _ _ _ _ _ hst
  | inclContent line m arg body => rw [execStmt]; exact ih.incl _ _ _ _ _ _ _ hst
  | mixinDef m p body => rw [execStmt]; exact P.admin st _ rfl rfl rfl hst
  | funcDef f p body rl ret => rw [execStmt]; exact P.admin st _ rfl rfl rfl hst
  | ifElse line c thn els =>
    cases c with
    | lit b => rw [execStmt]; exact ih.stmts _ _ _ _ hst
    | varEq x n =>
      rw [execStmt]
      split
      · exact hst
      · exact ih.stmts _ _ _ _ hst
  | block body =>
    rw [execStmt]
    exact (ih.stmts ctx env body st hst).bindUnit' fun _ st1 h => P.admin st1 _ rfl rfl rfl h
  | content line =>
    rw [execStmt]
    split
    · refine (ih.stmts _ _ _ _ ?_).bindUnit' fun _ st1 h => ?_
      · exact P.admin st _ rfl rfl rfl hst
      · exact P.admin st1 _ rfl rfl rfl h
    · exact hst
  | importFile line k =>
    rw [execStmt]
    split
    · trivial
    · trivial
    · exact ih.stmts _ _ _ _ hst
  | loadMod line k forward =>
    rw [execStmt]
    by_cases hk : k ≤ ctx.mod
    · rw [if_pos hk]; trivial
    · rw [if_neg hk]
      by_cases hl : st.loaded.contains k = true
      · rw [if_pos hl]
        cases forward <;> exact P.admin st _ rfl rfl rfl hst
      · rw [if_neg hl]
        split
        · trivial
        · cases forward <;>
            exact (ih.stmts _ _ _ _ hst).bindUnit' fun _ st1 h => P.admin st1 _ rfl rfl rfl h

theorem execStmts_preserves (ctx : Ctx) (env : Env) (ss : Stmts) {st : St} (hst : Inv st) :
    (execStmts cfg prog (fuel + 1) ctx env ss st).Holds Inv := by
  cases ss with
  | nil => rw [execStmts]; exact hst
  | cons s rest =>
    rw [execStmts]
    exact (ih.stmt ctx env s st hst).bindUnit' fun _ st1 h => ih.stmts _ _ _ _ h

theorem execFor_preserves (ctx : Ctx) (env : Env) (x : Nat) (body : Stmts) (i dir : Int)
    (count : Nat) {st : St} (hst : Inv st) :
    (execFor cfg prog (fuel + 1) ctx env x body i dir count st).Holds Inv := by
  cases count with
  | zero => rw [execFor]; exact hst
  | succ count =>
    rw [execFor]
    exact (ih.stmts _ _ body st hst).bindUnit' fun _ st1 h => ih.loopFor _ _ _ _ _ _ _ _ h

theorem execEach_preserves (ctx : Ctx) (env : Env) (x : Nat) (body : Stmts) (vals : List Val)
    {st : St} (hst : Inv st) : (execEach cfg prog (fuel + 1) ctx env x body vals st).Holds Inv := by
  cases vals with
  | nil => rw [execEach]; exact hst
  | cons v vs =>
    rw [execEach]
    exact (ih.stmts _ _ body st hst).bindUnit' fun _ st1 h => ih.loopEach _ _ _ _ _ _ h

theorem execWhile_preserves (ctx : Ctx) (env : Env) (x : Nat) (body : Stmts) (i bound step : Int)
    {st : St} (hst : Inv st) :
    (execWhile cfg prog (fuel + 1) ctx env x body i bound step st).Holds Inv := by
  rw [execWhile]
  split
  · exact (ih.stmts _ _ body st hst).bindUnit' fun _ st1 h => ih.loopWhile _ _ _ _ _ _ _ _ h
  · exact hst

theorem execIncl_preserves (P : Prim cfg Inv) (ctx : Ctx) (line : Nat) (env : Env) (m : Nat)
    (arg : Option Expr) (cnt : Option Content) {st : St} (hst : Inv st) :
    (execIncl cfg prog (fuel + 1) ctx line env m arg cnt st).Holds Inv := by
  have body : ∀ ctx env ss {st : St}, Inv st →
      (execStmts cfg prog fuel ctx env ss (st.pushContent cnt)).popContent.Holds Inv :=
    fun ctx env ss st h => (ih.stmts ctx env ss _ (P.admin st (st.pushContent cnt) rfl rfl rfl h)).popContent P
  rw [execIncl]
  split
  · exact hst
  · split
    · exact hst
    · split
      · exact body _ _ _ hst
      · exact (ih.eval ctx line env _ st hst).bindVal fun v st1 h => body _ _ _ h
      · trivial

omit ih

theorem preserves (P : Prim cfg Inv) : ∀ fuel, Preserves cfg prog Inv fuel
  | 0 => by
    constructor <;> intros
    · rw [evalExpr]; trivial
    · rw [execStmt]; trivial
    · rw [execStmts]; trivial
    · rw [execFor]; trivial
    · rw [execEach]; trivial
    · rw [execWhile]; trivial
    · rw [execIncl]; trivial
  | fuel + 1 =>
    have ih := preserves P fuel
    ⟨fun ctx line env e _ => evalExpr_preserves ih ctx line env e,
      fun ctx env s _ => execStmt_preserves ih P ctx env s,
      fun ctx env ss _ => execStmts_preserves ih ctx env ss,
      fun ctx env x body i dir count _ => execFor_preserves ih ctx env x body i dir count,
      fun ctx env x body vals _ => execEach_preserves ih ctx env x body vals,
      fun ctx env x body i bound step _ => execWhile_preserves ih ctx env x body i bound step,
      fun ctx line env m arg cnt _ => execIncl_preserves ih P ctx line env m arg cnt⟩

theorem run_preserves (P : Prim cfg Inv) (h0 : Inv St.init) (fuel : Nat) (prog : List Stmts) :
    (run cfg fuel prog).Holds Inv := by
  unfold run
  cases prog with
  | nil => trivial
  | cons entry rest => exact (preserves P fuel).stmts _ _ _ _ h0

variable {ctx : Ctx} {env : Env} {x : Nat} {body : Stmts}

theorem counter_succ (i d : Int) (k : Nat) :
    i + d * Int.ofNat (k + 1) = i + d + d * Int.ofNat k := by
  show i + d * (Int.ofNat k + 1) = _
  rw [Int.mul_add, Int.mul_one, Int.add_assoc, Int.add_comm d]

theorem counterVals_succ (i d : Int) (n : Nat) :
    (List.range (n + 1)).map (fun k => Val.int (i + d * Int.ofNat k)) =
      .int i :: (List.range n).map (fun k => Val.int (i + d + d * Int.ofNat k)) := by
  rw [List.range_succ_eq_map, List.map_cons, List.map_map]
  congr 1
  · simp
  · apply List.map_congr_left
    exact fun k _ => congrArg Val.int (counter_succ i d k)

theorem execFor_eq_execEach (dir : Int) (count fuel : Nat) (i : Int) (st : St) :
    execFor cfg prog fuel ctx env x body i dir count st =
      execEach cfg prog fuel ctx env x body
        ((List.range count).map fun k => .int (i + dir * Int.ofNat k)) st := by
  induction count generalizing fuel i st with
  | zero => cases fuel <;> rw [execFor, List.range_zero, List.map_nil, execEach]
  | succ count ih =>
    cases fuel with
    | zero => rw [execFor, execEach]
    | succ fuel => rw [execFor, counterVals_succ, execEach]; simp only [ih]

theorem execWhile_eq_execEach (bound step : Int) (n fuel : Nat) (i : Int) (st : St)
    (hall : ∀ k : Nat, k < n → i + step * Int.ofNat k < bound)
    (hstop : ¬ (i + step * Int.ofNat n < bound)) :
    execWhile cfg prog fuel ctx env x body i bound step st =
      execEach cfg prog fuel ctx env x body
        ((List.range n).map fun k => .int (i + step * Int.ofNat k)) st := by
  induction n generalizing fuel i st with
  | zero =>
    have h0 : ¬ (i < bound) := by simpa using hstop
    cases fuel <;> rw [execWhile, List.range_zero, List.map_nil, execEach]
    rw [if_neg h0]
  | succ n ih =>
    have h0 : i < bound := by simpa using hall 0 (Nat.zero_lt_succ n)
    cases fuel with
    | zero => rw [execWhile, execEach]
    | succ fuel =>
      have ih' := fun st1 => ih fuel (i + step) st1
        (fun k hk => counter_succ i step k ▸ hall (k + 1) (Nat.succ_lt_succ hk))
        (counter_succ i step n ▸ hstop)
      rw [execWhile, if_pos h0, counterVals_succ, execEach]
      simp only [ih']

/-- `m` = fuel the body needs -/
theorem execEach_log {ev : Val → Event} {m : Nat}
    (hbody : ∀ fuel v st, ∃ st1,
      execStmts cfg prog (fuel + m) ctx ((x, v) :: env) body st = .ok () st1 ∧
        st1.log = st.log ++ [ev v])
    (vals : List Val) (fuel : Nat) (st : St) (hf : vals.length + m + 1 ≤ fuel) :
    ∃ st', execEach cfg prog fuel ctx env x body vals st = .ok () st' ∧
      st'.log = st.log ++ vals.map ev := by
  induction vals generalizing fuel st with
  | nil =>
    obtain ⟨f, rfl⟩ : ∃ f, fuel = f + 1 := ⟨fuel - 1, by omega⟩
    exact ⟨st, by rw [execEach], (List.append_nil _).symm⟩
  | cons v vs ih =>
    obtain ⟨f, rfl⟩ : ∃ f, fuel = f + m + 1 := ⟨fuel - m - 1, by rw [List.length_cons] at hf; omega⟩
    obtain ⟨st1, e1, l1⟩ := hbody f v st
    obtain ⟨st', e2, l2⟩ := ih (f + m) st1 (by rw [List.length_cons] at hf; omega)
    exact ⟨st', by rw [execEach, e1]; exact e2, by rw [l2, l1, List.append_assoc]; rfl⟩

theorem evalExpr_var_head (f : Nat) (l : Nat) (v : Val) (st : St) :
    evalExpr cfg prog (f + 1) ctx l ((x, v) :: env) (.var x) st = .ok v st := by
  rw [evalExpr]
  simp [lookupVar]

theorem execStmts_warn_var (hq : cfg.quiet = false) (hd : cfg.warnDedupBySpan = false)
    (l f : Nat) (v : Val) (st : St) :
    ∃ st1, execStmts cfg prog (f + 3) ctx ((x, v) :: env) (.cons (.warn l (.var x)) .nil) st
        = .ok () st1 ∧ st1.log = st.log ++ [⟨.warn, ctx.file, l, logText v⟩] := by
  refine ⟨st.doWarn cfg ctx.file l (logText v), ?_, ?_⟩
  · rw [execStmts, execStmt, hd, Bool.false_and, if_neg Bool.false_ne_true, evalExpr_var_head]
    simp only [execStmts]
  · simp only [St.doWarn, hq, Bool.false_eq_true, if_false]

theorem execStmts_debug_var (hq : cfg.quiet = false) (l f : Nat) (v : Val) (st : St) :
    ∃ st1, execStmts cfg prog (f + 3) ctx ((x, v) :: env) (.cons (.debug l (.var x)) .nil) st
        = .ok () st1 ∧ st1.log = st.log ++ [⟨.debug, ctx.file, l, logText v⟩] := by
  refine ⟨st.doDebug cfg ctx.file l (logText v), ?_, ?_⟩
  · rw [execStmts, execStmt, hq, if_neg Bool.false_ne_true, evalExpr_var_head]
    simp only [execStmts]
  · simp only [St.doDebug, hq, Bool.false_eq_true, if_false]

end Grass.Diag
