import Grass.CssTree
import GrassProofs.Lemmas.CssTreeBasic
import GrassProofs.Lemmas.CssTreeFinish
/- C04 on style rules and declarations (`rulesOnlyL`): `compile af = flattenSpec`, by the relation `Rel`. -/
namespace Grass.CssTree

theorem addRaw_length (t : Tree) (k : Kind) (p : Nat) : (addRaw t k p).1.length = t.length + 1 := by
  simp [addRaw]

theorem addRaw_snd (t : Tree) (k : Kind) (p : Nat) : (addRaw t k p).2 = t.length := rfl

theorem addRaw_get_new (t : Tree) (k : Kind) (p : Nat) :
    (addRaw t k p).1[t.length]? = some { stmt := some k, parent := some p, children := [] } := by
  simp [addRaw]

theorem addRaw_get_ne (t : Tree) (k : Kind) (p j : Nat) (hj : j < t.length) (hne : j ≠ p) :
    (addRaw t k p).1[j]? = t[j]? := by
  simp only [addRaw, List.getElem?_append, List.length_modify, hj, if_true, List.getElem?_modify]
  have : ¬ p = j := fun h => hne h.symm
  cases t[j]? <;> simp [this]

theorem addRaw_get_eq (t : Tree) (k : Kind) (p : Nat) (r : NodeRec) (hr : t[p]? = some r) :
    (addRaw t k p).1[p]? = some { r with children := r.children ++ [t.length] } := by
  have hp : p < t.length := lt_length_of_get _ _ _ hr
  simp only [addRaw, List.getElem?_append, List.length_modify, hp, if_true, List.getElem?_modify, hr]
  rfl

/-- `add_child` (css_tree.rs:104) in one equation per map. -/
theorem kindAt_addRaw (t : Tree) (k : Kind) (p j : Nat) :
    kindAt (addRaw t k p).1 j = if j = t.length then some k else kindAt t j := by
  unfold kindAt
  rcases Nat.lt_trichotomy j t.length with h | h | h
  · rw [if_neg (Nat.ne_of_lt h)]
    by_cases hne : j = p
    · subst hne
      have hr : t[j]? = some t[j] := by simp [h]
      simp [addRaw_get_eq t k j _ hr, hr]
    · rw [addRaw_get_ne t k p j h hne]
  · subst h; simp [addRaw_get_new]
  · rw [if_neg (Nat.ne_of_gt h), List.getElem?_eq_none (by rw [addRaw_length]; omega), List.getElem?_eq_none (by omega)]

theorem parentOf_addRaw (t : Tree) (k : Kind) (p j : Nat) :
    parentOf (addRaw t k p).1 j = if j = t.length then some p else parentOf t j := by
  unfold parentOf
  rcases Nat.lt_trichotomy j t.length with h | h | h
  · rw [if_neg (Nat.ne_of_lt h)]
    by_cases hne : j = p
    · subst hne
      have hr : t[j]? = some t[j] := by simp [h]
      simp [addRaw_get_eq t k j _ hr, hr]
    · rw [addRaw_get_ne t k p j h hne]
  · subst h; simp [addRaw_get_new]
  · rw [if_neg (Nat.ne_of_gt h), List.getElem?_eq_none (by rw [addRaw_length]; omega), List.getElem?_eq_none (by omega)]

theorem childrenOf_addRaw (t : Tree) (k : Kind) (p j : Nat) (hp : p < t.length) :
    childrenOf (addRaw t k p).1 j = if j = p then childrenOf t p ++ [t.length] else childrenOf t j := by
  unfold childrenOf
  by_cases hjp : j = p
  · subst hjp
    have hr : t[j]? = some t[j] := by simp [hp]
    simp [addRaw_get_eq t k j _ hr, hr]
  · rw [if_neg hjp]
    rcases Nat.lt_trichotomy j t.length with h | h | h
    · rw [addRaw_get_ne t k p j h hjp]
    · subst h; simp [addRaw_get_new]
    · rw [List.getElem?_eq_none (by rw [addRaw_length]; omega), List.getElem?_eq_none (by omega)]

theorem kindAt_addRaw_old (t : Tree) (k : Kind) (p j : Nat) (hj : j < t.length) :
    kindAt (addRaw t k p).1 j = kindAt t j := by
  rw [kindAt_addRaw, if_neg (Nat.ne_of_lt hj)]

theorem kindAt_addRaw_new (t : Tree) (k : Kind) (p : Nat) : kindAt (addRaw t k p).1 t.length = some k := by
  rw [kindAt_addRaw, if_pos rfl]

theorem parentOf_addRaw_old (t : Tree) (k : Kind) (p j : Nat) (hj : j < t.length) :
    parentOf (addRaw t k p).1 j = parentOf t j := by
  rw [parentOf_addRaw, if_neg (Nat.ne_of_lt hj)]

theorem parentOf_addRaw_new (t : Tree) (k : Kind) (p : Nat) : parentOf (addRaw t k p).1 t.length = some p := by
  rw [parentOf_addRaw, if_pos rfl]

theorem childrenOf_addRaw_parent (t : Tree) (k : Kind) (p : Nat) (hp : p < t.length) :
    childrenOf (addRaw t k p).1 p = childrenOf t p ++ [t.length] := by
  rw [childrenOf_addRaw t k p p hp, if_pos rfl]

theorem childrenOf_addRaw_other (t : Tree) (k : Kind) (p j : Nat) (hp : p < t.length) (hne : j ≠ p) :
    childrenOf (addRaw t k p).1 j = childrenOf t j := by
  rw [childrenOf_addRaw t k p j hp, if_neg hne]

theorem addRaw_dv (t : Tree) (k : Kind) (p j : Nat) (hj : j < t.length) : dv (addRaw t k p).1 j = dv t j := by
  simp [dv, kindAt_addRaw_old t k p j hj]

theorem wf_addRaw (t : Tree) (wf : Wf t) (k : Kind) (p : Nat)
    (h : (p = 0 ∧ ∃ sel, k = .rule sel) ∨ (0 < p ∧ (∃ S, kindAt t p = some (.rule S)) ∧ ∃ n v, k = .decl n v)) :
    Wf (addRaw t k p).1 := by
  have hpos := wf.pos
  have hp : p < t.length := by
    rcases h with ⟨rfl, _⟩ | ⟨_, ⟨S, hk⟩, _⟩
    · exact hpos
    · exact lt_length_of_kindAt t p _ hk
  have notp : ∀ c n' v' q cs, t[c]? = some { stmt := some (.decl n' v'), parent := q, children := cs } → c ≠ p := by
    intro c n' v' q cs hc hcp
    subst hcp
    have hkc : kindAt t c = some (.decl n' v') := by simp [kindAt, hc]
    rcases h with ⟨rfl, _⟩ | ⟨_, ⟨S, hk⟩, _⟩
    · rw [wf.root] at hkc; cases hkc
    · rw [hk] at hkc; cases hkc
  refine ⟨?_, by rw [addRaw_length]; omega, ?_⟩
  · rw [kindAt_addRaw_old t _ p 0 hpos]; exact wf.root
  · intro i r hi0 hr
    by_cases hi : i < t.length
    · by_cases hip : i = p
      · -- the parent: a style rule that gains a declaration leaf
        subst hip
        obtain ⟨_, _, n, v, rfl⟩ : 0 < i ∧ (∃ S, kindAt t i = some (.rule S)) ∧ ∃ n v, k = .decl n v := by
          rcases h with ⟨h0, _⟩ | h
          · omega
          · exact h
        have hri : t[i]? = some t[i] := by simp [hi]
        rw [addRaw_get_eq t _ i _ hri] at hr; injection hr with hr; subst hr
        rcases wf.node i _ hi0 hri with ⟨sel', hs, hpar, hch, hpw⟩ | ⟨n', v', p', hrec, _⟩
        · refine Or.inl ⟨sel', hs, hpar, ?_, ?_⟩
          · intro c hc
            simp only [List.mem_append, List.mem_singleton] at hc
            rcases hc with hc | hc
            · obtain ⟨h1, n', v', h2⟩ := hch c hc
              refine ⟨h1, n', v', ?_⟩
              rw [addRaw_get_ne t _ i c (lt_length_of_get _ _ _ h2) (notp c n' v' _ _ h2)]; exact h2
            · subst hc
              exact ⟨hi, n, v, addRaw_get_new t _ i⟩
          · rw [List.pairwise_append]
            refine ⟨hpw, by simp, ?_⟩
            intro a ha b hb
            simp only [List.mem_singleton] at hb; subst hb
            obtain ⟨_, n', v', h2⟩ := hch a ha
            exact lt_length_of_get _ _ _ h2
        · exact absurd rfl (notp i n' v' _ _ (hri.trans (congrArg some hrec)))
      · rw [addRaw_get_ne t _ p i hi hip] at hr
        rcases wf.node i r hi0 hr with ⟨sel', hs, hpar, hch, hpw⟩ | ⟨n', v', p', hrec, hp0', hpi, rp', hrp', hmem⟩
        · refine Or.inl ⟨sel', hs, hpar, ?_, hpw⟩
          intro c hc
          obtain ⟨h1, n', v', h2⟩ := hch c hc
          refine ⟨h1, n', v', ?_⟩
          rw [addRaw_get_ne t _ p c (lt_length_of_get _ _ _ h2) (notp c n' v' _ _ h2)]; exact h2
        · by_cases hpp : p' = p
          · subst hpp
            exact Or.inr ⟨n', v', p', hrec, hp0', hpi, _, addRaw_get_eq t _ p' rp' hrp', by simp [hmem]⟩
          · refine Or.inr ⟨n', v', p', hrec, hp0', hpi, rp', ?_, hmem⟩
            rw [addRaw_get_ne t _ p p' (by omega) hpp]; exact hrp'
    · -- the new node
      have hlen := lt_length_of_get _ _ _ hr
      rw [addRaw_length] at hlen
      have : i = t.length := by omega
      subst this
      rw [addRaw_get_new] at hr; injection hr with hr; subst hr
      rcases h with ⟨rfl, sel, rfl⟩ | ⟨hp0, _, n, v, rfl⟩
      · exact Or.inl ⟨sel, rfl, rfl, by simp, by simp⟩
      · exact Or.inr ⟨n, v, p, rfl, hp0, hp, _, addRaw_get_eq t _ p _ (List.getElem?_eq_getElem hp), by simp⟩

theorem viewEntry_addRaw_ne (t : Tree) (wf : Wf t) (k : Kind) (p j : Nat) (hj : j < t.length) (hjp : j ≠ p) :
    viewEntry (addRaw t k p).1 j = viewEntry t j := by
  unfold viewEntry
  rw [addRaw_get_ne t k p j hj hjp]
  cases hr : t[j]? with
  | none => rfl
  | some r =>
    simp only
    cases hst : r.stmt with
    | none => rfl
    | some kj =>
      cases kj with
      | rule sel' =>
        simp only
        congr 3
        apply List.map_congr_left
        intro c hc
        exact addRaw_dv t k p c (wf.child_lt j r (wf.pos_of_stmt j r _ hr hst) hr c hc)
      | decl n v => rfl
      | media q => rfl
      | supports q => rfl
      | unknown a b => rfl

theorem viewEntry_root (t : Tree) (h : kindAt t 0 = none) : viewEntry t 0 = none := by
  unfold viewEntry
  cases hr : t[0]? with
  | none => rfl
  | some r => simp [kindAt, hr] at h; simp [h]

theorem viewI_addRule (t : Tree) (wf : Wf t) (sel : SelList) :
    viewI (addRaw t (.rule sel) 0).1 = viewI t ++ [(t.length, sel, [])] := by
  unfold viewI
  rw [addRaw_length, List.range_succ, List.filterMap_append]
  congr 1
  · apply filterMap_congr'
    intro j hj
    have hj : j < t.length := by simpa using hj
    by_cases hj0 : j = 0
    · subst hj0
      rw [viewEntry_root t wf.root, viewEntry_root _ (by rw [kindAt_addRaw_old t _ 0 0 hj]; exact wf.root)]
    · exact viewEntry_addRaw_ne t wf _ 0 j hj hj0
  · simp [viewEntry, addRaw_get_new]

def ext (p : Nat) (ds : List (String × String)) (e : Nat × SelList × List (String × String)) :
    Nat × SelList × List (String × String) :=
  if e.1 = p then (e.1, e.2.1, e.2.2 ++ ds) else e

theorem ext_append (p : Nat) (a b : List (String × String)) (e : Nat × SelList × List (String × String)) :
    ext p b (ext p a e) = ext p (a ++ b) e := by
  unfold ext
  by_cases h : e.1 = p <;> simp [h]

theorem ext_nil (p : Nat) (e : Nat × SelList × List (String × String)) : ext p [] e = e := by
  obtain ⟨a, b, c⟩ := e
  unfold ext; by_cases h : a = p <;> simp [h]

theorem ext_ne (p : Nat) (ds : List (String × String)) (e : Nat × SelList × List (String × String)) (h : e.1 ≠ p) :
    ext p ds e = e := by simp [ext, h]

theorem viewEntry_fst (t : Tree) (j : Nat) (e : Nat × SelList × List (String × String))
    (h : viewEntry t j = some e) : e.1 = j := by
  unfold viewEntry at h
  cases hr : t[j]? with
  | none => simp [hr] at h
  | some r =>
    simp only [hr] at h
    cases hst : r.stmt with
    | none => simp [hst] at h
    | some k => cases k <;> simp [hst] at h <;> (subst h; rfl)

theorem viewI_addDecl (t : Tree) (wf : Wf t) (p : Nat) (S : SelList) (hp0 : 0 < p)
    (hk : kindAt t p = some (.rule S)) (n v : String) :
    viewI (addRaw t (.decl n v) p).1 = (viewI t).map (ext p [(n, v)]) := by
  obtain ⟨rp, hrp, hrps⟩ := get_of_kindAt t p _ hk
  have hplt := lt_length_of_get _ _ _ hrp
  have hdvnew : dv (addRaw t (.decl n v) p).1 t.length = (n, v) := by
    simp [dv, kindAt, addRaw_get_new]
  unfold viewI
  rw [addRaw_length, List.range_succ, List.filterMap_append, List.map_filterMap]
  have hlast : List.filterMap (viewEntry (addRaw t (.decl n v) p).1) [t.length] = [] := by
    simp [viewEntry, addRaw_get_new]
  rw [hlast, List.append_nil]
  apply filterMap_congr'
  intro j hj
  have hj : j < t.length := by simpa using hj
  by_cases hjp : j = p
  · subst hjp
    unfold viewEntry
    rw [addRaw_get_eq t _ j rp hrp, hrp]
    simp only [hrps, Option.map_some, ext, if_true, List.map_append, List.map_cons, List.map_nil, hdvnew]
    congr 4
    apply List.map_congr_left
    intro c hc
    exact addRaw_dv t _ j c (wf.child_lt j rp hp0 hrp c hc)
  · rw [viewEntry_addRaw_ne t wf _ p j hj hjp]
    cases he : viewEntry t j with
    | none => rfl
    | some e => rw [Option.map_some, ext_ne p _ e (by rw [viewEntry_fst t j e he]; exact hjp)]

/-! ### the style-rule fragment: `treeBuild` against `flattenSpec` -/

mutual
  def rulesOnly : Stmt → Bool
    | .decl _ => true
    | .rule _ body => rulesOnlyL body
    | _ => false
  def rulesOnlyL : Stmts → Bool
    | .nil => true
    | .cons s ss => rulesOnly s && rulesOnlyL ss
end

def sc (sel : Option SelList) : SCtx := { frames := [], sel := sel, exclStyle := false, inUnknown := false }
def vc (p : Option Nat) (sel : Option SelList) : VCtx :=
  { parent := p, styleRule := sel, atRootExcl := false, inUnknown := false, mq := none, mqSources := [] }

def toBlock (e : Nat × SelList × List (String × String)) : Block := { ctx := [], sel := some e.2.1, decls := e.2.2 }

def extO (p : Option Nat) (ds : List (String × String)) :
    Nat × SelList × List (String × String) → Nat × SelList × List (String × String) :=
  match p with
  | some p => ext p ds
  | none => id

def Coh (t : Tree) : Option Nat → Option SelList → Prop
  | none, none => True
  | some p, some S => 0 < p ∧ kindAt t p = some (.rule S)
  | _, _ => False

/-- Spec result `(ds, bs)` against the visitor's result on `t` with current parent `p`: the entry of `p`
    gains `ds`, the new entries (indices past `t`) are the blocks `bs`, everything else is as before. -/
def Rel (t : Tree) (p : Option Nat) : SpecRes → Except Err Tree → Prop
  | .error e, r => r = .error e
  | .ok (ds, bs), r => ∃ t', r = .ok t' ∧ Wf t' ∧ t.length ≤ t'.length ∧
      (∀ j, j < t.length → kindAt t' j = kindAt t j) ∧
      ∃ new, viewI t' = (viewI t).map (extO p ds) ++ new ∧ new.map toBlock = bs ∧ ∀ e ∈ new, t.length ≤ e.1

theorem viewI_idx_lt (t : Tree) : ∀ e ∈ viewI t, e.1 < t.length := by
  intro e he
  simp only [viewI, List.mem_filterMap, List.mem_range] at he
  obtain ⟨j, hj, h⟩ := he
  rw [viewEntry_fst t j e h]; exact hj

def bindT (b : Except Err Tree) (k : Tree → Except Err Tree) : Except Err Tree :=
  match b with
  | .error e => .error e
  | .ok t => k t

theorem extO_nil (p : Option Nat) (e : Nat × SelList × List (String × String)) : extO p [] e = e := by
  cases p <;> simp [extO, ext_nil]

theorem extO_append (p : Option Nat) (a b : List (String × String)) (e : Nat × SelList × List (String × String)) :
    extO p b (extO p a e) = extO p (a ++ b) e := by
  cases p <;> simp [extO, ext_append]

theorem coh_lt (t : Tree) (p : Nat) (sel : Option SelList) (h : Coh t (some p) sel) : p < t.length := by
  cases sel with
  | none => exact absurd h (by simp [Coh])
  | some S => exact lt_length_of_kindAt t p _ h.2

theorem coh_of_kindAt_eq (t t1 : Tree) (p : Option Nat) (sel : Option SelList) (h : Coh t p sel)
    (hk : ∀ j, j < t.length → kindAt t1 j = kindAt t j) : Coh t1 p sel := by
  cases p with
  | none => cases sel <;> exact h
  | some q =>
    cases sel with
    | none => exact absurd h (by simp [Coh])
    | some S => exact ⟨h.1, by rw [hk q (coh_lt t q _ h)]; exact h.2⟩

theorem extO_new (t : Tree) (p : Option Nat) (sel : Option SelList) (h : Coh t p sel) (ds : List (String × String))
    (new : List (Nat × SelList × List (String × String))) (hn : ∀ e ∈ new, t.length ≤ e.1) :
    new.map (extO p ds) = new := by
  cases p with
  | none => simp [extO]
  | some p =>
    have := coh_lt t p sel h
    simp only [extO]
    conv => rhs; rw [← List.map_id new]
    apply List.map_congr_left
    intro e he
    have := hn e he
    exact ext_ne p ds e (by omega)

theorem addDecls_frag (p : Nat) (S : SelList) (hp0 : 0 < p) :
    ∀ (ds : List (String × String)) (t : Tree), Wf t → kindAt t p = some (.rule S) →
      Wf (addDecls t (some p) ds) ∧ t.length ≤ (addDecls t (some p) ds).length ∧
      (∀ j, j < t.length → kindAt (addDecls t (some p) ds) j = kindAt t j) ∧
      viewI (addDecls t (some p) ds) = (viewI t).map (ext p ds)
  | [], t, wf, _ => ⟨wf, Nat.le_refl _, fun _ _ => rfl, by
      simp only [addDecls]; exact (map_eq_self _ _ (fun e _ => ext_nil p e)).symm⟩
  | (n, v) :: ds, t, wf, hk => by
    have wf1 := wf_addRaw t wf (.decl n v) p (Or.inr ⟨hp0, ⟨S, hk⟩, n, v, rfl⟩)
    have hp := lt_length_of_kindAt t p _ hk
    have hk1 : kindAt (addRaw t (.decl n v) p).1 p = some (.rule S) := by rw [kindAt_addRaw_old t _ p p hp]; exact hk
    obtain ⟨w, l, kk, vv⟩ := addDecls_frag p S hp0 ds (addRaw t (.decl n v) p).1 wf1 hk1
    simp only [addDecls, addStmt, Option.getD_some]
    refine ⟨w, ?_, ?_, ?_⟩
    · rw [addRaw_length] at l; omega
    · intro j hj
      rw [kk j (by rw [addRaw_length]; omega), kindAt_addRaw_old t _ p j hj]
    · rw [vv, viewI_addDecl t wf p S hp0 hk n v, List.map_map]
      apply List.map_congr_left
      intro e _
      simp [Function.comp, ext_append]

theorem climb_zero (t : Tree) (th : Through) : ∀ f, climb t th f 0 = 0
  | 0 => rfl
  | f + 1 => by simp [climb]

/-- ROOT has no siblings, so neither variant of the following-sibling test fires. -/
theorem addChild_root (deep : Bool) (t : Tree) (p : Nat) (k : Kind) (th : Through) (hpos : 0 < t.length)
    (h : climb t th t.length p = 0) : addChild deep t (some p) k th = addRaw t k 0 := by
  cases p with
  | zero => rfl
  | succ p' =>
    have hanc : ancestorsOf t t.length 0 = [] := by
      obtain ⟨f, hf⟩ : ∃ f, t.length = f + 1 := ⟨t.length - 1, by omega⟩
      rw [hf]; simp [ancestorsOf]
    simp only [addChild, h]
    cases deep with
    | true => simp [addRawDeep, hanc]
    | false => simp [hasFollowingSibling]

theorem climb_rule_root (t : Tree) (wf : Wf t) (q : Nat) (S : SelList) (hq0 : 0 < q)
    (hk : kindAt t q = some (.rule S)) : climb t .styleRule t.length q = 0 := by
  obtain ⟨r, hr, hst⟩ := get_of_kindAt t q _ hk
  have hpar : parentOf t q = some 0 := by
    rcases wf.node q r hq0 hr with ⟨_, _, hp, _⟩ | ⟨n, v, p', hrec, _⟩
    · simp [parentOf, hr, hp]
    · rw [hrec] at hst; cases hst
  obtain ⟨f, hf⟩ : ∃ f, t.length = f + 1 := ⟨t.length - 1, by have := wf.pos; omega⟩
  obtain ⟨q', rfl⟩ : ∃ q', q = q' + 1 := ⟨q - 1, by omega⟩
  rw [hf]
  simp [climb, hk, hpar, Through.test, climb_zero]

theorem addChild_frag (deep : Bool) (t : Tree) (wf : Wf t) (p : Option Nat) (sel : Option SelList)
    (h : Coh t p sel) (k : Kind) : addChild deep t p k .styleRule = addRaw t k 0 := by
  cases p with
  | none => rfl
  | some q =>
    cases sel with
    | none => exact absurd h (by simp [Coh])
    | some S => exact addChild_root deep t q k .styleRule wf.pos (climb_rule_root t wf q S h.1 h.2)

theorem rel_seq (t : Tree) (p : Option Nat) (sel : Option SelList) (hc : Coh t p sel)
    (r1 r2 : SpecRes) (b1 : Except Err Tree) (k : Tree → Except Err Tree)
    (h1 : Rel t p r1 b1)
    (h2 : ∀ t1, b1 = .ok t1 → Wf t1 → t.length ≤ t1.length → (∀ j, j < t.length → kindAt t1 j = kindAt t j) →
            Rel t1 p r2 (k t1)) :
    Rel t p (seqRes r1 r2) (bindT b1 k) := by
  cases r1 with
  | error e =>
    simp only [Rel] at h1
    subst h1
    simp [seqRes, Rel, bindT]
  | ok x =>
    obtain ⟨d1, bs1⟩ := x
    obtain ⟨t1, hb, wf1, l1, k1, n1, v1, m1, i1⟩ := h1
    subst hb
    have h2' := h2 t1 rfl wf1 l1 k1
    cases r2 with
    | error e =>
      simp only [Rel] at h2'
      simp [seqRes, Rel, bindT, h2']
    | ok y =>
      obtain ⟨d2, bs2⟩ := y
      obtain ⟨t2, hb2, wf2, l2, k2, n2, v2, m2, i2⟩ := h2'
      refine ⟨t2, by simpa [bindT] using hb2, wf2, by omega, ?_, n1 ++ n2, ?_, ?_, ?_⟩
      · intro j hj
        rw [k2 j (by omega), k1 j hj]
      · rw [v2, v1, List.map_append, List.map_map, extO_new t p sel hc d2 n1 i1, List.append_assoc]
        congr 1
        apply List.map_congr_left
        intro e _
        simp [Function.comp, extO_append]
      · simp [m1, m2]
      · intro e he
        simp only [List.mem_append] at he
        rcases he with he | he
        · exact i1 e he
        · have := i2 e he; omega

mutual
  theorem stmt_rel (af : AsFound) : ∀ (s : Stmt), rulesOnly s = true →
      ∀ (t : Tree) (p : Option Nat) (sel : Option SelList), Wf t → Coh t p sel →
        Rel t p (specStmt (sc sel) s) (visitStmt af (vc p sel) t s)
    | .decl d, _, t, p, sel, wf, hc => by
      cases p with
      | none =>
        cases sel with
        | some S => exact absurd hc (by simp [Coh])
        | none => simp [specStmt, visitStmt, sc, vc, SCtx.ruleHere, VCtx.styleRuleExists, Rel]
      | some q =>
        cases sel with
        | none => exact absurd hc (by simp [Coh])
        | some S =>
          obtain ⟨hq0, hk⟩ := hc
          obtain ⟨w, l, kk, vv⟩ := addDecls_frag q S hq0 (declSpec [] d) t wf hk
          simp only [specStmt, visitStmt, sc, vc, SCtx.ruleHere, VCtx.styleRuleExists, Option.isSome_some,
            Bool.not_false, Bool.and_self, Bool.or_false, if_true, Bool.not_true, Bool.false_eq_true, if_false,
            Bool.false_and, Rel, visitDecl_none]
          exact ⟨_, rfl, w, l, kk, [], by simp [vv, extO], rfl, by simp⟩
    | .rule sel0 body, hro, t, p, sel, wf, hc => by
      simp only [rulesOnly] at hro
      simp only [specStmt, visitStmt, sc, vc, Bool.not_false]
      cases hres : resolveList sel true sel0 with
      | error e => simp [Rel]
      | ok sel' =>
        simp only
        rw [addChild_frag _ t wf p sel hc]
        have wf1 := wf_addRaw t wf (.rule sel') 0 (Or.inl ⟨rfl, sel', rfl⟩)
        have hc1 : Coh (addRaw t (.rule sel') 0).1 (some t.length) (some sel') :=
          ⟨wf.pos, by simp [kindAt, addRaw_get_new]⟩
        have ih := stmts_rel af body hro (addRaw t (.rule sel') 0).1 (some t.length) (some sel') wf1 hc1
        simp only [sc, vc] at ih
        cases hsp : specStmts { frames := [], sel := some sel', exclStyle := false, inUnknown := false } body with
        | error e =>
          rw [hsp] at ih
          simp only [Rel] at ih
          simp only [addRaw_snd]
          simp [wrapBlock, Rel, ih]
        | ok x =>
          obtain ⟨ds', bs'⟩ := x
          rw [hsp] at ih
          obtain ⟨t', hb, wf', l', k', new', v', m', i'⟩ := ih
          simp only [addRaw_snd, wrapBlock, Rel]
          refine ⟨t', hb, wf', by rw [addRaw_length] at l'; omega, ?_, (t.length, sel', ds') :: new', ?_, ?_, ?_⟩
          · intro j hj
            rw [k' j (by rw [addRaw_length]; omega), kindAt_addRaw_old t _ 0 j hj]
          · have e1 : (viewI t).map (extO (some t.length) ds') = viewI t := by
              apply map_eq_self
              intro e he
              have := viewI_idx_lt t e he
              exact ext_ne _ _ e (by omega)
            have e2 : (viewI t).map (extO p []) = viewI t := map_eq_self _ _ (fun e _ => extO_nil p e)
            have e3 : [(t.length, sel', ([] : List (String × String)))].map (extO (some t.length) ds')
                = [(t.length, sel', ds')] := by simp [extO, ext]
            rw [v', viewI_addRule t wf sel', List.map_append, e1, e2, e3]
            simp
          · simp [toBlock, m', SCtx.home, SCtx.ruleHere]
          · intro e he
            simp only [List.mem_cons] at he
            rcases he with rfl | he
            · exact Nat.le_refl _
            · have := i' e he; rw [addRaw_length] at this; omega
    | .media _ _, h, _, _, _, _, _ => by simp [rulesOnly] at h
    | .supports _ _, h, _, _, _, _, _ => by simp [rulesOnly] at h
    | .unknown _ _ _, h, _, _, _, _, _ => by simp [rulesOnly] at h
    | .atroot _ _, h, _, _, _, _, _ => by simp [rulesOnly] at h
  theorem stmts_rel (af : AsFound) : ∀ (ss : Stmts), rulesOnlyL ss = true →
      ∀ (t : Tree) (p : Option Nat) (sel : Option SelList), Wf t → Coh t p sel →
        Rel t p (specStmts (sc sel) ss) (visitStmts af (vc p sel) t ss)
    | .nil, _, t, p, sel, wf, hc => by
      simp only [specStmts, visitStmts, Rel]
      refine ⟨t, rfl, wf, Nat.le_refl _, fun _ _ => rfl, [], ?_, rfl, by simp⟩
      simp only [List.append_nil]
      exact (map_eq_self _ _ (fun e _ => extO_nil p e)).symm
    | .cons s ss, hro, t, p, sel, wf, hc => by
      simp only [rulesOnlyL, Bool.and_eq_true] at hro
      simp only [specStmts, visitStmts]
      show Rel t p _ (bindT (visitStmt af (vc p sel) t s) (fun t' => visitStmts af (vc p sel) t' ss))
      apply rel_seq t p sel hc
      · exact stmt_rel af s hro.1 t p sel wf hc
      · intro t1 _ wf1 l1 k1
        exact stmts_rel af ss hro.2 t1 p sel wf1 (coh_of_kindAt_eq t t1 p sel hc k1)
end


/-! ### observation of a fragment tree -/

theorem declsIn_snoc_decl (n v : String) : ∀ b : CssList,
    declsIn (b.snoc (.mk (.decl n v) .nil)) = declsIn b ++ [(n, v)]
  | .nil => by simp [CssList.snoc, declsIn]
  | .cons (.mk k body) cs => by
    have := declsIn_snoc_decl n v cs
    cases k <;> simp [CssList.snoc, declsIn, this]

theorem declsIn_snocDecls : ∀ (ds : List (String × String)) (b : CssList),
    declsIn (snocDecls b ds) = declsIn b ++ ds
  | [], b => by simp [snocDecls]
  | (n, v) :: ds, b => by
    simp [snocDecls, declsIn_snocDecls ds, declsIn_snoc_decl]

theorem blocksOfList_snoc_decl (ctx : List Kind) (n v : String) : ∀ b : CssList,
    blocksOfList ctx (b.snoc (.mk (.decl n v) .nil)) = blocksOfList ctx b
  | .nil => by simp [CssList.snoc, blocksOfList, blocksOf]
  | .cons c cs => by
    simp [CssList.snoc, blocksOfList, blocksOfList_snoc_decl ctx n v cs]

theorem blocksOfList_snocDecls (ctx : List Kind) : ∀ (ds : List (String × String)) (b : CssList),
    blocksOfList ctx (snocDecls b ds) = blocksOfList ctx b
  | [], b => by simp [snocDecls]
  | (n, v) :: ds, b => by
    simp [snocDecls, blocksOfList_snocDecls ctx ds, blocksOfList_snoc_decl]

theorem blocksTopRules_entries (l : List (Nat × SelList × List (String × String))) :
    blocksTopRules (l.map entryCss) = l.map toBlock ∧ topDecls (l.map entryCss) = [] := by
  induction l with
  | nil => simp [blocksTopRules, topDecls]
  | cons e es ih =>
    simp only [List.map_cons, blocksTopRules, entryCss, blocksOf, topDecls, ih.1, ih.2, declsIn_snocDecls,
      blocksOfList_snocDecls, blocksOfList, declsIn, toBlock]
    simp

theorem observeTree_wf (t : Tree) (wf : Wf t) :
    observeTree t = .ok (((viewI t).map toBlock).filter Block.nonEmpty) := by
  unfold observeTree
  rw [finish_wf t wf]
  simp only
  rw [blocksTop_emitTop]
  have := blocksTopRules_entries (viewI t)
  simp [blocksTop, this.1, this.2, Block.nonEmpty]

theorem wf_init : Wf Tree.init := by
  refine ⟨rfl, by simp [Tree.init], ?_⟩
  intro i r hi hr
  simp only [Tree.init] at hr
  rw [List.getElem?_eq_none (by simp; omega)] at hr
  cases hr

theorem viewI_init : viewI Tree.init = [] := by
  simp [viewI, viewEntry, Tree.init, List.range_succ]

theorem compile_eq_flattenSpec_rules (af : AsFound) (src : Stmts) (h : rulesOnlyL src = true) :
    compile af src = flattenSpec src := by
  have rel := stmts_rel af src h Tree.init none none wf_init trivial
  unfold compile treeBuild flattenSpec
  change Rel Tree.init none (specStmts SCtx.init src) (visitStmts af VCtx.init Tree.init src) at rel
  cases hs : specStmts SCtx.init src with
  | error e =>
    rw [hs] at rel
    simp only [Rel] at rel
    rw [rel]; rfl
  | ok x =>
    obtain ⟨ds, bs⟩ := x
    rw [hs] at rel
    obtain ⟨t', hb, wf', _, _, new, v, m, _⟩ := rel
    rw [hb]
    simp only [observe]
    rw [observeTree_wf t' wf', v, viewI_init]
    simp [m]

def declStmts : Decls → Stmts
  | .nil => .nil
  | .cons d ds => .cons (.decl d) (declStmts ds)

theorem rulesOnlyL_declStmts : ∀ ds : Decls, rulesOnlyL (declStmts ds) = true
  | .nil => rfl
  | .cons d ds => by simp [declStmts, rulesOnlyL, rulesOnly, rulesOnlyL_declStmts ds]

theorem specStmts_declStmts (c : SCtx) (h : (c.ruleHere || c.inUnknown) = true) : ∀ ds : Decls,
    specStmts c (declStmts ds) = .ok (declsSpec [] ds, [])
  | .nil => by simp [declStmts, specStmts, declsSpec]
  | .cons d ds => by
    simp [declStmts, specStmts, specStmt, h, specStmts_declStmts c h ds, seqRes, declsSpec]

end Grass.CssTree
