import Grass.CssTree
/- C04: nested property names; skipping invisible statements does not change the observation. -/
namespace Grass.CssTree

theorem joinDash_snoc (path : List String) (n : String) (h : path ≠ []) :
    joinDash (path ++ [n]) = joinDash path ++ "-" ++ n := by
  induction path with
  | nil => exact absurd rfl h
  | cons a rest ih =>
    cases rest with
    | nil => simp [joinDash]
    | cons b rest' =>
      have := ih (by simp)
      simp only [List.cons_append, joinDash] at *
      rw [this]
      simp [String.append_assoc]

mutual
  theorem visitDecl_eq (path : List String) (hp : path ≠ []) (d : Decl) :
      visitDecl (some (joinDash path)) d = declSpec path d := by
    cases d with
    | mk n v body =>
      simp only [visitDecl, declSpec]
      rw [joinDash_snoc path n hp]
      have := visitDecls_eq (path ++ [n]) (by simp) body
      rw [joinDash_snoc path n hp] at this
      rw [this]
  theorem visitDecls_eq (path : List String) (hp : path ≠ []) (ds : Decls) :
      visitDecls (some (joinDash path)) ds = declsSpec path ds := by
    cases ds with
    | nil => simp [visitDecls, declsSpec]
    | cons d ds =>
      simp only [visitDecls, declsSpec]
      rw [visitDecl_eq path hp d, visitDecls_eq path hp ds]
end

theorem visitDecl_none (d : Decl) : visitDecl none d = declSpec [] d := by
  cases d with
  | mk n v body =>
    simp only [visitDecl, declSpec, List.nil_append]
    have := visitDecls_eq [n] (by simp) body
    simp only [joinDash] at this
    rw [this]
    simp [joinDash]

theorem filter_nonEmpty_cons_empty (ctx : List Kind) (sel : Option SelList) (l : List Block) :
    ({ ctx := ctx, sel := sel, decls := [] } :: l : List Block).filter Block.nonEmpty = l.filter Block.nonEmpty := by
  simp [List.filter, Block.nonEmpty]

theorem blocksOf_node (ctx : List Kind) (k : Kind) (hk : ∀ n v, k ≠ .decl n v) :
    ∃ (c' : List Kind) (s' : Option SelList), ∀ body,
      blocksOf ctx (.mk k body) = { ctx := c', sel := s', decls := declsIn body } :: blocksOfList (ctx ++ [k]) body := by
  cases k with
  | decl n v => exact absurd rfl (hk n v)
  | rule sel => exact ⟨_, _, fun _ => rfl⟩
  | media qs => exact ⟨_, _, fun _ => rfl⟩
  | supports c => exact ⟨_, _, fun _ => rfl⟩
  | unknown n p => exact ⟨_, _, fun _ => rfl⟩

theorem body_of_invisible (k : Kind) (body : CssList) (h : isInvisible (.mk k body) = true) :
    allInvisible body = true ∧ ∀ n v, k ≠ .decl n v := by
  cases k <;> simp_all [isInvisible]

mutual
  theorem invisible_blocks (ctx : List Kind) (c : Css) (h : isInvisible c = true) :
      (blocksOf ctx c).filter Block.nonEmpty = [] := by
    cases c with
    | mk k body =>
      obtain ⟨hb, hk⟩ := body_of_invisible k body h
      obtain ⟨c', s', e⟩ := blocksOf_node ctx k hk
      have := allInvisible_blocks (ctx ++ [k]) body hb
      rw [e, this.2, filter_nonEmpty_cons_empty, this.1]
  theorem allInvisible_blocks (ctx : List Kind) (cs : CssList) (h : allInvisible cs = true) :
      (blocksOfList ctx cs).filter Block.nonEmpty = [] ∧ declsIn cs = [] := by
    cases cs with
    | nil => simp [blocksOfList, declsIn]
    | cons c cs =>
      simp only [allInvisible, Bool.and_eq_true] at h
      have h1 := invisible_blocks ctx c h.1
      have h2 := allInvisible_blocks ctx cs h.2
      refine ⟨by simp [blocksOfList, List.filter_append, h1, h2.1], ?_⟩
      cases c with
      | mk k body =>
        cases k <;> simp_all [declsIn, isInvisible]
end

mutual
  theorem emit_invisible (c : Css) : isInvisible (emit c) = isInvisible c := by
    cases c with
    | mk k body =>
      cases k <;> simp only [emit, isInvisible, emitList_allInvisible body]
  theorem emitList_allInvisible (cs : CssList) : allInvisible (emitList cs) = allInvisible cs := by
    cases cs with
    | nil => simp [emitList]
    | cons c cs =>
      simp only [emitList]
      by_cases h : isInvisible c = true
      · simp [h, allInvisible, emitList_allInvisible cs]
      · simp [h, allInvisible, emitList_allInvisible cs, emit_invisible c]
end

theorem declsIn_cons_invisible (c : Css) (cs : CssList) (h : isInvisible c = true) :
    declsIn (.cons c cs) = declsIn cs := by
  cases c with
  | mk k body => cases k <;> simp_all [declsIn, isInvisible]

mutual
  theorem emit_blocks (ctx : List Kind) (c : Css) :
      (blocksOf ctx (emit c)).filter Block.nonEmpty = (blocksOf ctx c).filter Block.nonEmpty := by
    cases c with
    | mk k body =>
      by_cases hk : ∀ n v, k ≠ .decl n v
      · obtain ⟨c', s', e⟩ := blocksOf_node ctx k hk
        have := emitList_blocks (ctx ++ [k]) body
        simp only [emit, e, List.filter_cons, this.1, this.2]
      · cases k <;> simp_all [emit, blocksOf]
  theorem emitList_blocks (ctx : List Kind) (cs : CssList) :
      (blocksOfList ctx (emitList cs)).filter Block.nonEmpty = (blocksOfList ctx cs).filter Block.nonEmpty
      ∧ declsIn (emitList cs) = declsIn cs := by
    cases cs with
    | nil => simp [emitList]
    | cons c cs =>
      have ih := emitList_blocks ctx cs
      simp only [emitList]
      by_cases h : isInvisible c = true
      · simp only [h, if_true, blocksOfList, List.filter_append, invisible_blocks ctx c h, List.nil_append,
          declsIn_cons_invisible c cs h]
        exact ih
      · simp only [h, Bool.false_eq_true, if_false, blocksOfList, List.filter_append, emit_blocks ctx c, ih.1, true_and]
        cases c with
        | mk k body => cases k <;> simp [declsIn, emit, ih.2]
end

theorem emitTop_blocks (cs : List Css) :
    (blocksTopRules (emitTop cs)).filter Block.nonEmpty = (blocksTopRules cs).filter Block.nonEmpty
    ∧ topDecls (emitTop cs) = topDecls cs := by
  induction cs with
  | nil => simp [emitTop]
  | cons c cs ih =>
    simp only [emitTop]
    by_cases h : isInvisible c = true
    · simp only [h, if_true, blocksTopRules, List.filter_append, invisible_blocks [] c h, List.nil_append]
      refine ⟨ih.1, ?_⟩
      rw [ih.2]
      cases c with
      | mk k body => cases k <;> simp_all [topDecls, isInvisible]
    · simp only [h, Bool.false_eq_true, if_false, blocksTopRules, List.filter_append, emit_blocks [] c, ih.1, true_and]
      cases c with
      | mk k body => cases k <;> simp [topDecls, emit, ih.2]

theorem emitTop_visible (cs : List Css) : ∀ c ∈ emitTop cs, isInvisible c = false := by
  induction cs with
  | nil => simp [emitTop]
  | cons c cs ih =>
    simp only [emitTop]
    by_cases h : isInvisible c = true
    · simpa [h] using ih
    · simp only [h, Bool.false_eq_true, if_false, List.mem_cons]
      intro x hx
      rcases hx with rfl | hx
      · rw [emit_invisible]; simpa using h
      · exact ih x hx

theorem blocksTop_emitTop (cs : List Css) : blocksTop (emitTop cs) = blocksTop cs := by
  have := emitTop_blocks cs
  simp only [blocksTop, List.filter_cons, this.1, this.2]

/-! ### nothing written is an empty block -/

def isNilL : CssList → Bool | .nil => true | .cons _ _ => false
/-- statements that are only written when something visible is inside (css.rs:54) -/
def needsBody : Kind → Bool | .rule _ => true | .media _ => true | .supports _ => true | _ => false

mutual
  def noEmptyBlock : Css → Bool
    | .mk k body => !(needsBody k && isNilL body) && noEmptyBlockL body
  def noEmptyBlockL : CssList → Bool
    | .nil => true
    | .cons c cs => noEmptyBlock c && noEmptyBlockL cs
end

theorem emitList_nonempty : ∀ body : CssList, allInvisible body = false → isNilL (emitList body) = false
  | .nil, h => by simp [allInvisible] at h
  | .cons c cs, h => by
    simp only [allInvisible] at h
    by_cases hc : isInvisible c = true
    · simp only [hc, Bool.true_and] at h
      simp only [emitList, hc, if_true]
      exact emitList_nonempty cs h
    · have hc' : isInvisible c = false := by simpa using hc
      simp only [emitList, hc', Bool.false_eq_true, if_false]
      rfl

mutual
  theorem emit_noEmpty : ∀ c : Css, isInvisible c = false → noEmptyBlock (emit c) = true
    | .mk k body, h => by
      simp only [emit, noEmptyBlock, Bool.and_eq_true, Bool.not_eq_true']
      refine ⟨?_, emitList_noEmpty body⟩
      cases k with
      | rule sel => simp only [isInvisible] at h; simp [needsBody, emitList_nonempty body h]
      | decl n v => simp [needsBody]
      | media q => simp only [isInvisible] at h; simp [needsBody, emitList_nonempty body h]
      | supports q => simp only [isInvisible] at h; simp [needsBody, emitList_nonempty body h]
      | unknown a b => simp [needsBody]
  theorem emitList_noEmpty : ∀ body : CssList, noEmptyBlockL (emitList body) = true
    | .nil => by simp [emitList, noEmptyBlockL]
    | .cons c cs => by
      by_cases hc : isInvisible c = true
      · simp only [emitList, hc, if_true]; exact emitList_noEmpty cs
      · have hc' : isInvisible c = false := by simpa using hc
        simp only [emitList, hc', Bool.false_eq_true, if_false, noEmptyBlockL, Bool.and_eq_true]
        exact ⟨emit_noEmpty c hc', emitList_noEmpty cs⟩
end

end Grass.CssTree
