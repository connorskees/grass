import Grass.Selector
/-
  Matching and unification: `unifyX s comp = some r` matches exactly where `s` and `comp` both match
  (`_sem`); `= none` comes from a type, id or pseudo-element clash, where nothing matches both (`_none`).
-/
namespace Grass.Selector

theorem all_congr_mem {α : Type} {f g : α → Bool} {l : List α} (h : ∀ x ∈ l, f x = g x) : l.all f = l.all g := by
  induction l with
  | nil => rfl
  | cons x xs ih => simp only [List.all_cons, h x (by simp), ih fun y hy => h y (by simp [hy])]

theorem any_congr_mem {α : Type} {f g : α → Bool} {l : List α} (h : ∀ x ∈ l, f x = g x) : l.any f = l.any g := by
  induction l with
  | nil => rfl
  | cons x xs ih => simp only [List.any_cons, h x (by simp), ih fun y hy => h y (by simp [hy])]

theorem mComp_eq_all (c : Compound) (p : Ctx) : mComp c p = c.all (fun s => mSimple s p) := by
  induction c with
  | nil => simp [mComp]
  | cons s ss ih => simp [mComp, ih]

theorem mArgs_eq_any (l : List RComplex) (p : Ctx) :
    mArgs l p = l.any (fun r => mComp r.1 p && mSteps r.2 p) := by
  induction l with
  | nil => simp [mArgs]
  | cons r rs ih => obtain ⟨t, rest⟩ := r; simp [mArgs, ih]

theorem mComp_append (a b : Compound) (p : Ctx) : mComp (a ++ b) p = (mComp a p && mComp b p) := by
  simp [mComp_eq_all, List.all_append]

theorem mComp_mem {c : Compound} {p : Ctx} (h : mComp c p = true) {s : Simple} (hs : s ∈ c) :
    mSimple s p = true := by
  rw [mComp_eq_all] at h
  exact (List.all_eq_true.1 h) s hs

theorem noSelC_mem {c : Compound} (h : noSelC c = true) {s : Simple} (hs : s ∈ c) : s.isSel = false := by
  simpa using (List.all_eq_true.1 h) s hs

theorem noSelC_of_mem {X : Complex} (hX : noSelX X = true) {c : Compound} (hc : Component.compound c ∈ X) :
    noSelC c = true := by
  simpa using (List.all_eq_true.1 hX) _ hc

theorem mSimple_sel {k : PName} (hk : k ≠ .not) (arg : List RComplex) (p : Ctx) :
    mSimple (.sel k arg) p = mArgs arg p := by
  cases k <;> first | exact absurd rfl hk | rfl

theorem simpleSuperOfCompound_sound (s : Simple) (B : Compound) (p : Ctx)
    (h : simpleSuperOfCompound s B = true) (hB : mComp B p = true) : mSimple s p = true := by
  unfold simpleSuperOfCompound at h
  rw [List.any_eq_true] at h
  obtain ⟨t, ht, h⟩ := h
  have htp := mComp_mem hB ht
  rw [Bool.or_eq_true] at h
  rcases h with h | h
  · have : s = t := by simpa using h
    subst this; exact htp
  · cases t with
    | sel k arg =>
      simp only [Bool.and_eq_true, List.all_eq_true] at h
      obtain ⟨hk, harg⟩ := h
      rw [mSimple_sel (by simpa using hk), mArgs_eq_any, List.any_eq_true] at htp
      obtain ⟨r, hr, hrm⟩ := htp
      have := harg r hr
      simp only [Bool.and_eq_true, List.contains_iff_mem] at this hrm
      exact mComp_mem hrm.1 (by simpa using this.2)
    | _ => simp at h

/-! ### unification -/

theorem insertBeforePseudo_sem (s : Simple) (p : Ctx) :
    ∀ (comp : Compound) (added : Bool),
      mComp (insertBeforePseudo s comp added) p = ((added || mSimple s p) && mComp comp p) := by
  intro comp
  induction comp with
  | nil => intro added; cases added <;> simp [insertBeforePseudo, mComp]
  | cons t rest ih =>
    intro added
    unfold insertBeforePseudo
    split
    · rename_i h
      simp only [Bool.and_eq_true, Bool.not_eq_true'] at h
      simp [mComp, ih, h.1]
    · simp only [mComp, ih]
      cases added <;> cases mSimple s p <;> cases mSimple t p <;> simp

theorem insertBeforePseudo_ne_nil (s : Simple) : ∀ (comp : Compound), insertBeforePseudo s comp false ≠ [] := by
  intro comp
  cases comp with
  | nil => simp [insertBeforePseudo]
  | cons t rest => unfold insertBeforePseudo; split <;> simp

/-- `s` ends up in the result unless it counted as added already and no pseudo-element follows -/
theorem pseudoLoop_sem (s : Simple) (p : Ctx) :
    ∀ (comp : Compound) (added : Bool) (r : Compound), pseudoLoop s comp added = some r →
      mComp r p = (((added && !comp.any Simple.isPelem) || mSimple s p) && mComp comp p) := by
  intro comp
  induction comp with
  | nil =>
    intro added r h
    cases added <;> simp [pseudoLoop] at h <;> subst h <;> simp [mComp]
  | cons t rest ih =>
    intro added r h
    rw [pseudoLoop] at h
    split at h
    · rename_i ht
      split at h
      · cases h
      · obtain ⟨r', hr, rfl⟩ := Option.map_eq_some_iff.1 h
        rw [mComp, mComp, ih true r' hr, List.any_cons, ht]
        cases mSimple s p <;> simp [mComp]
    · rename_i ht
      obtain ⟨r', hr, rfl⟩ := Option.map_eq_some_iff.1 h
      have ht : t.isPelem = false := by simpa using ht
      rw [mComp, ih added r' hr, List.any_cons, ht, Bool.false_or, mComp, Bool.and_left_comm]

theorem pseudoLoop_ne_nil (s : Simple) (comp r : Compound) (h : pseudoLoop s comp false = some r) : r ≠ [] := by
  cases comp with
  | nil => cases h; simp
  | cons t rest =>
    rw [pseudoLoop] at h
    split at h
    · split at h
      · cases h
      · obtain ⟨_, _, rfl⟩ := Option.map_eq_some_iff.1 h
        simp
    · obtain ⟨_, _, rfl⟩ := Option.map_eq_some_iff.1 h
      simp

theorem pseudoLoop_none (s : Simple) :
    ∀ (comp : Compound) (added : Bool), pseudoLoop s comp added = none →
      s.isPelem = true ∧ ∃ t ∈ comp, t.isPelem = true := by
  intro comp
  induction comp with
  | nil => intro added h; simp [pseudoLoop] at h
  | cons t rest ih =>
    intro added h
    unfold pseudoLoop at h
    split at h
    · rename_i ht
      split at h
      · rename_i hs; exact ⟨hs, t, by simp, ht⟩
      · cases hr : pseudoLoop s rest true with
        | none => obtain ⟨a, u, hu, b⟩ := ih true hr; exact ⟨a, u, by simp [hu], b⟩
        | some r' => simp [hr] at h
    · cases hr : pseudoLoop s rest added with
      | none => obtain ⟨a, u, hu, b⟩ := ih added hr; exact ⟨a, u, by simp [hu], b⟩
      | some r' => simp [hr] at h

theorem pelem_clash {s t : Simple} {p : Ctx} (hs : s.isPelem = true) (ht : t.isPelem = true) (hne : s ≠ t) :
    (mSimple s p && mSimple t p) = false := by
  cases s <;> simp [Simple.isPelem] at hs
  cases t <;> simp [Simple.isPelem] at ht
  rename_i a b
  have : a ≠ b := fun e => hne (by rw [e])
  simp only [mSimple]
  cases h1 : decide (p.cur.el.pe = some a) <;> cases h2 : decide (p.cur.el.pe = some b) <;> simp_all

theorem unifyUnivAndElement_sem (s h r : Simple) (p : Ctx) (e : unifyUnivAndElement s h = some r) :
    mSimple r p = (mSimple s p && mSimple h p) := by
  cases s <;> cases h <;> simp [unifyUnivAndElement] at e
  all_goals (try (subst e; simp [mSimple]))
  obtain ⟨e1, e2⟩ := e; subst e1 e2; simp [mSimple]

theorem unifyUnivAndElement_none (s h : Simple) (p : Ctx) (hs : s.isUniv = true ∨ s.isType = true)
    (hh : (h.isUniv || h.isType) = true) (e : unifyUnivAndElement s h = none) :
    (mSimple s p && mSimple h p) = false := by
  cases s <;> simp [Simple.isUniv, Simple.isType] at hs <;>
  cases h <;> simp [Simple.isUniv, Simple.isType] at hh <;> simp [unifyUnivAndElement] at e
  rename_i a b
  simp only [mSimple]
  cases h1 : decide (p.cur.el.type = a) <;> cases h2 : decide (p.cur.el.type = b) <;> simp_all

theorem mComp_absorb {s : Simple} {comp : Compound} (p : Ctx) (hm : s ∈ comp) :
    mComp comp p = (mSimple s p && mComp comp p) := by
  cases hcp : mComp comp p
  · simp
  · simp [mComp_mem hcp hm]

theorem unifyDefault_sem (s : Simple) (comp r : Compound) (p : Ctx) (h : unifyDefault s comp = some r) :
    mComp r p = (mSimple s p && mComp comp p) := by
  unfold unifyDefault at h
  split at h
  · cases h; simp [mComp, mSimple]
  · split at h
    · rename_i hc
      cases h
      exact mComp_absorb p (by simpa using hc)
    · cases h
      simp [insertBeforePseudo_sem]

theorem unifyDefault_ne_nil (s : Simple) (comp r : Compound) (h : unifyDefault s comp = some r) : r ≠ [] := by
  unfold unifyDefault at h
  split at h
  · cases h; simp
  · split at h
    · rename_i hc
      cases h
      exact List.ne_nil_of_mem (List.contains_iff_mem.1 hc)
    · cases h
      exact insertBeforePseudo_ne_nil s comp

theorem unifyPseudo_sem (s : Simple) (comp r : Compound) (p : Ctx) (h : unifyPseudo s comp = some r) :
    mComp r p = (mSimple s p && mComp comp p) := by
  unfold unifyPseudo at h
  split at h
  · cases h; simp [mComp, mSimple]
  · split at h
    · rename_i hc
      cases h
      exact mComp_absorb p (by simpa using hc)
    · simpa using pseudoLoop_sem s p comp false r h

theorem unifyPseudo_ne_nil (s : Simple) (comp r : Compound) (h : unifyPseudo s comp = some r) : r ≠ [] := by
  unfold unifyPseudo at h
  split at h
  · cases h; simp
  · split at h
    · rename_i hc
      cases h
      exact List.ne_nil_of_mem (List.contains_iff_mem.1 hc)
    · exact pseudoLoop_ne_nil s comp r h

theorem unifyHead_sem (s hd : Simple) (tl r : Compound) (p : Ctx)
    (h : (unifyUnivAndElement s hd).map (· :: tl) = some r) :
    mComp r p = (mSimple s p && mComp (hd :: tl) p) := by
  obtain ⟨u, hu, rfl⟩ := Option.map_eq_some_iff.1 h
  simp [mComp, unifyUnivAndElement_sem s hd u p hu, Bool.and_assoc]

theorem unifySimple_some {s : Simple} {comp r : Compound} (h : unifySimple s comp = some r) :
    unifyDefault s comp = some r ∨ unifyPseudo s comp = some r ∨
    ∃ hd tl, comp = hd :: tl ∧
      ((unifyUnivAndElement s hd).map (· :: tl) = some r ∨ r = s :: comp ∨ (s = .univ ∧ r = comp)) := by
  cases s with
  | type n =>
    simp only [unifySimple, unifyType] at h
    split at h
    · cases h
    · split at h
      · exact Or.inr (Or.inr ⟨_, _, rfl, Or.inl h⟩)
      · cases h; exact Or.inr (Or.inr ⟨_, _, rfl, Or.inr (Or.inl rfl)⟩)
  | univ =>
    simp only [unifySimple, unifyUniversal] at h
    split at h
    · cases h
    · split at h
      · exact Or.inr (Or.inr ⟨_, _, rfl, Or.inl h⟩)
      · cases h; exact Or.inr (Or.inr ⟨_, _, rfl, Or.inr (Or.inr ⟨rfl, rfl⟩)⟩)
  | pclass n => exact Or.inr (Or.inl h)
  | pelem n => exact Or.inr (Or.inl h)
  | sel k a => exact Or.inr (Or.inl h)
  | id n =>
    simp only [unifySimple] at h
    split at h
    · cases h
    · exact Or.inl h
  | cls n => exact Or.inl h
  | attr n v => exact Or.inl h
  | placeholder n => exact Or.inl h
  | parent sfx => exact Or.inl h

theorem unifySimple_sem (s : Simple) (comp r : Compound) (p : Ctx) (h : unifySimple s comp = some r) :
    mComp r p = (mSimple s p && mComp comp p) := by
  rcases unifySimple_some h with h | h | ⟨hd, tl, rfl, h | rfl | ⟨rfl, rfl⟩⟩
  · exact unifyDefault_sem s comp r p h
  · exact unifyPseudo_sem s comp r p h
  · exact unifyHead_sem s hd tl r p h
  · rw [mComp]
  · simp [mSimple]

theorem unifySimple_ne_nil {s : Simple} {comp r : Compound} (h : unifySimple s comp = some r) : r ≠ [] := by
  rcases unifySimple_some h with h | h | ⟨hd, tl, rfl, h | rfl | ⟨rfl, rfl⟩⟩
  · exact unifyDefault_ne_nil s comp r h
  · exact unifyPseudo_ne_nil s comp r h
  · obtain ⟨_, _, rfl⟩ := Option.map_eq_some_iff.1 h
    simp
  · simp
  · simp

theorem id_clash {s t : Simple} {p : Ctx} (hs : s.isId = true) (ht : t.isId = true) (hne : t ≠ s) :
    (mSimple s p && mSimple t p) = false := by
  cases s <;> simp [Simple.isId] at hs
  cases t <;> simp [Simple.isId] at ht
  rename_i a b
  have : a ≠ b := fun e => hne (by rw [e])
  simp only [mSimple]
  cases h1 : decide (p.cur.el.id = some a) <;> cases h2 : decide (p.cur.el.id = some b) <;> simp_all

theorem conj_false_of_mem {s t : Simple} {comp : Compound} {p : Ctx} (ht : t ∈ comp)
    (h : (mSimple s p && mSimple t p) = false) : (mSimple s p && mComp comp p) = false := by
  cases hs : mSimple s p
  · simp
  · cases hc : mComp comp p
    · simp
    · have := mComp_mem hc ht; simp [hs, this] at h

theorem unifyDefault_ne_none (s : Simple) (comp : Compound) : unifyDefault s comp ≠ none := by
  unfold unifyDefault
  split
  · simp
  · split <;> simp

theorem unifyPseudo_none (s : Simple) (comp : Compound) (p : Ctx) (h : unifyPseudo s comp = none) :
    (mSimple s p && mComp comp p) = false := by
  unfold unifyPseudo at h
  split at h
  · cases h
  · split at h
    · cases h
    · rename_i hc
      obtain ⟨hs, t, ht, htp⟩ := pseudoLoop_none s comp false h
      have hne : s ≠ t := by
        intro e; subst e; exact hc (by simpa using ht)
      exact conj_false_of_mem ht (pelem_clash hs htp hne)

theorem unifyHead_none (s hd : Simple) (tl : Compound) (p : Ctx) (hs : s.isUniv = true ∨ s.isType = true)
    (hh : (hd.isUniv || hd.isType) = true) (h : (unifyUnivAndElement s hd).map (· :: tl) = none) :
    (mSimple s p && mComp (hd :: tl) p) = false :=
  conj_false_of_mem (List.mem_cons_self ..) (unifyUnivAndElement_none s hd p hs hh (by simpa using h))

theorem unifySimple_none (s : Simple) (comp : Compound) (p : Ctx) (hne : comp ≠ [])
    (h : unifySimple s comp = none) : (mSimple s p && mComp comp p) = false := by
  cases s with
  | type n =>
    simp only [unifySimple, unifyType] at h
    split at h
    · exact absurd rfl hne
    · split at h
      · rename_i hh; exact unifyHead_none _ _ _ p (Or.inr rfl) hh h
      · cases h
  | univ =>
    simp only [unifySimple, unifyUniversal] at h
    split at h
    · exact absurd rfl hne
    · split at h
      · rename_i hh; exact unifyHead_none _ _ _ p (Or.inl rfl) hh h
      · cases h
  | pclass n => exact unifyPseudo_none _ comp p h
  | pelem n => exact unifyPseudo_none _ comp p h
  | sel k a => exact unifyPseudo_none _ comp p h
  | id n =>
    simp only [unifySimple] at h
    split at h
    · rename_i hc
      obtain ⟨t, ht, hc⟩ := List.any_eq_true.1 hc
      simp only [Bool.and_eq_true, decide_eq_true_eq] at hc
      exact conj_false_of_mem ht (id_clash rfl hc.1 hc.2)
    · exact absurd h (unifyDefault_ne_none _ comp)
  | cls n => exact absurd h (unifyDefault_ne_none _ comp)
  | attr n v => exact absurd h (unifyDefault_ne_none _ comp)
  | placeholder n => exact absurd h (unifyDefault_ne_none _ comp)
  | parent sfx => exact absurd h (unifyDefault_ne_none _ comp)

theorem unifyCompound_sem (p : Ctx) :
    ∀ (A B C : Compound), unifyCompound A B = some C → mComp C p = (mComp A p && mComp B p) := by
  intro A
  induction A with
  | nil => intro B C h; simp [unifyCompound] at h; subst h; simp [mComp]
  | cons s A ih =>
    intro B C h
    unfold unifyCompound at h
    split at h
    · rename_i B' hB
      rw [ih B' C h, unifySimple_sem s B B' p hB]
      simp only [mComp]
      cases mSimple s p <;> cases mComp A p <;> simp
    · cases h

theorem unifyCompound_none (p : Ctx) :
    ∀ (A B : Compound), B ≠ [] → unifyCompound A B = none → (mComp A p && mComp B p) = false := by
  intro A
  induction A with
  | nil => intro B _ h; simp [unifyCompound] at h
  | cons s A ih =>
    intro B hB h
    unfold unifyCompound at h
    split at h
    · rename_i B' hB'
      have := ih B' (unifySimple_ne_nil hB') h
      rw [unifySimple_sem s B B' p hB'] at this
      rw [mComp, Bool.and_assoc, Bool.and_left_comm]
      exact this
    · rename_i hn
      rw [mComp, Bool.and_right_comm, unifySimple_none s B p hB hn]
      rfl

end Grass.Selector
