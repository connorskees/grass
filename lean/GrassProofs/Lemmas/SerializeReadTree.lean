import GrassProofs.Lemmas.SerializeTree
/-
  The reader `readTree` (Grass/Serialize.lean): print → read round trip (`Reads`, `stmt_reads`/`kids_reads`,
  `readTree_serialize`); every printed header is flat in both styles and the normaliser cannot tell the
  styles apart (`EqRun`), hence the canonical tree does not depend on the style (`g_props`).
-/
namespace Grass.Serialize

def Stmts.isNil : Stmts → Bool
  | .nil => true
  | .cons _ _ => false

def allWs (w : Str) : Bool := w.all isWsC

theorem skipWs_ws (w x : Str) (h : allWs w = true) : skipWs (w ++ x) = skipWs x := by
  induction w with
  | nil => rfl
  | cons c cs ih =>
    simp only [allWs, List.all_cons, Bool.and_eq_true] at h
    simp [skipWs, h.1, ih (by simpa [allWs] using h.2)]

theorem skipWs_head (x : Str) (h : headOk x = true) : skipWs x = x := by
  cases x with
  | nil => simp [headOk] at h
  | cons c cs =>
    simp only [headOk, Bool.and_eq_true, Bool.not_eq_true'] at h
    simp [skipWs, h.2]

/-! ### the normaliser `nm` -/

theorem nrun_append (P : Char → Bool) (s : NS) (a b : Str) :
    nrun P s (a ++ b) = ((nrun P s a).1 ++ (nrun P (nrun P s a).2 b).1, (nrun P (nrun P s a).2 b).2) := by
  induction a generalizing s with
  | nil => simp [nrun]
  | cons c cs ih => simp [nrun, ih, List.append_assoc]

theorem nrun_mode (P : Char → Bool) (s : NS) (x : Str) : (nrun P s x).2.mode = mrun s.mode x := by
  induction x generalizing s with
  | nil => simp [nrun, mrun]
  | cons c cs ih =>
    simp only [nrun, mrun, ih]
    congr 1
    simp only [nstep]
    split
    · split
      · rfl
      · split <;> rfl
    · rfl

theorem flat_mrun (m : Mode) (x : Str) (h : flatFrom m x = true) : mrun m x = .normal := by
  induction x generalizing m with
  | nil => simpa [flatFrom, mrun] using h
  | cons c cs ih =>
    simp only [flatFrom, Bool.and_eq_true] at h
    simpa [mrun] using ih _ h.2

theorem nrun_ws_idle (P : Char → Bool) (s : NS) (w : Str) (hw : allWs w = true) (hm : s.mode = .normal)
    (hk : s.k ≠ .word) (hp : s.pend = false) : nrun P s w = ([], s) := by
  induction w with
  | nil => simp [nrun]
  | cons c cs ih =>
    simp only [allWs, List.all_cons, Bool.and_eq_true] at hw
    obtain ⟨m, k, p⟩ := s
    simp only at hm hk hp
    subst hm; subst hp
    have hc : c = ' ' ∨ c = '\n' := by simpa [isWsC] using hw.1
    have hms : mstep .normal c = .normal := by rcases hc with e | e <;> subst e <;> simp [mstep, mstepN]
    have hkk : (k == Kind.word) = false := by cases k <;> simp_all
    have := ih (by simpa [allWs] using hw.2)
    simp [nrun, nstep, Mode.isTop, hw.1, hms, hkk, this]

theorem nrun_ws (P : Char → Bool) (s : NS) (w : Str) (hw : allWs w = true) (hm : s.mode = .normal) :
    ∃ p, nrun P s w = ([], ⟨.normal, s.k, p⟩) := by
  induction w generalizing s with
  | nil => exact ⟨s.pend, by obtain ⟨m, k, p⟩ := s; simp at hm; subst hm; simp [nrun]⟩
  | cons c cs ih =>
    simp only [allWs, List.all_cons, Bool.and_eq_true] at hw
    obtain ⟨m, k, p⟩ := s
    simp only at hm; subst hm
    have hc : c = ' ' ∨ c = '\n' := by simpa [isWsC] using hw.1
    have hms : mstep .normal c = .normal := by rcases hc with e | e <;> subst e <;> simp [mstep, mstepN]
    obtain ⟨p', hp'⟩ := ih ⟨.normal, k, p || k == .word⟩ (by simpa [allWs] using hw.2) rfl
    exact ⟨p', by simp [nrun, nstep, Mode.isTop, hw.1, hms, hp']⟩

theorem nrun_punct (P : Char → Bool) (k : Kind) (p : Bool) (c : Char) (hP : P c = true) (hw : isWsC c = false) :
    nrun P ⟨.normal, k, p⟩ [c] = ([c], ⟨mstep .normal c, .punct, false⟩) := by
  simp [nrun, nstep, Mode.isTop, hP, hw]


theorem hdr_start (H y : Str) (h : headOk H = true) :
    skipWs (H ++ y) = H ++ y ∧ (H ++ y).isEmpty = false ∧ startsWith (H ++ y) ['/', '*'] = false := by
  cases H with
  | nil => simp [headOk] at h
  | cons c cs =>
    simp only [headOk, Bool.and_eq_true, Bool.not_eq_true', bne_iff_ne, ne_eq] at h
    refine ⟨by simp [skipWs, h.2], by simp, ?_⟩
    simp only [startsWith, List.cons_append, List.isPrefixOf, Bool.and_eq_false_imp, beq_iff_eq]
    intro e; exact absurd e.symm h.1


theorem commentBody_append (b rest : Str) (h : commentBody b = some (b, [])) :
    commentBody (b ++ rest) = some (b, rest) := by
  induction b with
  | nil => simp [commentBody] at h
  | cons c r ih =>
    simp only [commentBody] at h
    by_cases hc : (c = '*' && r.head? = some '/') = true
    · simp only [hc, if_true, Option.some.injEq, Prod.mk.injEq] at h
      -- b = ['*', '/'] and r.drop 1 = []
      obtain ⟨h1, h2⟩ := h
      have hr : r = ['/'] := by
        have := (List.cons.injEq _ _ _ _).mp h1
        exact this.2.symm
      subst hr
      simp at hc
      subst hc
      simp [commentBody]
    · have hc' : (c = '*' && r.head? = some '/') = false := by simpa using hc
      simp only [hc', Bool.false_eq_true, if_false, Option.map_eq_some_iff] at h
      obtain ⟨x, hx, he⟩ := h
      obtain ⟨x1, x2⟩ := x
      simp only [Prod.mk.injEq, List.cons.injEq, true_and] at he
      obtain ⟨e1, e2⟩ := he
      rw [e1, e2] at hx
      have := ih hx
      -- the head test on (r ++ rest) agrees with the one on r because r is non-empty
      have hne : r ≠ [] := by intro e; subst e; simp [commentBody] at hx
      have hh : (r ++ rest).head? = r.head? := by cases r <;> simp_all
      simp [commentBody, hh, hc', this]


theorem commentTok_shape (c : Str) (h : commentTok c = true) :
    ∃ b, c = '/' :: '*' :: b ∧ commentBody b = some (b, []) := by
  simp only [commentTok, beq_iff_eq] at h
  unfold takeComment at h
  split at h
  · rename_i r
    simp only [Option.map_eq_some_iff] at h
    obtain ⟨x, hx, he⟩ := h
    obtain ⟨x1, x2⟩ := x
    simp only [Prod.mk.injEq, List.cons.injEq, true_and] at he
    obtain ⟨e1, e2⟩ := he
    rw [e1, e2] at hx
    exact ⟨r, rfl, hx⟩
  · simp at h


theorem allWs_indent (st : Style) (n : Nat) : allWs (indentOut st n) = true := by
  unfold indentOut; split <;> simp [allWs, spaces, isWsC]


theorem allWs_optNl (st : Style) : allWs (optNl st) = true := by
  cases st <;> simp [optNl, Style.isCompressed, allWs, isWsC]


theorem not_invisible_of_written (st : Style) (ind : Nat) (s : Stmt) (h : (visitStmt st ind s).1 = true) :
    s.isInvisible = false := by
  simpa [visit_fst] using h


theorem childrenLoop_cons (st : Style) (ind : Nat) (s : Stmt) (ss : Stmts) :
    childrenLoop st ind (.cons s ss) =
      (if (visitStmt st ind s).1 then
        (visitStmt st ind s).2 ++ childSemi st ss.isNil s ++ optNl st
       else []) ++ childrenLoop st ind ss := by
  conv => lhs; unfold childrenLoop
  cases ss <;> rfl


theorem consOpt_comment (c : Str) (ns : RNodes) :
    consOpt (if isLoud c then some (.comment c) else none) ns = consComment c ns := by
  unfold consComment; split <;> simp [consOpt]


theorem skipWs_allWs (w : Str) (h : allWs w = true) : skipWs w = [] := by
  have := skipWs_ws w [] h
  simpa [skipWs] using this


theorem ws_flat (w : Str) (h : allWs w = true) : flat w = true := by
  induction w with
  | nil => rfl
  | cons c cs ih =>
    simp only [allWs, List.all_cons, Bool.and_eq_true] at h
    have hc : c = ' ' ∨ c = '\n' := by simpa [isWsC] using h.1
    have := ih (by simpa [allWs] using h.2)
    rcases hc with e | e <;> subst e <;>
      simpa [flat, flatFrom, Mode.isTop, structural, mstep, mstepN] using this

theorem scanSeg_flat (m : Mode) (x rest : Str) (h : flatFrom m x = true) :
    scanSeg m (x ++ rest) =
      (x ++ (scanSeg .normal rest).1, (scanSeg .normal rest).2.1, (scanSeg .normal rest).2.2) := by
  induction x generalizing m with
  | nil =>
    simp only [flatFrom, beq_iff_eq] at h
    subst h; simp
  | cons c cs ih =>
    simp only [flatFrom, Bool.and_eq_true, Bool.not_eq_true'] at h
    simp only [List.cons_append, scanSeg, h.1, Bool.false_eq_true, if_false, ih _ h.2]

theorem scanSeg_ws (w rest : Str) (h : allWs w = true) :
    scanSeg .normal (w ++ rest) = (w ++ (scanSeg .normal rest).1, (scanSeg .normal rest).2.1, (scanSeg .normal rest).2.2) :=
  scanSeg_flat _ _ _ (ws_flat w h)

theorem nm_trailing_ws (P : Char → Bool) (H w : Str) (hH : flat H = true) (hw : allWs w = true) :
    nm P (H ++ w) = nm P H := by
  simp only [nm, nrun_append]
  have hm : (nrun P NS.init H).2.mode = .normal := by rw [nrun_mode]; exact flat_mrun _ _ hH
  obtain ⟨p, hp⟩ := nrun_ws P _ w hw hm
  rw [hp]; simp

/-! ### `Reads`: what `readNodes` returns for every sufficient fuel -/

def Reads (top : Bool) (text : Str) (ns : RNodes) (rest : Str) : Prop :=
  rest.length ≤ text.length ∧ ∀ f, text.length < f → readNodes f top text = some (ns, rest)

theorem readNodes_skip (f : Nat) (top : Bool) (a b : Str) (h : skipWs a = skipWs b) :
    readNodes f top a = readNodes f top b := by
  cases f with
  | zero => rfl
  | succ f => simp only [readNodes, h]

theorem reads_ws (top : Bool) (w x : Str) (ns : RNodes) (rest : Str) (hw : allWs w = true)
    (h : Reads top x ns rest) : Reads top (w ++ x) ns rest := by
  refine ⟨by have := h.1; simp; omega, fun f hf => ?_⟩
  rw [readNodes_skip f top (w ++ x) x (skipWs_ws w x hw)]
  exact h.2 f (by simp at hf; omega)

theorem reads_eof (w : Str) (hw : allWs w = true) : Reads true w .nil [] := by
  refine ⟨by simp, fun f hf => ?_⟩
  cases f with
  | zero => omega
  | succ f => simp [readNodes, skipWs_allWs w hw]

theorem scanSeg_delim (c : Char) (r : Str) (h : structural c = true) :
    scanSeg .normal (c :: r) = ([], delimOf c, r) := by
  simp [scanSeg, Mode.isTop, h]

theorem reads_close (rest : Str) : Reads false ('}' :: rest) .nil rest := by
  refine ⟨by simp, fun f hf => ?_⟩
  cases f with
  | zero => omega
  | succ f =>
    have : scanSeg .normal ('}' :: rest) = ([], .cls, rest) := by
      rw [scanSeg_delim _ _ (by decide)]; rfl
    have hn : nm Pitem [] = [] := rfl
    simp [readNodes, skipWs, isWsC, startsWith, List.isPrefixOf, this, consItem, hn]

theorem reads_item_semi (top : Bool) (H more : Str) (ns : RNodes) (rest : Str) (hH : hdrOk H = true)
    (h : Reads top more ns rest) : Reads top (H ++ ';' :: more) (consItem (nm Pitem H) ns) rest := by
  simp only [hdrOk, Bool.and_eq_true] at hH
  refine ⟨by have := h.1; simp; omega, fun f hf => ?_⟩
  cases f with
  | zero => omega
  | succ f =>
    obtain ⟨e1, e2, e3⟩ := hdr_start H (';' :: more) hH.2
    have sc : scanSeg .normal (H ++ ';' :: more) = (H, .semi, more) := by
      rw [scanSeg_flat _ _ _ hH.1, scanSeg_delim _ _ (by decide)]; simp [delimOf]
    have hr := h.2 f (by simp at hf; omega)
    simp [readNodes, e1, e2, e3, sc, hr]

theorem reads_item_close (H w rest : Str) (hH : hdrOk H = true) (hw : allWs w = true) :
    Reads false (H ++ w ++ '}' :: rest) (consItem (nm Pitem H) .nil) rest := by
  simp only [hdrOk, Bool.and_eq_true] at hH
  refine ⟨by simp; omega, fun f hf => ?_⟩
  cases f with
  | zero => omega
  | succ f =>
    obtain ⟨e1, e2, e3⟩ := hdr_start H (w ++ '}' :: rest) hH.2
    have sc : scanSeg .normal (H ++ (w ++ '}' :: rest)) = (H ++ w, .cls, rest) := by
      rw [scanSeg_flat _ _ _ hH.1, scanSeg_ws _ _ hw, scanSeg_delim _ _ (by decide)]; simp [delimOf]
    simp only [List.append_assoc] at *
    simp [readNodes, e1, e2, e3, sc, nm_trailing_ws Pitem H w hH.1 hw]

theorem reads_block (top : Bool) (H w K M : Str) (kids ns : RNodes) (rest : Str) (hH : hdrOk H = true)
    (hw : allWs w = true) (hk : Reads false K kids M) (hm : Reads top M ns rest) :
    Reads top (H ++ w ++ '{' :: K) (.cons (.block (nm Ppre H) kids) ns) rest := by
  simp only [hdrOk, Bool.and_eq_true] at hH
  refine ⟨by have := hk.1; have := hm.1; simp; omega, fun f hf => ?_⟩
  cases f with
  | zero => omega
  | succ f =>
    obtain ⟨e1, e2, e3⟩ := hdr_start H (w ++ '{' :: K) hH.2
    have sc : scanSeg .normal (H ++ (w ++ '{' :: K)) = (H ++ w, .opn, K) := by
      rw [scanSeg_flat _ _ _ hH.1, scanSeg_ws _ _ hw, scanSeg_delim _ _ (by decide)]; simp [delimOf]
    have h1 := hk.2 f (by simp at hf; omega)
    have h2 := hm.2 f (by have := hk.1; simp at hf; omega)
    simp only [List.append_assoc] at *
    simp [readNodes, e1, e2, e3, sc, h1, h2, nm_trailing_ws Ppre H w hH.1 hw]

theorem reads_comment (top : Bool) (c more : Str) (ns : RNodes) (rest : Str) (hc : commentTok c = true)
    (h : Reads top more ns rest) : Reads top (c ++ more) (consComment c ns) rest := by
  obtain ⟨b, rfl, hb⟩ := commentTok_shape c hc
  refine ⟨by have := h.1; simp; omega, fun f hf => ?_⟩
  cases f with
  | zero => omega
  | succ f =>
    have hr := h.2 f (by simp at hf; omega)
    simp [readNodes, skipWs, isWsC, startsWith, List.isPrefixOf, takeComment, commentBody_append _ more hb, hr]

/-! ### the serializer's statements, read back -/

/-- The canonical text of a header is not empty, so its item is kept. -/
theorem consItem_hdr (H : Str) (ns : RNodes) (h : hdrOk H = true) :
    consItem (nm Pitem H) ns = .cons (.item (nm Pitem H)) ns := by
  simp only [hdrOk, Bool.and_eq_true] at h
  cases H with
  | nil => simp [headOk] at h
  | cons c cs =>
    have := h.2
    simp only [headOk, Bool.and_eq_true, Bool.not_eq_true'] at this
    simp only [consItem, nm, nrun, nstep, NS.init, Mode.isTop, this.2, Bool.false_eq_true, if_false, if_true]
    split <;> simp

theorem canon_invisible (st : Style) (s : Stmt) (h : s.isInvisible = true) : canonStmt st s = none := by
  fun_cases canonStmt st s <;> simp_all [Stmt.isInvisible]

theorem item_shape (st : Style) (ind : Nat) (s : Stmt) (hs : s.requiresSemicolon = true)
    (hw : (visitStmt st ind s).1 = true) (hr : s.readable st = true) :
    ∃ H, hdrOk H = true ∧ (visitStmt st ind s).2 = indentOut st ind ++ H ∧ canonStmt st s = some (.item (nm Pitem H)) := by
  have hv := not_invisible_of_written st ind s hw
  cases s with
  | rule ge sel body => simp [Stmt.requiresSemicolon] at hs
  | media ge qs body => simp [Stmt.requiresSemicolon] at hs
  | supports ge p body => simp [Stmt.requiresSemicolon] at hs
  | kf sels body => simp [Stmt.requiresSemicolon] at hs
  | comment text col => simp [Stmt.requiresSemicolon] at hs
  | decl name custom v =>
    simp only [Stmt.isInvisible] at hv
    simp only [Stmt.readable, hv, Bool.false_or] at hr
    refine ⟨declText st name custom v, hr, ?_, ?_⟩
    · exact visit_decl st ind name custom v hv
    · rw [canonStmt]; simp [hv]
  | unknown ge n p hb body =>
    simp only [Stmt.requiresSemicolon, Bool.not_eq_true'] at hs
    simp only [Stmt.readable, Bool.and_eq_true] at hr
    refine ⟨unknownPrelude n p, hr.1, ?_, ?_⟩
    · rw [visit_unknown]; simp [hs]
    · rw [canonStmt]; simp [hs]
  | «import» url mods =>
    simp only [Stmt.readable] at hr
    refine ⟨importText url mods, hr, ?_, ?_⟩
    · exact visit_import st ind url mods
    · rw [canonStmt]

theorem block_reads (st : Style) (ind : Nat) (top : Bool) (H K more : Str) (kids ns : RNodes) (rest : Str)
    (hH : hdrOk H = true)
    (hk : Reads false (K ++ (indentOut st ind ++ '}' :: more)) kids more)
    (hm : Reads top more ns rest) :
    Reads top (indentOut st ind ++ H ++ blockOut st ind K ++ more) (.cons (.block (nm Ppre H) kids) ns) rest := by
  cases st
  · have e : indentOut .expanded ind ++ H ++ blockOut .expanded ind K ++ more =
        indentOut .expanded ind ++ (H ++ [' '] ++ '{' :: (['\n'] ++ (K ++ (indentOut .expanded ind ++ '}' :: more)))) := by
      have : lit " {\n" = [' ', '{', '\n'] := by decide
      simp [blockOut, openBlock, closeBlock, Style.isCompressed, this, List.append_assoc]
    rw [e]
    exact reads_ws _ _ _ _ _ (allWs_indent _ _)
      (reads_block top H [' '] _ more kids ns rest hH (by decide) (reads_ws _ _ _ _ _ (by decide) hk) hm)
  · have e : indentOut .compressed ind ++ H ++ blockOut .compressed ind K ++ more =
        indentOut .compressed ind ++ (H ++ [] ++ '{' :: (K ++ (indentOut .compressed ind ++ '}' :: more))) := by
      simp [blockOut, openBlock, closeBlock, Style.isCompressed, List.append_assoc]
    rw [e]
    exact reads_ws _ _ _ _ _ (allWs_indent _ _) (reads_block top H [] _ more kids ns rest hH (by decide) hk hm)

/-- The `;` after a child is the plain one, except that the last child loses it in compressed output. -/
theorem childSemi_cases (st : Style) (last : Bool) (s : Stmt) :
    childSemi st last s = (if s.requiresSemicolon then [';'] else []) ∨
    (s.requiresSemicolon = true ∧ last = true ∧ st = .compressed ∧ childSemi st last s = []) := by
  cases st <;> cases last <;> cases h : s.requiresSemicolon <;> simp [childSemi, h, Style.isCompressed]

theorem item_stmt_reads (st : Style) (ind : Nat) (top : Bool) (more : Str) (ns : RNodes) (rest : Str) (s : Stmt)
    (hs : s.requiresSemicolon = true) (hw : (visitStmt st ind s).1 = true) (hr : s.readable st = true)
    (hm : Reads top more ns rest) :
    Reads top ((visitStmt st ind s).2 ++ (if s.requiresSemicolon then [';'] else []) ++ more)
      (consOpt (canonStmt st s) ns) rest := by
  obtain ⟨H, hH, ho, hc⟩ := item_shape st ind s hs hw hr
  rw [ho, hc, hs]
  simp only [if_true, consOpt, List.append_assoc, List.singleton_append]
  have := reads_item_semi top H more ns rest hH hm
  rw [consItem_hdr H ns hH] at this
  exact reads_ws _ _ _ _ _ (allWs_indent _ _) this

theorem block_stmt_reads (st : Style) (ind : Nat) (top : Bool) (more : Str) (ns : RNodes) (rest : Str) (s : Stmt)
    (H : Str) (body : Stmts)
    (ho : (visitStmt st ind s).2 = indentOut st ind ++ H ++ blockOut st ind (childrenLoop st (ind + 2) body))
    (hc : canonStmt st s = some (.block (nm Ppre H) (canonKids st body))) (hs : s.requiresSemicolon = false)
    (hH : hdrOk H = true) (hb : body.readable st = true)
    (hk : ∀ w rest, body.readable st = true → allWs w = true →
      Reads false (childrenLoop st (ind + 2) body ++ w ++ '}' :: rest) (canonKids st body) rest)
    (hm : Reads top more ns rest) :
    Reads top ((visitStmt st ind s).2 ++ (if s.requiresSemicolon then [';'] else []) ++ more)
      (consOpt (canonStmt st s) ns) rest := by
  rw [ho, hc, hs]
  simp only [Bool.false_eq_true, if_false, List.append_nil, consOpt]
  exact block_reads st ind top H _ more _ ns rest hH
    (by simpa [List.append_assoc] using hk (indentOut st ind) more hb (allWs_indent _ _)) hm

mutual
theorem stmt_reads (st : Style) : ∀ (s : Stmt) (ind : Nat) (top : Bool) (more : Str) (ns : RNodes) (rest : Str),
    s.readable st = true → (visitStmt st ind s).1 = true → Reads top more ns rest →
    Reads top ((visitStmt st ind s).2 ++ (if s.requiresSemicolon then [';'] else []) ++ more)
      (consOpt (canonStmt st s) ns) rest
  | .rule ge sel body, ind, top, more, ns, rest, hr, hw, hm => by
    have hv := not_invisible_of_written st ind _ hw
    simp only [Stmt.readable, hv, Bool.false_or, Bool.and_eq_true] at hr
    exact block_stmt_reads st ind top more ns rest _ (rulePrelude st sel) body
      (visit_rule st ind ge sel body hv) (by rw [canonStmt]; simp [hv]) rfl hr.1 hr.2
      (kids_reads st body (ind + 2)) hm
  | .media ge qs body, ind, top, more, ns, rest, hr, hw, hm => by
    have hv := not_invisible_of_written st ind _ hw
    simp only [Stmt.readable, hv, Bool.false_or, Bool.and_eq_true] at hr
    exact block_stmt_reads st ind top more ns rest _ (mediaPrelude st qs) body
      (visit_media st ind ge qs body hv) (by rw [canonStmt]; simp [hv]) rfl hr.1 hr.2
      (kids_reads st body (ind + 2)) hm
  | .supports ge params body, ind, top, more, ns, rest, hr, hw, hm => by
    have hv := not_invisible_of_written st ind _ hw
    simp only [Stmt.readable, hv, Bool.false_or, Bool.and_eq_true] at hr
    exact block_stmt_reads st ind top more ns rest _ (supportsPrelude params) body
      (visit_supports st ind ge params body hv) (by rw [canonStmt]; simp [hv]) rfl hr.1 hr.2
      (kids_reads st body (ind + 2)) hm
  | .kf sels body, ind, top, more, ns, rest, hr, hw, hm => by
    have hv := not_invisible_of_written st ind _ hw
    simp only [Stmt.readable, hv, Bool.false_or, Bool.and_eq_true] at hr
    exact block_stmt_reads st ind top more ns rest _ (kfPrelude sels) body
      (visit_kf st ind sels body hv) (by rw [canonStmt]; simp [hv]) rfl hr.1 hr.2
      (kids_reads st body (ind + 2)) hm
  | .unknown ge name params hasBody body, ind, top, more, ns, rest, hr, hw, hm => by
    cases hasBody with
    | false => exact item_stmt_reads st ind top more ns rest _ rfl hw hr hm
    | true =>
      simp only [Stmt.readable, Bool.and_eq_true] at hr
      by_cases ha : body.allInvisible = true
      · rw [visit_unknown, canonStmt]
        simp only [Bool.not_true, Bool.false_eq_true, if_false, Stmt.requiresSemicolon, List.append_nil, consOpt,
          ha, if_true]
        have hb : Reads top (indentOut st ind ++ (unknownPrelude name params ++ [' '] ++ '{' :: ('}' :: more)))
            (.cons (.block (nm Ppre (unknownPrelude name params)) .nil) ns) rest :=
          reads_ws _ _ _ _ _ (allWs_indent _ _)
            (reads_block top _ [' '] _ more .nil ns rest hr.1 (by decide) (reads_close more) hm)
        have e : lit " {}" = [' ', '{', '}'] := by decide
        simpa [unknownPrelude, e, List.append_assoc] using hb
      · exact block_stmt_reads st ind top more ns rest _ (unknownPrelude name params) body
          (by rw [visit_unknown]; simp [ha, writeChildren]) (by rw [canonStmt]; simp [ha]) rfl hr.1 hr.2
          (kids_reads st body (ind + 2)) hm
  | .decl name custom v, ind, top, more, ns, rest, hr, hw, hm =>
    item_stmt_reads st ind top more ns rest _ rfl hw hr hm
  | .import url mods, ind, top, more, ns, rest, hr, hw, hm =>
    item_stmt_reads st ind top more ns rest _ rfl hw hr hm
  | .comment text col, ind, top, more, ns, rest, hr, hw, hm => by
    simp only [Stmt.readable, Bool.and_eq_true, beq_iff_eq] at hr
    rw [visit_comment, canonStmt, consOpt_comment]
    simp only [Stmt.requiresSemicolon, Bool.false_eq_true, if_false, List.append_nil]
    by_cases hk : commentKept st text = true
    · simp only [hk, if_true, List.append_assoc]
      exact reads_ws _ _ _ _ _ (allWs_indent _ _) (reads_comment top _ more ns rest hr.1 hm)
    · -- dropped: compressed and not `/*!`, so the reader would drop it as well
      have hk' : commentKept st text = false := by simpa using hk
      simp only [hk', Bool.false_eq_true, if_false, List.nil_append]
      have : isLoud (commentOut text col) = false := by
        rw [hr.2]
        simp only [commentKept, Bool.not_eq_false', Bool.and_eq_true, Bool.not_eq_true'] at hk'
        exact hk'.2
      simpa [consComment, this] using hm
theorem kids_reads (st : Style) : ∀ (ss : Stmts) (ind : Nat) (w rest : Str),
    ss.readable st = true → allWs w = true →
    Reads false (childrenLoop st ind ss ++ w ++ '}' :: rest) (canonKids st ss) rest
  | .nil, ind, w, rest, _, hw => by
    rw [childrenLoop, canonKids]
    simpa using reads_ws _ _ _ _ _ hw (reads_close rest)
  | .cons s ss, ind, w, rest, hr, hw => by
    simp only [Stmts.readable, Bool.and_eq_true] at hr
    have ih := kids_reads st ss ind w rest hr.2 hw
    rw [childrenLoop_cons, canonKids]
    cases hwr : (visitStmt st ind s).1
    · -- nothing written: invisible
      have hi : s.isInvisible = true := by simpa [visit_fst] using hwr
      simp only [Bool.false_eq_true, if_false, List.nil_append, canon_invisible st s hi, consOpt]
      exact ih
    · simp only [↓reduceIte]
      rcases childSemi_cases st ss.isNil s with hsemi | ⟨hreq, hlast, rfl, hsemi⟩
      · rw [hsemi]
        have := stmt_reads st s ind false (optNl st ++ (childrenLoop st ind ss ++ w ++ '}' :: rest)) _ rest hr.1 hwr
          (reads_ws _ _ _ _ _ (allWs_optNl st) ih)
        simpa [List.append_assoc] using this
      · -- the item runs up to the closing brace
        have hnil : ss = .nil := by
          cases ss with
          | nil => rfl
          | cons a b => cases hlast
        subst hnil
        obtain ⟨H, hH, ho, hc⟩ := item_shape .compressed ind s hreq hwr hr.1
        rw [ho, hc, hsemi, childrenLoop, canonKids]
        have := reads_item_close H w rest hH hw
        rw [consItem_hdr H .nil hH] at this
        simpa [optNl, Style.isCompressed, consOpt, List.append_assoc] using
          reads_ws _ _ _ _ _ (allWs_indent .compressed ind) this
end

/-! ### top level -/

/-- The text `finish` returns (no header), described from the left. `e`: nothing written so far. -/
def topText (st : Style) : Bool → Bool → List Stmt → Str
  | e, _, [] => if !e then optNl st else []
  | e, pg, s :: ss =>
    if s.isInvisible then topText st e pg ss
    else
      (if !e then optNl st ++ (if pg then optNl st else []) else []) ++ (visitStmt st 0 s).2 ++
        (if s.requiresSemicolon then [';'] else []) ++
        topText st (e && (visitStmt st 0 s).2.isEmpty && !s.requiresSemicolon) s.isGroupEnd ss

theorem finish_topText (st : Style) (t : List Stmt) (T : Top) :
    finish st false (topLoop st T t) =
      T.buf ++ (if T.prevSemi then [';'] else []) ++ topText st (T.buf.isEmpty && !T.prevSemi) T.prevGroupEnd t := by
  induction t generalizing T with
  | nil => rw [topLoop, finish_false, topText]
  | cons s ss ih =>
    simp only [topLoop, topText]
    split
    · exact ih T
    · have he : ((visitGroup st T s).buf.isEmpty && !(visitGroup st T s).prevSemi) =
          (T.buf.isEmpty && !T.prevSemi && (visitStmt st 0 s).2.isEmpty && !s.requiresSemicolon) := by
        rw [visitGroup_buf]
        obtain ⟨buf, pg, ps⟩ := T
        cases ps <;> cases hb : buf.isEmpty <;> simp [isEmpty_append', hb, visitGroup]
      rw [ih, he, visitGroup_buf]
      simp [visitGroup, List.append_assoc]

theorem serialize_topText (st : Style) (t : List Stmt) : serialize st false t = topText st true false t := by
  simp [serialize, finish_topText, Top.init]


theorem stripHeader_serialize (st : Style) (cs : Bool) (t : List Stmt)
    (hg : hasCharsetOrBom (serialize st false t) = false) :
    stripHeader (serialize st cs t) = serialize st false t := by
  have hself : stripHeader (serialize st false t) = serialize st false t := by
    simp only [hasCharsetOrBom, Bool.or_eq_false_iff, decide_eq_false_iff_not] at hg
    simp [stripHeader, hg.1, hg.2]
  unfold serialize at *
  rw [finish_header]
  cases cs && (topLoop st Top.init t).buf.any isNonAscii
  · exact hself
  · cases st
    · simp [stripHeader, startsWith, Style.isCompressed]
    · have : startsWith (bom :: finish .compressed false (topLoop .compressed Top.init t)) charsetPrefix = false := by
        have hne : ('@' : Char) ≠ bom := by decide
        have hcp : charsetPrefix = '@' :: charsetPrefix.drop 1 := by decide
        rw [hcp]
        simp [startsWith, List.isPrefixOf, hne]
      simp [stripHeader, this, Style.isCompressed]


theorem top_reads (st : Style) (t : List Stmt) (e pg : Bool) (h : treeReadable st t = true) :
    Reads true (topText st e pg t) (canonTop st t) [] := by
  induction t generalizing e pg with
  | nil =>
    simp only [topText, canonTop]
    split
    · exact reads_eof _ (allWs_optNl st)
    · exact reads_eof [] rfl
  | cons s ss ih =>
    simp only [treeReadable, List.all_cons, Bool.and_eq_true] at h
    have h2 : treeReadable st ss = true := by simpa [treeReadable] using h.2
    simp only [topText, canonTop]
    by_cases hi : s.isInvisible = true
    · simp only [hi, if_true, canon_invisible st s hi, consOpt]; exact ih e pg h2
    · have hi' : s.isInvisible = false := by simpa using hi
      simp only [hi', Bool.false_eq_true, if_false]
      have hw := visit_visible st 0 s hi'
      have := stmt_reads st s 0 true _ _ [] h.1 hw (ih (e && (visitStmt st 0 s).2.isEmpty && !s.requiresSemicolon) s.isGroupEnd h2)
      have hws : allWs (if !e then optNl st ++ (if pg then optNl st else []) else []) = true := by
        cases e <;> cases pg <;> cases st <;> rfl
      simpa [List.append_assoc] using reads_ws _ _ _ _ _ hws this

theorem readTree_serialize (st : Style) (cs : Bool) (t : List Stmt) (h : treeReadable st t = true)
    (hg : hasCharsetOrBom (serialize st false t) = false) :
    readTree (serialize st cs t) = some (canonTop st t) := by
  unfold readTree
  simp only [stripHeader_serialize st cs t hg]
  have := (top_reads st t true false h).2 ((serialize st false t).length + 1) (by rw [serialize_topText]; omega)
  rw [serialize_topText] at *
  simp [this]

/-! ## style independence of the canonical tree -/

theorem flatFrom_append (m : Mode) (a b : Str) (ha : flatFrom m a = true) :
    flatFrom m (a ++ b) = flatFrom .normal b := by
  induction a generalizing m with
  | nil =>
    simp only [flatFrom, beq_iff_eq] at ha
    subst ha; rfl
  | cons c cs ih =>
    simp only [flatFrom, Bool.and_eq_true] at ha
    simp only [List.cons_append, flatFrom, ha.1, ih _ ha.2, Bool.true_and]

theorem flat_append {a b : Str} (ha : flat a = true) (hb : flat b = true) : flat (a ++ b) = true := by
  unfold flat at *
  rw [flatFrom_append _ _ _ ha]; exact hb

theorem str_body (q : Char) (hq : isQuoteChar q) (b : Str) (esc : Bool) (h : quotedBodyOk q esc b = true) :
    flatFrom (if esc then .strEsc q else .str q) (b ++ [q]) = true := by
  have hqb : q ≠ '\\' := by rcases hq with h | h <;> subst h <;> decide
  induction b generalizing esc with
  | nil =>
    cases esc
    · simp [flatFrom, Mode.isTop, mstep, hqb]
    · simp [quotedBodyOk] at h
  | cons c cs ih =>
    cases esc
    · simp only [quotedBodyOk] at h
      by_cases hc : c = '\\'
      · subst hc
        simp at h
        have := ih true h
        simpa [flatFrom, Mode.isTop, mstep] using this
      · simp only [hc, if_false] at h
        by_cases hc2 : (c = q ∨ isEscapedControl c = true)
        · simp [hc2] at h
        · simp only [not_or] at hc2
          have hh : quotedBodyOk q false cs = true := by simpa [hc2.1, hc2.2] using h
          have := ih false hh
          simpa [flatFrom, Mode.isTop, mstep, hc, hc2.1] using this
    · simp only [quotedBodyOk, Bool.and_eq_true] at h
      have := ih false h.2
      simpa [flatFrom, Mode.isTop, mstep] using this

theorem flat_quote (s : Str) : flat (quote s) = true := by
  have h := quotedOk_quote s
  generalize quote s = tok at *
  cases tok with
  | nil => simp [quotedOk] at h
  | cons q rest =>
    simp only [quotedOk, Bool.and_eq_true, decide_eq_true_eq, Bool.or_eq_true] at h
    obtain ⟨⟨⟨hq, hl⟩, _⟩, hb⟩ := h
    obtain ⟨ys, hys⟩ := List.getLast?_eq_some_iff.mp hl
    subst hys
    rw [List.dropLast_concat] at hb
    have := str_body q hq ys false hb
    rcases hq with e | e <;> subst e <;>
      simpa [flat, flatFrom, Mode.isTop, mstep, mstepN, structural] using this

/-- A `/` in front of flat text, with or without spaces around it, stays flat unless it opens a comment. -/
theorem flat_slash {b : Str} (hb : flat b = true) (hne : ∃ c cs, b = c :: cs ∧ c ≠ '*') :
    flat ('/' :: b) = true ∧ flat (' ' :: '/' :: ' ' :: b) = true := by
  obtain ⟨c, cs, rfl, hc⟩ := hne
  constructor <;> simpa [flat, flatFrom, Mode.isTop, structural, mstep, mstepN, hc] using hb

/-- The optional space `write_complex_selector` puts in front of a component. -/
def spOf (st : Style) (last : Option Component) (c : Component) : Str :=
  match last with
  | some l => if !omitSpaces st l && !omitSpaces st c then [' '] else []
  | none => []

theorem complexOut_cons (st : Style) (last : Option Component) (c : Component) (r : List Component) :
    complexOut st last (c :: r) = (spOf st last c ++ c.out) ++ complexOut st (some c) r := by
  cases last <;> simp [complexOut, spOf]

theorem flat_spOf (st : Style) (last : Option Component) (c : Component) : flat (spOf st last c) = true := by
  unfold spOf
  cases last with
  | none => rfl
  | some l => dsimp only; split <;> rfl

theorem compOk_flat0 (c : Component) (h : compOk c = true) : flat c.out = true := by
  cases c with
  | comb ch =>
    have : (ch = '>' ∨ ch = '+') ∨ ch = '~' := by simpa [compOk, combOk] using h
    rcases this with (e | e) | e <;> subst e <;> decide
  | compound ss => exact h

theorem flat_complexOut (st : Style) (last : Option Component) (cs : List Component)
    (h : cs.all compOk = true) : flat (complexOut st last cs) = true := by
  induction cs generalizing last with
  | nil => rfl
  | cons c r ih =>
    simp only [List.all_cons, Bool.and_eq_true] at h
    rw [complexOut_cons]
    exact flat_append (flat_append (flat_spOf st last c) (compOk_flat0 c h.1)) (ih (some c) h.2)

theorem flat_selectorLoop (st : Style) (first : Bool) (l : List Complex)
    (h : l.all (fun cx => cx.comps.all compOk) = true) : flat (selectorLoop st first l) = true := by
  induction l generalizing first with
  | nil => rfl
  | cons cx r ih =>
    simp only [List.all_cons, Bool.and_eq_true] at h
    simp only [selectorLoop]
    have hsep : flat (if first = true then [] else ',' :: (if cx.lineBreak = true then optNl st else optSp st)) = true := by
      split
      · rfl
      · cases st <;> split <;> decide
    exact flat_append (flat_append hsep (flat_complexOut st none cx.comps h.1)) (ih false h.2)

theorem sel_hdrOk (sel : Selector) (h : selG sel = true) (st : Style) : hdrOk (rulePrelude st sel) = true := by
  simp only [selG, Bool.and_eq_true] at h
  simp only [hdrOk, Bool.and_eq_true, rulePrelude]
  exact ⟨flat_selectorLoop st true _ h.1.1, by cases st; exact h.1.2; exact h.2⟩

theorem quote_head (s : Str) : ∃ q r, quote s = q :: r ∧ q ≠ '*' := by
  unfold quote
  cases quoteFlags false false s with
  | none => exact ⟨'"', _, rfl, by decide⟩
  | some hd => cases hd <;> exact ⟨_, _, rfl, by decide⟩

theorem atom_props (a : Atom) (h : a.g = true) :
    flat a.out = true ∧ ∃ c cs, a.out = c :: cs ∧ c ≠ '*' := by
  cases a with
  | raw s =>
    simp only [Atom.g, Bool.and_eq_true] at h
    refine ⟨h.1, ?_⟩
    simp only [Atom.out]
    cases hx : unquotedOut s with
    | nil => rw [hx] at h; simp [headNotStar] at h
    | cons c cs => rw [hx] at h; exact ⟨c, cs, rfl, by simpa [headNotStar] using h.2⟩
  | quoted s => exact ⟨flat_quote s, quote_head s⟩

theorem flat_listLoop (st : Style) (sep : Sep) (l : List Atom) (h : l.all Atom.g = true) :
    flat (listLoop st sep l) = true ∧ (l ≠ [] → ∃ c cs, listLoop st sep l = c :: cs ∧ c ≠ '*') := by
  induction l with
  | nil => exact ⟨rfl, fun h => absurd rfl h⟩
  | cons a r ih =>
    simp only [List.all_cons, Bool.and_eq_true] at h
    obtain ⟨fa, c, cs, ea, hc⟩ := atom_props a h.1
    cases r with
    | nil => exact ⟨by simpa [listLoop] using fa, fun _ => ⟨c, cs, by simpa [listLoop] using ea, hc⟩⟩
    | cons b r' =>
      obtain ⟨fr, hr⟩ := ih h.2
      refine ⟨?_, fun _ => ⟨c, cs ++ (sepOut st sep ++ listLoop st sep (b :: r')), by simp [listLoop, ea], hc⟩⟩
      simp only [listLoop, List.append_assoc]
      refine flat_append fa ?_
      cases sep with
      | space => exact flat_append (a := [' ']) rfl fr
      | comma => exact flat_append (by cases st <;> decide) fr
      | slash =>
        -- the rest of the list does not start with `*`, so the `/` does not open a comment
        obtain ⟨s1, s2⟩ := flat_slash fr (hr (by simp))
        cases st
        · exact s2
        · exact s1

theorem g_filter (items : List Atom) (h : items.all (fun a => a.isBlank || a.g) = true) :
    (items.filter (fun a => !a.isBlank)).all Atom.g = true := by
  simp only [List.all_eq_true, List.mem_filter, Bool.or_eq_true, Bool.not_eq_true', and_imp] at *
  intro a ha hnb
  rcases h a ha with e | e
  · rw [hnb] at e; simp at e
  · exact e

theorem flat_value (st : Style) (v : Value) (h : v.g = true) (hb : v.isBlank = false) : flat (v.out st) = true := by
  cases v with
  | atom a =>
    simp only [Value.g, Value.isBlank] at h hb
    simp only [hb, Bool.false_or] at h
    exact (atom_props a h).1
  | list sep items => exact (flat_listLoop st sep _ (g_filter items h)).1

theorem decl_hdrOk (name : Str) (custom : Bool) (v : Value) (hn : flat name = true) (hh : headOk name = true)
    (hv : v.g = true) (hb : v.isBlank = false) (st : Style) : hdrOk (declText st name custom v) = true := by
  have hsp : flat (if (!custom && !st.isCompressed) = true then [' '] else []) = true := by
    split <;> rfl
  have := flat_append (flat_append (flat_append hn (b := [':']) rfl) hsp) (flat_value st v hv hb)
  simp only [hdrOk, declText]
  rw [Bool.and_eq_true]
  refine ⟨this, ?_⟩
  cases name with
  | nil => simp [headOk] at hh
  | cons c cs => simpa [headOk] using hh

theorem flat_joinQueries (st : Style) (l : List Str) (h : l.all flat = true) :
    flat (joinWith (',' :: optSp st) l) = true := by
  induction l with
  | nil => rfl
  | cons x r ih =>
    simp only [List.all_cons, Bool.and_eq_true] at h
    cases r with
    | nil => simpa [joinWith] using h.1
    | cons y r' =>
      have hsep : flat (',' :: optSp st) = true := by cases st <;> decide
      simp only [joinWith]
      exact flat_append (flat_append h.1 hsep) (ih h.2)

theorem media_hdrOk (qs : List Query) (h : (qs.map queryOut).all flat = true) (st : Style) :
    hdrOk (mediaPrelude st qs) = true := by
  have := flat_append (a := lit "@media ") (by decide) (flat_joinQueries st _ h)
  simp only [mediaPrelude, hdrOk, Bool.and_eq_true]
  refine ⟨this, ?_⟩
  have e : lit "@media " = '@' :: (lit "@media ").drop 1 := by decide
  rw [e]; simp [headOk, isWsC]

/-! ### equal runs -/

/-- The normaliser does the same on `a` and on `b`, whatever it has read before (outside strings and comments). -/
def EqRun (P : Char → Bool) (a b : Str) : Prop := ∀ s : NS, s.mode = .normal → nrun P s a = nrun P s b

theorem EqRun_refl (P : Char → Bool) (a : Str) : EqRun P a a := fun _ _ => rfl

theorem EqRun_trans {P : Char → Bool} {a b c : Str} (h1 : EqRun P a b) (h2 : EqRun P b c) : EqRun P a c :=
  fun s hs => (h1 s hs).trans (h2 s hs)

theorem EqRun_append {P : Char → Bool} {a a' b b' : Str} (h1 : EqRun P a a') (ha : flat a = true) (h2 : EqRun P b b') :
    EqRun P (a ++ b) (a' ++ b') := by
  intro s hs
  rw [nrun_append, nrun_append, h1 s hs]
  have hm : (nrun P s a').2.mode = .normal := by
    rw [← h1 s hs, nrun_mode, hs]; exact flat_mrun _ _ ha
  rw [h2 _ hm]

theorem EqRun_after (P : Char → Bool) (p : Char) (w : Str) (hP : P p = true) (hnw : isWsC p = false)
    (hm : mstep .normal p = .normal) (hw : allWs w = true) : EqRun P (p :: w) [p] := by
  intro s hs
  obtain ⟨m, k, pd⟩ := s
  simp only at hs; subst hs
  have e : p :: w = [p] ++ w := rfl
  rw [e, nrun_append, nrun_punct P k pd p hP hnw, hm]
  have := nrun_ws_idle P ⟨.normal, .punct, false⟩ w hw rfl (by simp) rfl
  simp [this]

theorem EqRun_before (P : Char → Bool) (p : Char) (w : Str) (hP : P p = true) (hnw : isWsC p = false)
    (hw : allWs w = true) : EqRun P (w ++ [p]) [p] := by
  intro s hs
  obtain ⟨m, k, pd⟩ := s
  simp only at hs; subst hs
  obtain ⟨p', hp'⟩ := nrun_ws P ⟨.normal, k, pd⟩ w hw rfl
  rw [nrun_append, hp', nrun_punct P k p' p hP hnw, nrun_punct P k pd p hP hnw]
  simp

theorem nrun_slash_start (P : Char → Bool) (k : Kind) (pd : Bool) (c : Char) (cs : Str) (hc : c ≠ '*') :
    nrun P ⟨.slash, k, pd⟩ (c :: cs) = nrun P ⟨.normal, k, pd⟩ (c :: cs) := by
  simp [nrun, nstep, Mode.isTop, mstep, hc]

/-! ### selectors -/

theorem comb_facts (c : Char) (h : combOk c = true) :
    Ppre c = true ∧ isWsC c = false ∧ mstep .normal c = .normal := by
  have : (c = '>' ∨ c = '+') ∨ c = '~' := by simpa [combOk] using h
  rcases this with (e | e) | e <;> subst e <;> decide

theorem spOf_none (st : Style) (c : Component) : spOf st none c = [] := rfl
theorem spOf_exp (l c : Component) : spOf .expanded (some l) c = [' '] := by
  simp [spOf, omitSpaces, Style.isCompressed]
theorem spOf_comp (l c : Component) : spOf .compressed (some l) c = if l.isComb || c.isComb then [] else [' '] := by
  cases hl : l.isComb <;> cases hc : c.isComb <;> simp [spOf, omitSpaces, Style.isCompressed, hl, hc]

/-- One component with its optional space: both styles normalise alike provided that, after a
    combinator, the normaliser is in the state a punctuation character leaves; a combinator leaves it so. -/
theorem piece_eq (last : Option Component) (c : Component) (hc : compOk c = true) (k : Kind) (pd : Bool)
    (hl : ∀ l, last = some l → l.isComb = true → k = .punct ∧ pd = false) :
    nrun Ppre ⟨.normal, k, pd⟩ (spOf .expanded last c ++ c.out) =
      nrun Ppre ⟨.normal, k, pd⟩ (spOf .compressed last c ++ c.out) ∧
    (c.isComb = true → (nrun Ppre ⟨.normal, k, pd⟩ (spOf .expanded last c ++ c.out)).2.k = .punct ∧
      (nrun Ppre ⟨.normal, k, pd⟩ (spOf .expanded last c ++ c.out)).2.pend = false) := by
  cases c with
  | comb ch =>
    obtain ⟨f1, f2, f3⟩ := comb_facts ch hc
    have hp := nrun_punct Ppre k pd ch f1 f2
    cases last with
    | none => simp [spOf_none, Component.out, hp]
    | some l =>
      have e := EqRun_before Ppre ch [' '] f1 f2 (by decide) ⟨.normal, k, pd⟩ rfl
      simp only [spOf_exp, spOf_comp, Component.isComb, Bool.or_true, if_true, List.nil_append, Component.out]
      rw [e]
      simp [hp]
  | compound ss =>
    have hic : (Component.compound ss).isComb = false := rfl
    cases last with
    | none => exact ⟨rfl, by simp [hic]⟩
    | some l =>
      cases hlc : l.isComb
      · rw [spOf_exp, spOf_comp, hlc, hic]
        exact ⟨by simp, by simp⟩
      · obtain ⟨hk, hp⟩ := hl l rfl hlc
        subst hk; subst hp
        rw [spOf_exp, spOf_comp, hlc, hic]
        refine ⟨?_, by simp⟩
        rw [nrun_append, nrun_ws_idle Ppre _ [' '] (by decide) rfl (by simp) rfl]
        simp

theorem complex_eq (cs : List Component) (h : cs.all compOk = true) :
    ∀ (last : Option Component) (k : Kind) (pd : Bool),
      (∀ l, last = some l → l.isComb = true → k = .punct ∧ pd = false) →
      nrun Ppre ⟨.normal, k, pd⟩ (complexOut .expanded last cs) = nrun Ppre ⟨.normal, k, pd⟩ (complexOut .compressed last cs) := by
  induction cs with
  | nil => intro last k pd _; rfl
  | cons c r ih =>
    intro last k pd hl
    simp only [List.all_cons, Bool.and_eq_true] at h
    obtain ⟨e1, hk1⟩ := piece_eq last c h.1 k pd hl
    have hm1 : (nrun Ppre ⟨.normal, k, pd⟩ (spOf .expanded last c ++ c.out)).2.mode = .normal := by
      rw [nrun_mode]; exact flat_mrun _ _ (flat_append (flat_spOf _ last c) (compOk_flat0 c h.1))
    rw [complexOut_cons, complexOut_cons, nrun_append, nrun_append (a := spOf .compressed last c ++ c.out), ← e1]
    generalize (nrun Ppre ⟨.normal, k, pd⟩ (spOf .expanded last c ++ c.out)) = R at *
    obtain ⟨o, ⟨m1, k1, p1⟩⟩ := R
    simp only at hm1 hk1
    subst hm1
    rw [ih h.2 (some c) k1 p1 (by intro l hl' hc; cases hl'; exact hk1 hc)]

theorem EqRun_complex (cs : List Component) (h : cs.all compOk = true) :
    EqRun Ppre (complexOut .expanded none cs) (complexOut .compressed none cs) := by
  intro s hs
  obtain ⟨m, k, pd⟩ := s
  simp only at hs; subst hs
  exact complex_eq cs h none k pd (by intro l hl; cases hl)

theorem EqRun_selectorLoop (first : Bool) (l : List Complex) (h : l.all (fun cx => cx.comps.all compOk) = true) :
    EqRun Ppre (selectorLoop .expanded first l) (selectorLoop .compressed first l) := by
  induction l generalizing first with
  | nil => exact EqRun_refl _ _
  | cons cx r ih =>
    simp only [List.all_cons, Bool.and_eq_true] at h
    have hf := flat_selectorLoop .expanded first [cx] (by simp [h.1])
    simp only [selectorLoop, List.append_nil] at hf ⊢
    refine EqRun_append (EqRun_append ?_ ?_ (EqRun_complex cx.comps h.1)) hf (ih false h.2)
    all_goals cases first
    · have hw : allWs (if cx.lineBreak = true then optNl .expanded else optSp .expanded) = true := by split <;> decide
      have hc : (if cx.lineBreak = true then optNl .compressed else optSp .compressed) = [] := by split <;> rfl
      simp only [Bool.false_eq_true, if_false, hc]
      exact EqRun_after Ppre ',' _ (by decide) (by decide) (by decide) hw
    · exact EqRun_refl _ _
    · simp only [Bool.false_eq_true, if_false]; split <;> decide
    · rfl

/-! ### values -/

/-- ` / ` and `/` in front of text that does not start with `*` (no comment is opened). -/
theorem EqRun_slash (b : Str) (hb : ∃ c cs, b = c :: cs ∧ c ≠ '*') :
    EqRun Pitem (' ' :: '/' :: ' ' :: b) ('/' :: b) := by
  obtain ⟨c, cs, e, hc⟩ := hb
  subst e
  intro s hs
  obtain ⟨m, k, pd⟩ := s
  simp only at hs; subst hs
  have h1 : nrun Pitem ⟨.normal, k, pd⟩ (' ' :: '/' :: ' ' :: c :: cs) =
      ('/' :: (nrun Pitem ⟨.normal, .punct, false⟩ (c :: cs)).1, (nrun Pitem ⟨.normal, .punct, false⟩ (c :: cs)).2) := by
    have e : (' ' :: '/' :: ' ' :: c :: cs) = [' '] ++ (['/'] ++ ([' '] ++ (c :: cs))) := rfl
    obtain ⟨p', hp'⟩ := nrun_ws Pitem ⟨.normal, k, pd⟩ [' '] (by decide) rfl
    rw [e, nrun_append, hp', nrun_append, nrun_punct Pitem k p' '/' (by decide) (by decide), nrun_append]
    have : nrun Pitem ⟨mstep .normal '/', .punct, false⟩ [' '] = ([], ⟨.normal, .punct, false⟩) := by
      simp [nrun, nstep, Mode.isTop, mstep, mstepN, isWsC]
    rw [this]; simp
  have h2 : nrun Pitem ⟨.normal, k, pd⟩ ('/' :: c :: cs) =
      ('/' :: (nrun Pitem ⟨.normal, .punct, false⟩ (c :: cs)).1, (nrun Pitem ⟨.normal, .punct, false⟩ (c :: cs)).2) := by
    have e : ('/' :: c :: cs) = ['/'] ++ (c :: cs) := rfl
    rw [e, nrun_append, nrun_punct Pitem k pd '/' (by decide) (by decide)]
    have : mstep .normal '/' = .slash := by decide
    rw [this, nrun_slash_start Pitem .punct false c cs hc]; simp
  rw [h1, h2]

theorem EqRun_sepOut (sep : Sep) (rE rC : Str) (hr : EqRun Pitem rE rC)
    (hC : ∃ c cs, rC = c :: cs ∧ c ≠ '*') :
    EqRun Pitem (sepOut .expanded sep ++ rE) (sepOut .compressed sep ++ rC) := by
  cases sep with
  | space => exact EqRun_append (EqRun_refl _ _) (by decide) hr
  | comma =>
    exact EqRun_append (EqRun_after Pitem ',' [' '] (by decide) (by decide) (by decide) (by decide)) (by decide) hr
  | slash =>
    -- first the rest of the list, then the separator
    exact EqRun_trans (EqRun_append (EqRun_refl _ _) (by decide) hr) (EqRun_slash rC hC)

theorem EqRun_listLoop (sep : Sep) (l : List Atom) (h : l.all Atom.g = true) :
    EqRun Pitem (listLoop .expanded sep l) (listLoop .compressed sep l) := by
  induction l with
  | nil => exact EqRun_refl _ _
  | cons a r ih =>
    simp only [List.all_cons, Bool.and_eq_true] at h
    cases r with
    | nil => exact EqRun_refl _ _
    | cons b r' =>
      simp only [listLoop, List.append_assoc]
      exact EqRun_append (EqRun_refl _ _) (atom_props a h.1).1
        (EqRun_sepOut sep _ _ (ih h.2) ((flat_listLoop .compressed sep _ h.2).2 (by simp)))

/-! ### both styles print the same canonical text -/

theorem nm_of_EqRun {P : Char → Bool} {a b : Str} (h : EqRun P a b) : nm P a = nm P b := by
  simp only [nm, h NS.init rfl]

theorem sel_nm (sel : Selector) (h : selG sel = true) :
    nm Ppre (rulePrelude .compressed sel) = nm Ppre (rulePrelude .expanded sel) := by
  simp only [selG, Bool.and_eq_true] at h
  exact (nm_of_EqRun (EqRun_selectorLoop true _ h.1.1)).symm

theorem EqRun_value (v : Value) (h : v.g = true) (hb : v.isBlank = false) :
    EqRun Pitem (v.out .expanded) (v.out .compressed) := by
  cases v with
  | atom a => exact EqRun_refl _ _
  | list sep items => exact EqRun_listLoop sep _ (g_filter items h)

theorem decl_nm (name : Str) (custom : Bool) (v : Value) (hn : flat name = true) (hv : v.g = true) (hb : v.isBlank = false) :
    nm Pitem (declText .compressed name custom v) = nm Pitem (declText .expanded name custom v) := by
  refine (nm_of_EqRun ?_).symm
  simp only [declText]
  have hsp : EqRun Pitem ([':'] ++ (if (!custom && !Style.isCompressed .expanded) = true then [' '] else []))
      ([':'] ++ (if (!custom && !Style.isCompressed .compressed) = true then [' '] else [])) := by
    cases custom
    · exact EqRun_after Pitem ':' [' '] (by decide) (by decide) (by decide) (by decide)
    · exact EqRun_refl _ _
  have hse : flat ([':'] ++ (if (!custom && !Style.isCompressed .expanded) = true then [' '] else [])) = true := by
    cases custom <;> decide
  have := EqRun_append (EqRun_append (EqRun_refl Pitem name) hn hsp) (flat_append hn hse) (EqRun_value v hv hb)
  simpa [List.append_assoc] using this

theorem EqRun_joinQueries (l : List Str) (h : l.all flat = true) :
    EqRun Ppre (joinWith (',' :: optSp .expanded) l) (joinWith (',' :: optSp .compressed) l) := by
  induction l with
  | nil => exact EqRun_refl _ _
  | cons x r ih =>
    simp only [List.all_cons, Bool.and_eq_true] at h
    cases r with
    | nil => exact EqRun_refl _ _
    | cons y r' =>
      simp only [joinWith, List.append_assoc]
      exact EqRun_append (EqRun_refl _ _) h.1 (EqRun_append
        (EqRun_after Ppre ',' [' '] (by decide) (by decide) (by decide) (by decide)) (by decide) (ih h.2))

theorem media_nm (qs : List Query) (h : (qs.map queryOut).all flat = true) :
    nm Ppre (mediaPrelude .compressed qs) = nm Ppre (mediaPrelude .expanded qs) := by
  refine (nm_of_EqRun ?_).symm
  simp only [mediaPrelude]
  exact EqRun_append (EqRun_refl _ _) (by decide) (EqRun_joinQueries _ h)


mutual
theorem g_props : ∀ (s : Stmt), s.g = true →
    (∀ st, s.readable st = true) ∧ canonStmt .compressed s = canonStmt .expanded s
  | .rule ge sel body, h => by
    rw [canonStmt, canonStmt]
    cases hv : (Stmt.rule ge sel body).isInvisible
    · simp only [Stmt.g, hv, Bool.false_or, Bool.and_eq_true] at h
      obtain ⟨hr, hc⟩ := gs_props body h.2
      simp only [Stmt.readable, hv, Bool.false_or, Bool.and_eq_true, sel_nm sel h.1, hc]
      exact ⟨fun st => ⟨sel_hdrOk sel h.1 st, hr st⟩, trivial⟩
    · simp [Stmt.readable, hv]
  | .decl name custom v, h => by
    rw [canonStmt, canonStmt]
    cases hb : v.isBlank
    · simp only [Stmt.g, hb, Bool.false_or, Bool.and_eq_true] at h
      simp only [Stmt.readable, hb, Bool.false_or, Bool.false_eq_true, if_false, decl_nm name custom v h.1.1 h.2 hb]
      exact ⟨decl_hdrOk name custom v h.1.1 h.1.2 h.2 hb, trivial⟩
    · simp [Stmt.readable, hb]
  | .media ge qs body, h => by
    rw [canonStmt, canonStmt]
    cases hv : (Stmt.media ge qs body).isInvisible
    · simp only [Stmt.g, hv, Bool.false_or, Bool.and_eq_true] at h
      obtain ⟨hr, hc⟩ := gs_props body h.2
      simp only [Stmt.readable, hv, Bool.false_or, Bool.and_eq_true, media_nm qs h.1, hc]
      exact ⟨fun st => ⟨media_hdrOk qs h.1 st, hr st⟩, trivial⟩
    · simp [Stmt.readable, hv]
  | .supports ge p body, h => by
    rw [canonStmt, canonStmt]
    cases hv : (Stmt.supports ge p body).isInvisible
    · simp only [Stmt.g, hv, Bool.false_or, Bool.and_eq_true] at h
      obtain ⟨hr, hc⟩ := gs_props body h.2
      simp only [Stmt.readable, hv, Bool.false_or, Bool.and_eq_true, hc]
      exact ⟨fun st => ⟨h.1, hr st⟩, trivial⟩
    · simp [Stmt.readable, hv]
  | .unknown ge n p hb body, h => by
    simp only [Stmt.g, Bool.and_eq_true] at h
    obtain ⟨hr, hc⟩ := gs_props body h.2
    rw [canonStmt, canonStmt, hc]
    simp only [Stmt.readable, Bool.and_eq_true]
    exact ⟨fun st => ⟨h.1, hr st⟩, trivial⟩
  | .kf sels body, h => by
    rw [canonStmt, canonStmt]
    cases hv : (Stmt.kf sels body).isInvisible
    · simp only [Stmt.g, hv, Bool.false_or, Bool.and_eq_true] at h
      obtain ⟨hr, hc⟩ := gs_props body h.2
      simp only [Stmt.readable, hv, Bool.false_or, Bool.and_eq_true, hc]
      exact ⟨fun st => ⟨h.1, hr st⟩, trivial⟩
    · simp [Stmt.readable, hv]
  | .comment text col, h => by
    rw [canonStmt, canonStmt]
    exact ⟨fun _ => by simpa [Stmt.g, Stmt.readable] using h, rfl⟩
  | .import url mods, h => by
    rw [canonStmt, canonStmt]
    exact ⟨fun _ => by simpa [Stmt.g, Stmt.readable] using h, rfl⟩
theorem gs_props : ∀ (ss : Stmts), ss.g = true →
    (∀ st, ss.readable st = true) ∧ canonKids .compressed ss = canonKids .expanded ss
  | .nil, _ => ⟨fun _ => rfl, by rw [canonKids, canonKids]⟩
  | .cons s ss, h => by
    simp only [Stmts.g, Bool.and_eq_true] at h
    obtain ⟨a1, a2⟩ := g_props s h.1
    obtain ⟨b1, b2⟩ := gs_props ss h.2
    rw [canonKids, canonKids, a2, b2]
    simp only [Stmts.readable, a1, b1, Bool.and_self, implies_true, true_and]
end

theorem gs_readable (st : Style) : ∀ (ss : Stmts), ss.g = true → ss.readable st = true :=
  fun ss h => (gs_props ss h).1 st

theorem gs_canon : ∀ (ss : Stmts), ss.g = true → canonKids .compressed ss = canonKids .expanded ss :=
  fun ss h => (gs_props ss h).2

theorem treeG_readable (st : Style) (t : List Stmt) (h : treeG t = true) : treeReadable st t = true := by
  simp only [treeG, treeReadable, List.all_eq_true] at *
  exact fun s hs => (g_props s (h s hs)).1 st

theorem treeG_canon (t : List Stmt) (h : treeG t = true) : canonTop .compressed t = canonTop .expanded t := by
  induction t with
  | nil => rfl
  | cons s ss ih =>
    simp only [treeG, List.all_cons, Bool.and_eq_true] at h
    simp only [canonTop, (g_props s h.1).2, ih (by simpa [treeG] using h.2)]

end Grass.Serialize
