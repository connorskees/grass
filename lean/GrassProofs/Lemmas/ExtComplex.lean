import Grass.Extend
import GrassProofs.Lemmas.ExtSem
import GrassProofs.Lemmas.SelGen
/-
  C10 at the complex level.  `tau`: crediting a class to the elements matched by a compound is plain
  matching in the context where those elements carry the class (successive @extends).
-/
namespace Grass.Extend
open Grass.Selector

/-! ### choosing an alternative at every component -/

/-- what `extend_complex` offers in place of one component: single compounds that between them match
    (under `mc`) exactly what `mc' c` matches -/
def Choice (mc mc' : Compound → Ctx → Bool) : Component → List Complex → Prop
  | .comb cb, ch => ch = [[.comb cb]]
  | .compound c, ch =>
    (∀ a ∈ ch, ∃ u, a = [.compound u]) ∧ ∀ q, mc' c q = true ↔ ∃ u, [.compound u] ∈ ch ∧ mc u q = true

def Choices (mc mc' : Compound → Ctx → Bool) : Complex → List (List Complex) → Prop
  | [], [] => True
  | cp :: X, ch :: chs => Choice mc mc' cp ch ∧ Choices mc mc' X chs
  | _, _ => False

theorem anchored_choice {mc mc' : Compound → Ctx → Bool} :
    ∀ (X : Complex) (chs : List (List Complex)), Choices mc mc' X chs → ∀ (q p : Ctx),
      (Anchored mc' X q p ↔ ∃ path, Pick path chs ∧ Anchored mc (path.flatMap id) q p) ∧
      (AnchoredRest mc' X q p ↔ ∃ path, Pick path chs ∧ AnchoredRest mc (path.flatMap id) q p)
  | [], [], _ => by
    intro q p
    constructor
    · constructor
      · intro h; exact absurd h anchored_nil
      · rintro ⟨path, hp, h⟩
        cases path with
        | nil => exact absurd h anchored_nil
        | cons _ _ => exact hp.elim
    · constructor
      · intro h; exact ⟨[], trivial, h⟩
      · rintro ⟨path, hp, h⟩
        cases path with
        | nil => exact h
        | cons _ _ => exact hp.elim
  | [], _ :: _, h => h.elim
  | _ :: _, [], h => h.elim
  | cp :: X, ch :: chs, ⟨hc, hX⟩ => by
    have ih := anchored_choice X chs hX
    intro q p
    simp only [exists_pick_cons, List.flatMap_cons, id]
    cases cp with
    | comb cb =>
      cases hc
      constructor
      · constructor
        · intro h; exact absurd h anchored_comb_head
        · rintro ⟨a, ha, path, _, h⟩
          rw [List.mem_singleton.1 ha] at h
          exact absurd h anchored_comb_head
      · constructor
        · rintro ⟨q2, hq, h⟩
          obtain ⟨path, hp, h⟩ := (ih q2 p).1.1 h
          exact ⟨_, List.mem_singleton.2 rfl, path, hp, q2, hq, h⟩
        · rintro ⟨a, ha, path, hp, h⟩
          rw [List.mem_singleton.1 ha] at h
          obtain ⟨q2, hq, h⟩ := h
          exact ⟨q2, hq, (ih q2 p).1.2 ⟨path, hp, h⟩⟩
    | compound c =>
      obtain ⟨hshape, hsem⟩ := hc
      have hG : ∀ q p, Anchored mc' (.compound c :: X) q p ↔
          ∃ a ∈ ch, ∃ path, Pick path chs ∧ Anchored mc (a ++ path.flatMap id) q p := by
        intro q p
        rw [anchored_cons, hsem q, (ih q p).2]
        constructor
        · rintro ⟨⟨u, hu, hm⟩, path, hp, ht⟩
          exact ⟨_, hu, path, hp, anchored_cons.2 ⟨hm, ht⟩⟩
        · rintro ⟨a, ha, path, hp, h⟩
          obtain ⟨u, rfl⟩ := hshape a ha
          obtain ⟨hm, ht⟩ := anchored_cons.1 h
          exact ⟨⟨u, ha, hm⟩, path, hp, ht⟩
      refine ⟨hG q p, ?_⟩
      constructor
      · rintro ⟨q2, hq, h⟩
        obtain ⟨a, ha, path, hp, h⟩ := (hG q2 p).1 h
        obtain ⟨u, rfl⟩ := hshape a ha
        exact ⟨_, ha, path, hp, q2, hq, h⟩
      · rintro ⟨a, ha, path, hp, h⟩
        obtain ⟨u, rfl⟩ := hshape a ha
        obtain ⟨q2, hq, h⟩ := h
        exact ⟨q2, hq, (hG q2 p).2 ⟨_, ha, path, hp, h⟩⟩

/-! ### what `trim` returns is taken from its input -/

theorem pullOut_spec (c1 : Complex) (n : Nat) (result : List Flagged) (f : Flagged) (rest : List Flagged)
    (h : pullOut c1 n result = some (f, rest)) : f.1 = c1 ∧ ∀ x, x ∈ f :: rest ↔ x ∈ result := by
  fun_induction pullOut c1 n result generalizing f rest with
  | case1 => cases h
  | case2 => cases h
  | case3 n r rs hr =>
    cases h
    exact ⟨hr, fun _ => Iff.rfl⟩
  | case4 n r rs hr f' rest' hp ih =>
    cases h
    obtain ⟨e, hm⟩ := ih _ _ hp
    refine ⟨e, fun x => ?_⟩
    rw [List.mem_cons, List.mem_cons, List.mem_cons, ← hm x, List.mem_cons]
    exact or_left_comm
  | case5 => cases h

theorem trimGo_mem (sup : Complex → Complex → Bool) (srcSpec : Simple → Nat)
    (rest result : List Flagged) (n : Nat) (x : Flagged)
    (h : x ∈ trimGo sup srcSpec rest result n) : x ∈ rest ∨ x ∈ result := by
  have cons_or : ∀ {y : Flagged} {earlier result : List Flagged},
      x ∈ earlier ∨ x ∈ y :: result → x ∈ y :: earlier ∨ x ∈ result := by
    intro y earlier result h
    rcases h with h | h
    · exact Or.inl (List.mem_cons_of_mem _ h)
    · rcases List.mem_cons.1 h with rfl | h
      · exact Or.inl (List.mem_cons_self ..)
      · exact Or.inr h
  fun_induction trimGo sup srcSpec rest result n with
  | case1 result n => exact Or.inr h
  | case2 c1 earlier result n f rest' hp ih =>
    rcases ih h with h1 | h1
    · exact Or.inl (List.mem_cons_of_mem _ h1)
    · exact Or.inr (((pullOut_spec c1 n result f rest' hp).2 x).1 h1)
  | case3 c1 earlier result n hp ih => exact cons_or (ih h)
  | case4 c1 earlier result n ms covered hcov ih =>
    rcases ih h with h1 | h1
    · exact Or.inl (List.mem_cons_of_mem _ h1)
    · exact Or.inr h1
  | case5 c1 earlier result n ms covered hcov ih => exact cons_or (ih h)

theorem trim_mem (sup : Complex → Complex → Bool) (srcSpec : Simple → Nat) (sels : List Flagged) (x : Flagged)
    (h : x ∈ trim sup srcSpec sels) : x ∈ sels := by
  unfold trim at h
  split at h
  · exact h
  · rcases trimGo_mem sup srcSpec _ _ _ x h with h1 | h1
    · simpa using h1
    · simp at h1

/-! ### credited matching is `gComplex (cComp credit)` -/

theorem cSteps_eq_stepsWith (credit : Simple → Ctx → Bool) : ∀ (st : RSteps) (p : Ctx), cSteps credit st p = stepsWith (cComp credit) st p := by
  intro st
  induction st with
  | nil => intro p; simp [cSteps, stepsWith]
  | cons x rest ih => intro p; obtain ⟨r, c⟩ := x; simp [cSteps, stepsWith, ih]

theorem cComplex_eq_complexWith (credit : Simple → Ctx → Bool) (X : Complex) (p : Ctx) :
    cComplex credit X p = complexWith (cComp credit) X p := by
  unfold cComplex complexWith
  cases norm X <;> simp [cSteps_eq_stepsWith]

theorem cComplex_credC (E : Compound) (T : Simple) (X : Complex) (hX : noSelX X = true) (p : Ctx) :
    cComplex (credit1 E T) X p = true ↔ ∃ q, Anchored (credC E T) X q p := by
  rw [cComplex_eq_complexWith, complexWith_iff]
  have hc : ∀ c, Component.compound c ∈ X → ∀ q, cComp (credit1 E T) c q = credC E T c q := by
    intro c hc q
    exact cComp_noSel E T q c (noSelC_of_mem hX hc)
  constructor
  · rintro ⟨q, h⟩; exact ⟨q, (anchored_congr hc q p).1 h⟩
  · rintro ⟨q, h⟩; exact ⟨q, (anchored_congr hc q p).2 h⟩

theorem cList_of_matches (E : Compound) (T : Simple) (L : SelList) (hL : ∀ X ∈ L, noSelX X = true) (p : Ctx)
    (hm : matchesList L p = true) : cList (credit1 E T) L p = true := by
  unfold cList
  unfold matchesList at hm
  rw [List.any_eq_true] at hm ⊢
  obtain ⟨X, hX, hXm⟩ := hm
  refine ⟨X, hX, ?_⟩
  rw [cComplex_credC _ _ _ (hL X hX)]
  obtain ⟨q, hq⟩ := (matchesComplex_iff X p).1 hXm
  refine ⟨q, anchored_mono (fun c _ q h => ?_) hq⟩
  simp only [credC, List.all_eq_true, Bool.or_eq_true]
  intro s hs
  exact Or.inl (mComp_mem h hs)

/-! ### relabelling the elements of a context -/

def elemOnly (el : Elem) : Ctx := ⟨⟨el, []⟩, []⟩

def addCls (F : Compound) (n : Name) (el : Elem) : Elem :=
  if mComp F (elemOnly el) then { el with classes := n :: el.classes } else el

def tauL (g : Elem → Elem) (l : Level) : Level := ⟨g l.el, l.sibs.map g⟩
def tau (g : Elem → Elem) (p : Ctx) : Ctx := ⟨tauL g p.cur, p.anc.map (tauL g)⟩

theorem mSimple_local (s : Simple) (p : Ctx) (h : s.isSel = false) : mSimple s p = mSimple s (elemOnly p.cur.el) := by
  cases s with
  | sel k a => simp [Simple.isSel] at h
  | attr n v => cases v <;> rfl
  | _ => rfl

theorem mComp_local (c : Compound) (p : Ctx) (h : noSelC c = true) : mComp c p = mComp c (elemOnly p.cur.el) := by
  rw [mComp_eq_all, mComp_eq_all]
  exact all_congr_mem fun s hs => mSimple_local s p (noSelC_mem h hs)

theorem mSimple_tau (F : Compound) (n : Name) (hF : noSelC F = true) (s : Simple) (p : Ctx) (h : s.isSel = false) :
    mSimple s (tau (addCls F n) p) = (mSimple s p || (decide (s = .cls n) && mComp F p)) := by
  have hloc := mComp_local F p hF
  cases s with
  | sel k a => simp [Simple.isSel] at h
  | cls m =>
    simp only [mSimple, tau, tauL, addCls]
    rw [hloc]
    by_cases hm : mComp F (elemOnly p.cur.el) = true
    · simp only [hm, if_true, List.contains_cons, Bool.and_true]
      by_cases e : m = n
      · subst e; simp
      · have : (Simple.cls m = Simple.cls n) = False := by simp [e]
        simp [e, this]
    · simp [hm]
  | attr a v =>
    have hat : (tau (addCls F n) p).cur.el.attrs = p.cur.el.attrs := by
      simp only [tau, tauL, addCls]; split <;> rfl
    cases v <;> simp [mSimple, hat]
  | univ => simp [mSimple]
  | type a => simp only [mSimple, tau, tauL, addCls]; split <;> simp
  | id a => simp only [mSimple, tau, tauL, addCls]; split <;> simp
  | pclass a => simp only [mSimple, tau, tauL, addCls]; split <;> simp
  | pelem a => simp only [mSimple, tau, tauL, addCls]; split <;> simp
  | placeholder a => simp [mSimple]
  | parent a => simp [mSimple]

theorem splits_map {α β : Type} (g : α → β) : ∀ (l : List α),
    splits (l.map g) = (splits l).map fun xt => (g xt.1, xt.2.map g) := by
  intro l
  induction l with
  | nil => rfl
  | cons x xs ih => simp [splits, ih]

theorem steps_tau (g : Elem → Elem) (r : Rel) (p : Ctx) : steps r (tau g p) = (steps r p).map (tau g) := by
  obtain ⟨⟨el, sibs⟩, anc⟩ := p
  cases r with
  | child => cases anc <;> simp [steps, tau, tauL]
  | desc => simp [steps, tau, tauL, splits_map, List.map_map, Function.comp_def]
  | next => cases sibs <;> simp [steps, tau, tauL]
  | later => simp [steps, tau, tauL, splits_map, List.map_map, Function.comp_def]

theorem anchoredFwd_tau (g : Elem → Elem) (mc : Compound → Ctx → Bool) (p : Ctx) :
    ∀ (st : List (Rel × Compound)) (c : Compound) (q' : Ctx),
      AnchoredFwd mc c st q' (tau g p) ↔ ∃ q, q' = tau g q ∧ AnchoredFwd (fun c q => mc c (tau g q)) c st q p := by
  intro st
  induction st with
  | nil =>
    intro c q'
    simp only [AnchoredFwd]
    constructor
    · rintro ⟨e, h⟩; exact ⟨p, e, rfl, h⟩
    · rintro ⟨q, e, rfl, h⟩; exact ⟨e, h⟩
  | cons x rest ih =>
    intro c q'
    obtain ⟨r, d⟩ := x
    simp only [AnchoredFwd]
    constructor
    · rintro ⟨hc, q2', hq, hrest⟩
      obtain ⟨q2, rfl, hr2⟩ := (ih d q2').1 hrest
      rw [steps_tau, List.mem_map] at hq
      obtain ⟨q, hq1, rfl⟩ := hq
      exact ⟨q, rfl, hc, q2, hq1, hr2⟩
    · rintro ⟨q, rfl, hc, q2, hq1, hr2⟩
      exact ⟨hc, tau g q2, by rw [steps_tau]; exact List.mem_map.2 ⟨q, hq1, rfl⟩, (ih d _).2 ⟨q2, rfl, hr2⟩⟩

theorem anchored_tau (g : Elem → Elem) (mc : Compound → Ctx → Bool) (X : Complex) (q' p : Ctx) :
    Anchored mc X q' (tau g p) ↔ ∃ q, q' = tau g q ∧ Anchored (fun c q => mc c (tau g q)) X q p := by
  unfold Anchored
  cases fwd X with
  | none => simp
  | some cs => exact anchoredFwd_tau g mc p cs.2 cs.1 q'

/-! ### `weave` on single components -/

theorem weaveStep_single (wp : Complex → Complex → Option (List Complex)) (pre : Complex) (c : Component) :
    weaveStep wp [pre] [c] = [pre ++ [c]] := by
  simp [weaveStep]

theorem weave_foldl_singletons (wp : Complex → Complex → Option (List Complex)) :
    ∀ (rest : List Complex) (pre : Complex), (∀ x ∈ rest, ∃ c, x = [c]) →
      rest.foldl (weaveStep wp) [pre] = [pre ++ rest.flatMap id] := by
  intro rest
  induction rest with
  | nil => intro pre _; simp
  | cons x xs ih =>
    intro pre h
    obtain ⟨c, rfl⟩ := h x (by simp)
    rw [List.foldl_cons, weaveStep_single, ih (pre ++ [c]) (fun y hy => h y (by simp [hy]))]
    simp [List.flatMap_cons]

theorem weaveWith_singletons (wp : Complex → Complex → Option (List Complex)) (path : List Complex)
    (hne : path ≠ []) (h : ∀ x ∈ path, ∃ c, x = [c]) : weaveWith wp path = [path.flatMap id] := by
  cases path with
  | nil => exact absurd rfl hne
  | cons first rest =>
    simp only [weaveWith]
    rw [weave_foldl_singletons wp rest first (fun y hy => h y (by simp [hy]))]
    simp [List.flatMap_cons]

end Grass.Extend
