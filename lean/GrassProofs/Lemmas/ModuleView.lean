import Grass.Module
import GrassProofs.Lemmas.ModuleAssoc
/-
  Member views: each property is shown for one view constructor at a time and carried to `scopeView`
  by induction on the cache.
-/
namespace Grass.Module

/-! ### key-completeness (specified views only) -/

def View.KeysComplete (v : View) : Prop := ∀ n, (v.get n).isSome = true → n ∈ v.keys
def View.KeysSound (v : View) : Prop := ∀ n, n ∈ v.keys → (v.get n).isSome = true
/-- `is_empty()` is truthful -/
def View.EmptyOK (v : View) : Prop := v.nonempty = false → ∀ n, v.get n = none

structure View.Good (v : View) : Prop where
  complete : v.KeysComplete
  emptyOK : v.EmptyOK

theorem isPrefixOf_append_drop (p n : Ident) (h : p.isPrefixOf n = true) : p ++ n.drop p.length = n := by
  rw [List.isPrefixOf_iff_prefix] at h
  exact List.prefix_iff_eq_append.mp h

theorem good_empty : View.empty.Good := ⟨by intro n h; simp [View.empty] at h, by intro _ n; rfl⟩

theorem good_base (id : Nat) (own : List Ident) : (View.base id own).Good := by
  refine ⟨?_, ?_⟩
  · intro n h
    simp only [View.base] at h ⊢
    split at h
    · simp_all
    · simp at h
  · intro h n
    simp only [View.base] at h ⊢
    have : own = [] := by simpa using h
    subst this; simp

theorem good_pub (v : View) (hv : v.Good) : (View.pub v).Good := by
  refine ⟨?_, ?_⟩
  · intro n h
    simp only [View.pub] at h ⊢
    split at h
    · simp at h
    · rename_i hp
      simp only [List.mem_filter]
      exact ⟨hv.complete n h, by simpa using hp⟩
  · intro h n
    simp only [View.pub] at h ⊢
    split
    · rfl
    · exact hv.emptyOK h n

theorem good_prefixed (v : View) (p : Ident) (hv : v.Good) : (View.prefixed false v p).Good := by
  refine ⟨?_, ?_⟩
  · intro n h
    simp only [View.prefixed] at h ⊢
    split at h
    · rename_i hp
      simp only [Bool.false_eq_true, if_false, List.mem_map]
      exact ⟨n.drop p.length, hv.complete _ h, isPrefixOf_append_drop p n hp⟩
    · simp at h
  · intro h n
    simp only [View.prefixed] at h ⊢
    split
    · exact hv.emptyOK h _
    · rfl

/-- `LimitedMapView`: `v` seen through the fixed key list `ks`; `View.safelist` and `View.blocklist`
    are this view for their two key lists (by `rfl`). -/
def View.restrict (v : View) (ks : List Ident) : View :=
  ⟨fun n => if ks.contains n then v.get n else none, ks, !ks.isEmpty⟩

theorem good_restrict (v : View) (ks : List Ident) : (v.restrict ks).Good := by
  refine ⟨?_, ?_⟩
  · intro n h
    simp only [View.restrict] at h ⊢
    split at h
    · rename_i hc; simpa using hc
    · cases h
  · intro h n
    have : ks = [] := by simpa [View.restrict] using h
    subst this
    rfl

theorem good_merged (vs : List View) (hv : ∀ v ∈ vs, v.Good) : (View.merged vs).Good := by
  have hc : (View.merged vs).KeysComplete := by
    intro n h
    simp only [View.merged] at h ⊢
    rw [List.mem_eraseDups, List.mem_flatMap]
    cases hf : List.findSome? (fun v => v.get n) vs.reverse with
    | none => simp [hf] at h
    | some o =>
      obtain ⟨v, hm, hg⟩ := List.exists_of_findSome?_eq_some hf
      exact ⟨v, by simpa using hm, (hv v (by simpa using hm)).complete n (by simp [hg])⟩
  refine ⟨hc, ?_⟩
  intro h n
  cases hg : (View.merged vs).get n with
  | none => rfl
  | some o =>
    have := hc n (by simp [hg])
    simp only [View.merged] at h this
    have hnil : (List.flatMap (fun x => x.keys) vs).eraseDups = [] := by simpa using h
    rw [hnil] at this
    simp at this

theorem good_limitBy (vis : Vis) (k : Kind) (v : View) (hv : v.Good) : (limitBy vis k v).Good := by
  unfold limitBy
  split
  · exact good_restrict v _
  · split
    · exact hv
    · exact good_restrict v _
  · exact hv

theorem good_forwardedMap (sw : Switches) (hb : sw.prefixedKeysBug = false) (k : Kind) (r : FwdRule)
    (v : View) (hv : v.Good) : (forwardedMap sw k r v).Good := by
  unfold forwardedMap
  have h1 : (prefixBy sw.prefixedKeysBug r.pfx v).Good := by
    unfold prefixBy
    split
    · rw [hb]; exact good_prefixed _ _ hv
    · exact hv
  simp only
  split
  · exact h1
  · exact good_limitBy _ _ _ h1

theorem good_memberMap (id : Nat) (own : List Ident) (others : List View)
    (ho : ∀ v ∈ others, v.Good) : (memberMap (View.base id own) others).Good := by
  unfold memberMap
  simp only
  split
  · exact good_pub _ (good_base id own)
  · apply good_merged
    intro v hv
    simp only [List.mem_append, List.mem_filter, List.mem_singleton] at hv
    rcases hv with ⟨hv, _⟩ | hv
    · exact ho v hv
    · subst hv; exact good_pub _ (good_base id own)

theorem good_scopeView (sw : Switches) (hb : sw.prefixedKeysBug = false) (k : Kind) :
    ∀ (ms : List Mod) (id : Nat), (scopeView sw k ms id).Good := by
  intro ms
  induction ms with
  | nil => intro id; simpa [scopeView] using good_empty
  | cons m rest ih =>
    intro id
    unfold scopeView
    split
    · apply good_memberMap
      intro v hv
      simp only [List.mem_map] at hv
      obtain ⟨f, _, rfl⟩ := hv
      exact good_forwardedMap sw hb _ _ _ (ih f.target)
    · exact ih id

/-! ### key-soundness (every switch setting) -/

theorem sound_empty : View.empty.KeysSound := by intro n h; simp [View.empty] at h

theorem sound_base (id : Nat) (own : List Ident) : (View.base id own).KeysSound := by
  intro n h
  simp only [View.base] at h ⊢
  simp [h]

theorem sound_pub (v : View) (hv : v.KeysSound) : (View.pub v).KeysSound := by
  intro n h
  simp only [View.pub, List.mem_filter] at h ⊢
  have hp : isPrivate n = false := by simpa using h.2
  simp [hp, hv n h.1]

theorem sound_prefixed (b : Bool) (v : View) (p : Ident) (hv : v.KeysSound) : (View.prefixed b v p).KeysSound := by
  intro n h
  simp only [View.prefixed, List.mem_map] at h ⊢
  obtain ⟨k, hk, rfl⟩ := h
  have hk' : k ∈ v.keys := by
    cases b
    · simpa using hk
    · simp only [if_true, List.mem_filter] at hk; exact hk.1
  have hpre : p.isPrefixOf (p ++ k) = true := by simp [List.isPrefixOf_iff_prefix]
  simp [hpre, hv k hk']

theorem sound_restrict (v : View) (ks : List Ident) (h : ∀ k ∈ ks, (v.get k).isSome = true) : (v.restrict ks).KeysSound := by
  intro n (hn : n ∈ ks)
  have hc : ks.contains n = true := by simpa using hn
  simp only [View.restrict, hc, if_true]
  exact h n hn

theorem sound_merged (vs : List View) (hv : ∀ v ∈ vs, v.KeysSound) : (View.merged vs).KeysSound := by
  intro n h
  simp only [View.merged] at h ⊢
  rw [List.mem_eraseDups, List.mem_flatMap] at h
  obtain ⟨v, hm, hk⟩ := h
  rw [List.findSome?_isSome_iff]
  exact ⟨v, by simpa using hm, hv v hm n hk⟩

theorem sound_limitBy (vis : Vis) (k : Kind) (v : View) (hv : v.KeysSound) : (limitBy vis k v).KeysSound := by
  unfold limitBy
  split
  · exact sound_restrict v _ (fun k hk => (List.mem_filter.mp hk).2)
  · split
    · exact hv
    · exact sound_restrict v _ (fun k hk => hv k (List.mem_filter.mp hk).1)
  · exact hv

theorem sound_forwardedMap (sw : Switches) (k : Kind) (r : FwdRule) (v : View) (hv : v.KeysSound) :
    (forwardedMap sw k r v).KeysSound := by
  have h1 : (prefixBy sw.prefixedKeysBug r.pfx v).KeysSound := by
    unfold prefixBy
    split
    · exact sound_prefixed _ _ _ hv
    · exact hv
  unfold forwardedMap
  simp only
  split
  · exact h1
  · exact sound_limitBy _ _ _ h1

theorem sound_memberMap (id : Nat) (own : List Ident) (others : List View) (ho : ∀ v ∈ others, v.KeysSound) :
    (memberMap (View.base id own) others).KeysSound := by
  unfold memberMap
  simp only
  split
  · exact sound_pub _ (sound_base id own)
  · apply sound_merged
    intro v hv
    simp only [List.mem_append, List.mem_filter, List.mem_singleton] at hv
    rcases hv with ⟨hv, _⟩ | hv
    · exact ho v hv
    · subst hv; exact sound_pub _ (sound_base id own)

theorem sound_scopeView (sw : Switches) (k : Kind) : ∀ (ms : List Mod) (id : Nat), (scopeView sw k ms id).KeysSound := by
  intro ms
  induction ms with
  | nil => intro id; simpa [scopeView] using sound_empty
  | cons m rest ih =>
    intro id
    unfold scopeView
    split
    · apply sound_memberMap
      intro v hv
      simp only [List.mem_map] at hv
      obtain ⟨f, _, rfl⟩ := hv
      exact sound_forwardedMap _ _ _ _ (ih f.target)
    · exact ih id

/-! ### the forward view equals `prefix ∘ filter(show/hide)` of the upstream view -/

theorem safelist_get (v1 : View) (s : List Ident) (n : Ident) :
    (View.safelist v1 s).get n = if s.contains n then v1.get n else none := by
  simp only [View.safelist]
  by_cases hm : n ∈ s
  · cases hg : v1.get n with
    | none => simp
    | some o => simp [hm, hg]
  · simp [hm]

theorem blocklist_get (v1 : View) (h1g : v1.Good) (b : List Ident) (n : Ident) :
    (View.blocklist v1 b).get n = if !b.contains n then v1.get n else none := by
  simp only [View.blocklist]
  by_cases hm : n ∈ b
  · simp [hm]
  · cases hg : v1.get n with
    | none => simp
    | some o =>
      have hk := h1g.complete n (by simp [hg])
      simp [hm, hk]

theorem limitBy_get (vis : Vis) (k : Kind) (v1 : View) (h1g : v1.Good) (n : Ident) :
    (limitBy vis k v1).get n = if visAllows vis k n then v1.get n else none := by
  unfold limitBy visAllows
  cases hs : vis.safe k with
  | some s => simp only [safelist_get]
  | none =>
    cases hb : vis.block k with
    | none => simp
    | some b =>
      simp only
      split
      · rename_i he
        have : b = [] := by simpa using he
        subst this; simp
      · exact blocklist_get v1 h1g b n

theorem forwardedMap_get_spec (sw : Switches) (hl : sw.ignoreLists = false) (hb : sw.prefixedKeysBug = false)
    (k : Kind) (r : FwdRule) (v : View) (hv : v.Good) (n : Ident) :
    (forwardedMap sw k r v).get n = fwdSpecGet r k v.get n := by
  have h1g : (prefixBy sw.prefixedKeysBug r.pfx v).Good := by
    unfold prefixBy
    split
    · rw [hb]; exact good_prefixed _ _ hv
    · exact hv
  have h1 : (prefixBy sw.prefixedKeysBug r.pfx v).get n = stripPfx r.pfx v.get n := by
    unfold prefixBy stripPfx
    split <;> simp [View.prefixed]
  unfold forwardedMap fwdSpecGet FwdRule.allows
  simp only [hl, Bool.false_eq_true, if_false]
  rw [limitBy_get r.vis k _ h1g n, h1]

/-! ### the whole scope of a module, without views -/

theorem findSome?_filter_none {α β : Type} (f : α → Option β) (p : α → Bool) :
    ∀ (l : List α), (∀ x ∈ l, p x = false → f x = none) → (l.filter p).findSome? f = l.findSome? f := by
  intro l
  induction l with
  | nil => intro _; rfl
  | cons a l ih =>
    intro h
    have ih' := ih (fun x hx => h x (by simp [hx]))
    by_cases hp : p a = true
    · simp [hp, List.findSome?_cons, ih']
    · simp only [Bool.not_eq_true] at hp
      have := h a (by simp) hp
      simp [hp, ih', this]

theorem memberMap_get (loc : View) (others : List View) (ho : ∀ v ∈ others, v.Good) (n : Ident) :
    (memberMap loc others).get n = ((View.pub loc).get n).or (others.reverse.findSome? (fun v => v.get n)) := by
  unfold memberMap
  simp only
  split
  · rename_i he
    have : others = [] := by simpa using he
    subst this; simp
  · simp only [View.merged, List.reverse_append, List.reverse_cons, List.reverse_nil, List.nil_append,
      List.singleton_append, List.findSome?_cons]
    rw [← List.filter_reverse, findSome?_filter_none]
    · cases (View.pub loc).get n <;> simp
    · intro v hv hne
      exact (ho v (by simpa using hv)).emptyOK hne n

theorem pub_base_get (id : Nat) (own : List Ident) (n : Ident) :
    (View.pub (View.base id own)).get n = if !isPrivate n && own.contains n then some ⟨id, n⟩ else none := by
  simp only [View.pub, View.base]
  cases isPrivate n <;> simp

theorem scopeView_get_spec (sw : Switches) (hl : sw.ignoreLists = false) (hb : sw.prefixedKeysBug = false)
    (k : Kind) : ∀ (ms : List Mod) (id : Nat) (n : Ident), (scopeView sw k ms id).get n = specGet k ms id n := by
  intro ms
  induction ms with
  | nil => intro id n; simp [scopeView, specGet, View.empty]
  | cons m rest ih =>
    intro id n
    unfold scopeView specGet
    split
    · rw [memberMap_get, pub_base_get]
      · congr 1
        rw [← List.map_reverse, List.findSome?_map]
        congr 1
        funext f
        simp only [Function.comp]
        rw [forwardedMap_get_spec sw hl hb k f.rule _ (good_scopeView sw hb k rest f.target) n]
        congr 1
        funext x
        exact ih f.target x
      · intro v hv
        simp only [List.mem_map] at hv
        obtain ⟨f, _, rfl⟩ := hv
        exact good_forwardedMap sw hb _ _ _ (good_scopeView sw hb k rest f.target)
    · exact ih id n

/-! ### origins: what holds of all publicly declared members holds of all a view hands out (privacy) -/

def View.AllOrigins (P : Origin → Prop) (v : View) : Prop := ∀ n o, v.get n = some o → P o

theorem allOrigins_pub_base (P : Origin → Prop) (id : Nat) (own : List Ident)
    (h : ∀ n ∈ own, isPrivate n = false → P ⟨id, n⟩) : (View.pub (View.base id own)).AllOrigins P := by
  intro n o hg
  simp only [View.pub, View.base] at hg
  split at hg
  · cases hg
  · rename_i hp
    split at hg
    · rename_i hc; cases hg; exact h n (by simpa using hc) (by simpa using hp)
    · cases hg

theorem allOrigins_restrict (P : Origin → Prop) (v : View) (ks : List Ident) (hv : v.AllOrigins P) :
    (v.restrict ks).AllOrigins P := by
  intro n o hg
  simp only [View.restrict] at hg
  split at hg
  · exact hv _ _ hg
  · cases hg

theorem allOrigins_limitBy (P : Origin → Prop) (vis : Vis) (k : Kind) (v : View) (hv : v.AllOrigins P) :
    (limitBy vis k v).AllOrigins P := by
  unfold limitBy
  split
  · exact allOrigins_restrict P v _ hv
  · split
    · exact hv
    · exact allOrigins_restrict P v _ hv
  · exact hv

theorem allOrigins_forwardedMap (P : Origin → Prop) (sw : Switches) (k : Kind) (r : FwdRule) (v : View)
    (hv : v.AllOrigins P) : (forwardedMap sw k r v).AllOrigins P := by
  have h1 : (prefixBy sw.prefixedKeysBug r.pfx v).AllOrigins P := by
    intro n o hg
    unfold prefixBy at hg
    split at hg
    · simp only [View.prefixed] at hg; split at hg
      · exact hv _ _ hg
      · cases hg
    · exact hv _ _ hg
  unfold forwardedMap
  simp only
  split
  · exact h1
  · exact allOrigins_limitBy P _ _ _ h1

theorem allOrigins_memberMap (P : Origin → Prop) (loc : View) (others : List View) (hl : (View.pub loc).AllOrigins P)
    (ho : ∀ v ∈ others, v.AllOrigins P) : (memberMap loc others).AllOrigins P := by
  unfold memberMap
  simp only
  split
  · exact hl
  · intro n o hg
    simp only [View.merged] at hg
    obtain ⟨v, hm, hgv⟩ := List.exists_of_findSome?_eq_some hg
    simp only [List.mem_reverse, List.mem_append, List.mem_filter, List.mem_singleton] at hm
    rcases hm with ⟨hm, _⟩ | hm
    · exact ho v hm _ _ hgv
    · subst hm; exact hl _ _ hgv

theorem modAt_lt : ∀ (ms : List Mod) (i : Nat) (m : Mod), modAt ms i = some m → i < ms.length := by
  intro ms
  induction ms with
  | nil => intro i m h; simp [modAt] at h
  | cons a rest ih =>
    intro i m h
    unfold modAt at h
    split at h
    · simp_all
    · have := ih i m h; simp; omega

theorem allOrigins_scopeView (P : Origin → Prop) (sw : Switches) (k : Kind) :
    ∀ (ms : List Mod) (id : Nat), (∀ i m, modAt ms i = some m → ∀ n ∈ m.names k, isPrivate n = false → P ⟨i, n⟩) →
      (scopeView sw k ms id).AllOrigins P := by
  intro ms
  induction ms with
  | nil => intro id _ n o h; simp [scopeView, View.empty] at h
  | cons m rest ih =>
    intro id hP
    have hrest : ∀ i m', modAt rest i = some m' → ∀ n ∈ m'.names k, isPrivate n = false → P ⟨i, n⟩ := by
      intro i m' hm
      have hlt := modAt_lt rest i m' hm
      apply hP i m'
      unfold modAt
      rw [if_neg (by omega)]
      exact hm
    unfold scopeView
    split
    · rename_i hid
      apply allOrigins_memberMap
      · apply allOrigins_pub_base
        exact hP id m (by unfold modAt; rw [if_pos hid])
      · intro v hv
        simp only [List.mem_map] at hv
        obtain ⟨f, _, rfl⟩ := hv
        exact allOrigins_forwardedMap P _ _ _ _ (ih f.target hrest)
    · exact ih id hrest

theorem readVar_eq_modAt : ∀ (ms : List Mod) (i : Nat) (n : Ident),
    readVar ms i n = (modAt ms i).bind (fun m => m.vars.lookup n) := by
  intro ms
  induction ms with
  | nil => intros; rfl
  | cons a rest ih =>
    intro i n
    unfold readVar modAt
    split
    · rfl
    · exact ih i n

theorem scopeView_var_exists (sw : Switches) (ms : List Mod) (id : Nat) (n : Ident) (o : Origin)
    (h : (scopeView sw .var ms id).get n = some o) : (readVar ms o.owner o.name).isSome = true := by
  refine allOrigins_scopeView (fun o => (readVar ms o.owner o.name).isSome = true) sw .var ms id ?_ n o h
  intro i m hm x hx _
  simp only [readVar_eq_modAt, hm, Option.bind_some]
  exact (lookup_isSome_iff_mem_keys _ _).mpr (by simpa [Mod.names] using hx)

/-! ### assignment keeps every view and updates the one shared variable -/

theorem readVar_setVar : ∀ (ms : List Mod) (id : Nat) (n : Ident) (v : Val),
    (readVar ms id n).isSome = true → readVar (setVar ms id n v) id n = some v := by
  intro ms
  induction ms with
  | nil => intro id n v h; simp [readVar] at h
  | cons m rest ih =>
    intro id n v h
    unfold readVar at h
    unfold setVar
    split
    · rename_i hid
      rw [if_pos hid] at h
      unfold readVar
      rw [if_pos hid]
      rw [lookup_setAssoc, if_pos rfl]
    · rename_i hid
      rw [if_neg hid] at h
      unfold readVar
      rw [setVar_length, if_neg hid]
      exact ih id n v h

theorem scopeView_setVar (sw : Switches) (k : Kind) : ∀ (ms : List Mod) (id : Nat) (n : Ident) (v : Val) (i : Nat),
    (readVar ms id n).isSome = true → scopeView sw k (setVar ms id n v) i = scopeView sw k ms i := by
  intro ms
  induction ms with
  | nil => intros; rfl
  | cons m rest ih =>
    intro id n v i h
    unfold readVar at h
    unfold setVar
    split
    · rename_i hid
      rw [if_pos hid] at h
      unfold scopeView
      have hn : ({ m with vars := setAssoc m.vars n v } : Mod).names k = m.names k := by
        cases k <;> simp [Mod.names, setAssoc_keys _ _ _ h]
      simp only [hn]
    · rename_i hid
      rw [if_neg hid] at h
      unfold scopeView
      rw [setVar_length]
      split
      · congr 1
        apply List.map_congr_left
        intro f _
        rw [ih id n v f.target h]
      · exact ih id n v i h

end Grass.Module
