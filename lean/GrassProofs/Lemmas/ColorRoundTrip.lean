import GrassProofs.Lemmas.ColorConv
/-
  Helper lemmas for C15: rgb → hsl → rgb (`as_hsla` then `from_hsla`) in exact rationals.  At the
  sextant position rgb → hsl assigns to a triple, the three evaluations of `hue_to_rgb` return the
  triple (`hueToRgb_recovers`).  `rgbToHslE` is `rgbToHsl` with exact comparisons; on multiples of
  1/255 the fuzzy comparisons of the code are exact (`rgbToHsl_eq_E`).
-/
namespace Grass.Color

def rgbToHslE (red green blue : Rat) : Rat × Rat × Rat :=
  let mn := min3 red green blue; let mx := max3 red green blue
  let lightness := (mn + mx) / 2
  let saturation :=
    if mn = mx then 0
    else (mx - mn) / (if mx + mn > 1 then 2 - (mx + mn) else mx + mn)
  let hue :=
    if mn = mx then 0
    else if blue = mx then 4 + (red - green) / (mx - mn)
    else if green = mx then 2 + (blue - red) / (mx - mn)
    else (green - blue) / (mx - mn)
  let hue := if hue < 0 then hue + 360 else hue
  let hue := hue * 60
  (sassMod hue 360, saturation, lightness)

/-! ### `hue_to_rgb` along the hue circle

  Each piece on its closed interval (the function is continuous): no ordering needs a boundary case. -/

theorem hueToRgb_rise {m1 m2 u : Rat} (h0 : 0 ≤ u) (h1 : u ≤ 1/6) : hueToRgb m1 m2 u = (m2 - m1) * u * 6 + m1 := by
  unfold hueToRgb; grind
theorem hueToRgb_top {m1 m2 u : Rat} (h0 : 1/6 ≤ u) (h1 : u ≤ 1/2) : hueToRgb m1 m2 u = m2 := by
  unfold hueToRgb; grind
theorem hueToRgb_fall {m1 m2 u : Rat} (h0 : 1/2 ≤ u) (h1 : u ≤ 2/3) :
    hueToRgb m1 m2 u = (m2 - m1) * (2/3 - u) * 6 + m1 := by
  by_cases h : u = 2/3
  · subst h; unfold hueToRgb; grind
  · unfold hueToRgb; grind
theorem hueToRgb_bottom {m1 m2 u : Rat} (h0 : 2/3 ≤ u) (h1 : u ≤ 1) : hueToRgb m1 m2 u = m1 := by
  unfold hueToRgb; grind
theorem hueToRgb_wrap_hi {m1 m2 u : Rat} (h0 : 1 ≤ u) (h1 : u ≤ 2) : hueToRgb m1 m2 u = hueToRgb m1 m2 (u - 1) := by
  unfold hueToRgb; grind
theorem hueToRgb_wrap_lo {m1 m2 u : Rat} (h0 : -1 ≤ u) (h1 : u ≤ 0) : hueToRgb m1 m2 u = hueToRgb m1 m2 (u + 1) := by
  unfold hueToRgb; grind

theorem hueToRgb_affine (m1 m2 u : Rat) : hueToRgb 0 1 u * (m2 - m1) + m1 = hueToRgb m1 m2 u := by
  unfold hueToRgb
  extract_lets a b
  clear_value b
  grind

theorem hueToRgb_const (m u : Rat) : hueToRgb m m u = m := by
  rw [← hueToRgb_affine]; grind

/-- the three channel evaluations of `from_hsla` (red a third of a turn ahead, blue a third behind)
    at sextant position `P` (hue/60) -/
abbrev ChannelsAt (m1 m2 P a b c : Rat) : Prop :=
  hueToRgb m1 m2 (P / 6 + 1/3) = a ∧ hueToRgb m1 m2 (P / 6) = b ∧ hueToRgb m1 m2 (P / 6 - 1/3) = c

theorem channels_blue_max_up {mn mx q : Rat} (q0 : 0 ≤ q) (q1 : q ≤ 1) :
    ChannelsAt mn mx (4 + q) ((mx - mn) * q + mn) mn mx := by
  refine ⟨?_, hueToRgb_bottom (by grind) (by grind), hueToRgb_top (by grind) (by grind)⟩
  rw [hueToRgb_wrap_hi (by grind) (by grind), hueToRgb_rise (by grind) (by grind)]; grind

theorem channels_blue_max_down {mn mx q : Rat} (q0 : 0 ≤ q) (q1 : q ≤ 1) :
    ChannelsAt mn mx (4 - q) mn ((mx - mn) * q + mn) mx := by
  refine ⟨hueToRgb_bottom (by grind) (by grind), ?_, hueToRgb_top (by grind) (by grind)⟩
  rw [hueToRgb_fall (by grind) (by grind)]; grind

theorem channels_green_max_up {mn mx q : Rat} (q0 : 0 ≤ q) (q1 : q ≤ 1) :
    ChannelsAt mn mx (2 + q) mn mx ((mx - mn) * q + mn) := by
  refine ⟨hueToRgb_bottom (by grind) (by grind), hueToRgb_top (by grind) (by grind), ?_⟩
  rw [hueToRgb_rise (by grind) (by grind)]; grind

theorem channels_green_max_down {mn mx q : Rat} (q0 : 0 ≤ q) (q1 : q ≤ 1) :
    ChannelsAt mn mx (2 - q) ((mx - mn) * q + mn) mx mn := by
  refine ⟨?_, hueToRgb_top (by grind) (by grind), ?_⟩
  · rw [hueToRgb_fall (by grind) (by grind)]; grind
  · rw [hueToRgb_wrap_lo (by grind) (by grind), hueToRgb_bottom (by grind) (by grind)]

theorem channels_red_max_up {mn mx q : Rat} (q0 : 0 ≤ q) (q1 : q ≤ 1) :
    ChannelsAt mn mx q mx ((mx - mn) * q + mn) mn := by
  refine ⟨hueToRgb_top (by grind) (by grind), ?_, ?_⟩
  · rw [hueToRgb_rise (by grind) (by grind)]; grind
  · rw [hueToRgb_wrap_lo (by grind) (by grind), hueToRgb_bottom (by grind) (by grind)]

theorem channels_red_max_down {mn mx q : Rat} (q0 : 0 ≤ q) (q1 : q ≤ 1) :
    ChannelsAt mn mx (6 - q) mx mn ((mx - mn) * q + mn) := by
  refine ⟨?_, hueToRgb_bottom (by grind) (by grind), ?_⟩
  · rw [hueToRgb_wrap_hi (by grind) (by grind), hueToRgb_top (by grind) (by grind)]
  · rw [hueToRgb_fall (by grind) (by grind)]; grind

/-! ### The sextant position of a triple -/

def IsMinMax (x y z mn mx : Rat) : Prop :=
  mn ≤ x ∧ mn ≤ y ∧ mn ≤ z ∧ x ≤ mx ∧ y ≤ mx ∧ z ≤ mx ∧ (mn = x ∨ mn = y ∨ mn = z) ∧ (mx = x ∨ mx = y ∨ mx = z)

theorem minmax_facts (x y z : Rat) : IsMinMax x y z (min3 x y z) (max3 x y z) := by
  simp only [IsMinMax, min3, max3, nmin, nmax]
  grind

/-- `p` is the hue in sextants, not yet wrapped, that `as_hsla` and `hue()` compute when they take a
    channel equal to `mx` for the maximum (they test the channels in different orders; on a tie their
    values differ by 6). -/
def IsSextant (x y z mn mx p : Rat) : Prop :=
  (x = mx ∧ p = (y - z) / (mx - mn)) ∨ (y = mx ∧ p = 2 + (z - x) / (mx - mn)) ∨
  (z = mx ∧ p = 4 + (x - y) / (mx - mn))

theorem sextant_range {x y z mn mx p : Rat} (F : IsMinMax x y z mn mx) (hlt : mn < mx)
    (hp : IsSextant x y z mn mx p) : -1 ≤ p ∧ p < 6 := by
  obtain ⟨f1, f2, f3, f4, f5, f6, _, _⟩ := F
  rcases hp with ⟨_, rfl⟩ | ⟨_, rfl⟩ | ⟨_, rfl⟩
  · have := diff_div_bounds f2 f5 f3 f6 hlt; grind
  · have := diff_div_bounds f3 f6 f1 f4 hlt; grind
  · have := diff_div_bounds f1 f4 f2 f5 hlt; grind

theorem sextant_cases {x y z mn mx p : Rat} (F : IsMinMax x y z mn mx) (hlt : mn < mx)
    (hp : IsSextant x y z mn mx p) :
    ∃ q : Rat, 0 ≤ q ∧ q ≤ 1 ∧
      (p = 4 + q ∧ x = (mx - mn) * q + mn ∧ y = mn ∧ z = mx ∨
       p = 4 - q ∧ x = mn ∧ y = (mx - mn) * q + mn ∧ z = mx ∨
       p = 2 + q ∧ x = mn ∧ y = mx ∧ z = (mx - mn) * q + mn ∨
       p = 2 - q ∧ x = (mx - mn) * q + mn ∧ y = mx ∧ z = mn ∨
       p = q ∧ x = mx ∧ y = (mx - mn) * q + mn ∧ z = mn ∨
       p = -q ∧ x = mx ∧ y = mn ∧ z = (mx - mn) * q + mn) := by
  obtain ⟨f1, f2, f3, f4, f5, f6, f7, _⟩ := F
  have hd : mx - mn ≠ 0 := by grind
  rcases hp with ⟨hx, rfl⟩ | ⟨hy, rfl⟩ | ⟨hz, rfl⟩
  · by_cases hz' : z = mn
    · have ⟨a, b, c⟩ := frac_between f2 f5 hlt
      exact ⟨_, a, b, Or.inr (Or.inr (Or.inr (Or.inr (Or.inl ⟨by grind, hx, c, hz'⟩))))⟩
    · have hy' : y = mn := by grind
      have ⟨a, b, c⟩ := frac_between f3 f6 hlt
      exact ⟨_, a, b, Or.inr (Or.inr (Or.inr (Or.inr (Or.inr ⟨by grind, hx, hy', c⟩))))⟩
  · by_cases hx' : x = mn
    · have ⟨a, b, c⟩ := frac_between f3 f6 hlt
      exact ⟨_, a, b, Or.inr (Or.inr (Or.inl ⟨by grind, hx', hy, c⟩))⟩
    · have hz' : z = mn := by grind
      have ⟨a, b, c⟩ := frac_between f1 f4 hlt
      exact ⟨_, a, b, Or.inr (Or.inr (Or.inr (Or.inl ⟨by grind, c, hy, hz'⟩)))⟩
  · by_cases hy' : y = mn
    · have ⟨a, b, c⟩ := frac_between f1 f4 hlt
      exact ⟨_, a, b, Or.inl ⟨by grind, c, hy', hz⟩⟩
    · have hx' : x = mn := by grind
      have ⟨a, b, c⟩ := frac_between f2 f5 hlt
      exact ⟨_, a, b, Or.inr (Or.inl ⟨by grind, hx', c, hz⟩)⟩

theorem hueToRgb_recovers {x y z mn mx p P : Rat} (F : IsMinMax x y z mn mx) (hlt : mn < mx)
    (hp : IsSextant x y z mn mx p) (hP : P = if p < 0 then p + 6 else p) : ChannelsAt mn mx P x y z := by
  obtain ⟨q, q0, q1, hc⟩ := sextant_cases F hlt hp
  rcases hc with ⟨h, ex, ey, ez⟩ | ⟨h, ex, ey, ez⟩ | ⟨h, ex, ey, ez⟩ | ⟨h, ex, ey, ez⟩ | ⟨h, ex, ey, ez⟩ |
    ⟨h, ex, ey, ez⟩ <;> rw [ex, ey, ez]
  · obtain rfl : P = 4 + q := by grind
    exact channels_blue_max_up q0 q1
  · obtain rfl : P = 4 - q := by grind
    exact channels_blue_max_down q0 q1
  · obtain rfl : P = 2 + q := by grind
    exact channels_green_max_up q0 q1
  · obtain rfl : P = 2 - q := by grind
    exact channels_green_max_down q0 q1
  · have e : P = q := by grind
    rw [e]
    exact channels_red_max_up q0 q1
  · -- `p = -q` is wrapped to `6 - q` unless `q = 0`, where the triple is also of the fifth kind
    by_cases hq : q = 0
    · have e : P = q := by grind
      have m : (mx - mn) * q + mn = mn := by rw [hq]; grind
      have := channels_red_max_up (mn := mn) (mx := mx) q0 q1
      rw [m, ← e] at this
      rwa [m]
    · obtain rfl : P = 6 - q := by grind
      exact channels_red_max_down q0 q1

/-! ### hsl → rgb of what rgb → hsl computes -/

theorem sat_unit {mn mx : Rat} (h0 : 0 ≤ mn) (h1 : mx ≤ 1) (hlt : mn < mx) :
    0 ≤ (mx - mn) / (if mx + mn > 1 then 2 - (mx + mn) else mx + mn) ∧
    (mx - mn) / (if mx + mn > 1 then 2 - (mx + mn) else mx + mn) ≤ 1 := by
  split <;> exact ⟨div_nonneg' (by grind) (by grind), div_le_one' (by grind) (by grind)⟩

theorem m1m2_recover {mn mx : Rat} (h0 : 0 ≤ mn) (h1 : mx ≤ 1) (hlt : mn < mx) :
    let s := (mx - mn) / (if mx + mn > 1 then 2 - (mx + mn) else mx + mn)
    let l := (mn + mx) / 2
    let ss := clamp s 0 1
    let sl := clamp l 0 1
    let m2 := if sl ≤ 1/2 then sl * (ss + 1) else sl * (-ss) + (sl + ss)
    let m1 := sl * 2 + (-m2)
    m1 = mn ∧ m2 = mx := by
  intro s l ss sl m2 m1
  have hl : sl = l := clamp_id (by grind) (by grind)
  have hs : ss = s := clamp_id (sat_unit h0 h1 hlt).1 (sat_unit h0 h1 hlt).2
  simp only [m1, m2, hl, hs, s, l]
  by_cases h : mx + mn > 1
  · have hl' : ¬ (mn + mx) / 2 ≤ 1 / 2 := by grind
    have hd : 2 - (mx + mn) ≠ 0 := by grind
    simp only [if_pos h, if_neg hl']
    constructor <;> grind
  · have hl' : (mn + mx) / 2 ≤ 1 / 2 := by grind
    have hd : mx + mn ≠ 0 := by grind
    simp only [if_neg h, if_pos hl']
    constructor <;> grind

theorem hslToRgbExact_of_minmax {mn mx hue : Rat} (h0 : 0 ≤ mn) (h1 : mx ≤ 1) (hlt : mn < mx) :
    hslToRgbExact hue ((mx - mn) / (if mx + mn > 1 then 2 - (mx + mn) else mx + mn)) ((mn + mx) / 2) =
      (hueToRgb mn mx (hue / 360 + 1/3) * 255, hueToRgb mn mx (hue / 360) * 255, hueToRgb mn mx (hue / 360 - 1/3) * 255) := by
  have ⟨e1, e2⟩ := m1m2_recover h0 h1 hlt
  simp only [hslToRgbExact]
  rw [e1, e2]

theorem hslToRgbExact_grey (hue : Rat) {l : Rat} (l0 : 0 ≤ l) (l1 : l ≤ 1) :
    hslToRgbExact hue 0 l = (l * 255, l * 255, l * 255) := by
  have c0 : clamp 0 0 1 = 0 := by decide +kernel
  simp only [hslToRgbExact, c0, clamp_id l0 l1]
  have m2 : (if l ≤ 1 / 2 then l * (0 + 1) else l * -0 + (l + 0)) = l := by split <;> grind
  have m1 : l * 2 + -l = l := by grind
  simp only [m2, m1, hueToRgb_const]

theorem sextant_turns {P : Rat} (k : Int) (h0 : 0 ≤ P) (h1 : P < 6) :
    sassMod (P * 60 + 360 * (k : Rat)) 360 / 360 = P / 6 := by
  rw [sassMod_add_int, sassMod_id (by grind) (by grind)]; grind

/-- `as_hsla` adds 360 (not 6) to a negative sextant position before scaling it by 60. -/
theorem from_sextant {p : Rat} (h0 : -1 ≤ p) (h1 : p < 6) :
    sassMod ((if p < 0 then p + 360 else p) * 60) 360 / 360 = (if p < 0 then p + 6 else p) / 6 := by
  split
  · rw [← sextant_turns 59 (by grind) (by grind)]; congr 2; simp; grind
  · rw [← sextant_turns 0 (by grind) h1]; congr 2; simp; grind

theorem hslToRgbExact_recovers {x y z hue : Rat} (x0 : 0 ≤ x) (x1 : x ≤ 1) (y0 : 0 ≤ y) (y1 : y ≤ 1)
    (z0 : 0 ≤ z) (z1 : z ≤ 1)
    (hh : min3 x y z ≠ max3 x y z → ∃ p, IsSextant x y z (min3 x y z) (max3 x y z) p ∧
      hue / 360 = (if p < 0 then p + 6 else p) / 6) :
    hslToRgbExact hue (rgbToHslE x y z).2.1 (rgbToHslE x y z).2.2 = (x * 255, y * 255, z * 255) := by
  have F := minmax_facts x y z
  simp only [rgbToHslE]
  generalize min3 x y z = mn at *
  generalize max3 x y z = mx at *
  by_cases he : mn = mx
  · unfold IsMinMax at F
    have hx : x = mn := by grind
    have hy : y = mn := by grind
    have hz : z = mn := by grind
    subst he hx hy hz
    rw [if_pos rfl, hslToRgbExact_grey _ (by grind) (by grind)]
    grind
  · obtain ⟨p, hp, hh⟩ := hh he
    have hlt : mn < mx := by unfold IsMinMax at F; grind
    have ⟨e1, e2, e3⟩ := hueToRgb_recovers F hlt hp rfl
    rw [if_neg he, hslToRgbExact_of_minmax (by unfold IsMinMax at F; grind) (by unfold IsMinMax at F; grind) hlt,
      hh, e1, e2, e3]

theorem rgbToHslE_sat_le_one {x y z : Rat} (x0 : 0 ≤ x) (x1 : x ≤ 1) (y0 : 0 ≤ y) (y1 : y ≤ 1)
    (z0 : 0 ≤ z) (z1 : z ≤ 1) : (rgbToHslE x y z).2.1 ≤ 1 := by
  have F := minmax_facts x y z
  simp only [rgbToHslE]
  generalize min3 x y z = mn at *
  generalize max3 x y z = mx at *
  unfold IsMinMax at F
  split
  · decide +kernel
  · exact (sat_unit (by grind) (by grind) (by grind)).2

theorem rgbToHslE_sextant {x y z : Rat} (hne : min3 x y z ≠ max3 x y z) :
    ∃ p, IsSextant x y z (min3 x y z) (max3 x y z) p ∧
      (rgbToHslE x y z).1 / 360 = (if p < 0 then p + 6 else p) / 6 := by
  have F := minmax_facts x y z
  simp only [rgbToHslE, if_neg hne]
  generalize min3 x y z = mn at *
  generalize max3 x y z = mx at *
  have hp : IsSextant x y z mn mx (if z = mx then 4 + (x - y) / (mx - mn)
      else if y = mx then 2 + (z - x) / (mx - mn) else (y - z) / (mx - mn)) := by
    unfold IsSextant
    split
    · exact Or.inr (Or.inr ⟨‹_›, rfl⟩)
    · split
      · exact Or.inr (Or.inl ⟨‹_›, rfl⟩)
      · exact Or.inl ⟨by unfold IsMinMax at F; grind, rfl⟩
  have ⟨b0, b1⟩ := sextant_range F (by unfold IsMinMax at F; grind) hp
  exact ⟨_, hp, from_sextant b0 b1⟩

theorem roundtripE {x y z : Rat} (x0 : 0 ≤ x) (x1 : x ≤ 1) (y0 : 0 ≤ y) (y1 : y ≤ 1) (z0 : 0 ≤ z) (z1 : z ≤ 1) :
    hslToRgbExact (rgbToHslE x y z).1 (rgbToHslE x y z).2.1 (rgbToHslE x y z).2.2 = (x * 255, y * 255, z * 255) :=
  hslToRgbExact_recovers x0 x1 y0 y1 z0 z1 rgbToHslE_sextant

/-! ### The fuzzy comparisons of `as_hsla` on multiples of 1/255 -/

theorem absQ_nonneg (x : Rat) : 0 ≤ absQ x := by unfold absQ; split <;> grind

theorem fuzzyEq_far {a b : Rat} (h : eps < absQ (a - b)) : fuzzyEq a b = false := by
  have hne : a ≠ b := by
    intro e; subst e
    have : absQ (a - a) = 0 := by unfold absQ; split <;> grind
    rw [this] at h; exact absurd h (by decide +kernel)
  unfold fuzzyEq
  have : ¬ (absQ (a - b) ≤ eps) := by grind
  simp [hne, this]

theorem fuzzyEq_sep {u v : Rat} (h : u = v ∨ 1/255 ≤ absQ (u - v)) : fuzzyEq u v = decide (u = v) := by
  rcases h with h | h
  · subst h; simp [fuzzyEq_self]
  · have hf : eps < absQ (u - v) := by
      have : eps < 1/255 := by decide +kernel
      grind
    have f := fuzzyEq_far hf
    have hne : u ≠ v := fun e => by rw [e, fuzzyEq_self] at f; cases f
    simp [f, hne]

theorem sep_natCast (a b : Nat) : ((a : Rat) / 255 = (b : Rat) / 255) ∨ 1/255 ≤ absQ ((a : Rat) / 255 - (b : Rat) / 255) := by
  by_cases h : a = b
  · left; rw [h]
  · right
    unfold absQ
    rcases Nat.lt_or_gt_of_ne h with h | h
    · have : ((a + 1 : Nat) : Rat) ≤ (b : Rat) := Rat.natCast_le_natCast.mpr h
      have e : ((a + 1 : Nat) : Rat) = (a : Rat) + 1 := by simp [Rat.natCast_add]
      split <;> grind
    · have : ((b + 1 : Nat) : Rat) ≤ (a : Rat) := Rat.natCast_le_natCast.mpr h
      have e : ((b + 1 : Nat) : Rat) = (b : Rat) + 1 := by simp [Rat.natCast_add]
      split <;> grind

/-- the three channels are pairwise equal or at least 1/255 apart (true for k/255) -/
def Sep (x y z : Rat) : Prop :=
  ∀ u v : Rat, (u = x ∨ u = y ∨ u = z) → (v = x ∨ v = y ∨ v = z) → (u = v ∨ 1/255 ≤ absQ (u - v))

theorem neg_hue_rule {h : Rat} (hh : h < 0 → h ≤ -(1/255)) :
    (decide (h < 0) && !fuzzyEq h 0) = decide (h < 0) := by
  by_cases hn : h < 0
  · have : eps < absQ (h - 0) := by
      have e : eps < 1/255 := by decide +kernel
      have := hh hn
      unfold absQ; split <;> grind
    simp [hn, fuzzyEq_far this]
  · simp [hn]

theorem rgbToHsl_eq_E {x y z : Rat} (hs : Sep x y z) (x1 : x ≤ 1) (y0 : 0 ≤ y) :
    rgbToHsl x y z = rgbToHslE x y z := by
  have F := minmax_facts x y z
  simp only [rgbToHsl, rgbToHslE]
  generalize min3 x y z = mn at F ⊢
  generalize max3 x y z = mx at F ⊢
  obtain ⟨f1, f2, f3, f4, f5, f6, f7, f8⟩ := F
  have e1 : fuzzyEq mn mx = decide (mn = mx) := fuzzyEq_sep (hs mn mx (by grind) (by grind))
  have e2 : fuzzyEq z mx = decide (z = mx) := fuzzyEq_sep (hs z mx (by grind) (by grind))
  have e3 : fuzzyEq y mx = decide (y = mx) := fuzzyEq_sep (hs y mx (by grind) (by grind))
  simp only [e1, e2, e3, decide_eq_true_eq]
  have key : ∀ h : Rat, h = (if mn = mx then 0 else if z = mx then 4 + (x - y) / (mx - mn)
      else if y = mx then 2 + (z - x) / (mx - mn) else (y - z) / (mx - mn)) → (h < 0 → h ≤ -(1/255)) := by
    intro h hdef hneg
    by_cases c1 : mn = mx
    · simp only [if_pos c1] at hdef; grind
    · have hlt : mn < mx := by grind
      have d0 : 0 < mx - mn := by grind
      simp only [if_neg c1] at hdef
      by_cases c2 : z = mx
      · simp only [if_pos c2] at hdef
        have := diff_div_bounds f1 f4 f2 f5 hlt
        grind
      · simp only [if_neg c2] at hdef
        by_cases c3 : y = mx
        · simp only [if_pos c3] at hdef
          have := diff_div_bounds f3 f6 f1 f4 hlt
          grind
        · simp only [if_neg c3] at hdef
          have hyz : y - z < 0 := by
            by_cases h' : y - z < 0
            · exact h'
            · have := div_nonneg' (a := y - z) (by grind) d0; grind
          have sp := hs y z (by grind) (by grind)
          have : y - z ≤ -(1/255) := by
            rcases sp with sp | sp
            · grind
            · unfold absQ at sp; split at sp <;> grind
          have := div_le_self_of_nonpos (a := y - z) (d := mx - mn) (by grind) d0 (by grind)
          grind
  generalize hh : (if mn = mx then (0 : Rat) else if z = mx then 4 + (x - y) / (mx - mn)
      else if y = mx then 2 + (z - x) / (mx - mn) else (y - z) / (mx - mn)) = h
  have r := neg_hue_rule (key h hh.symm)
  simp only [Bool.and_eq_true, decide_eq_true_eq, Bool.not_eq_eq_eq_not, Bool.not_true] at r ⊢
  by_cases hn : h < 0
  · have : fuzzyEq h 0 = false := by simpa [hn] using r
    simp [hn, this]
  · simp [hn]

end Grass.Color
