import GrassProofs.Lemmas.SerializeTree
/-
  For `C05_sass_free`: the serializer writes none of `& $ % #` on its own (`topLoop_NI`).
-/
namespace Grass.Serialize

theorem ni_of_plain (c : Char) (hc : sassChar c = true) (x : Str) (h : plainText x = true) : c ∉ x := by
  intro hm
  simp only [plainText, List.all_eq_true, Bool.not_eq_true'] at h
  have := h c hm
  rw [hc] at this; simp at this

theorem sass_ne {c x : Char} (hc : sassChar c = true) (hx : sassChar x = false) : c ≠ x :=
  fun e => by rw [e, hx] at hc; cases hc

theorem ni_append {c : Char} {a b : Str} (ha : c ∉ a) (hb : c ∉ b) : c ∉ a ++ b := by
  simp [ha, hb]

theorem ni_nil (c : Char) : c ∉ ([] : Str) := by simp

theorem plain_spaces (n : Nat) : plainText (spaces n) = true := by
  simp [plainText, spaces, sassChar]

theorem ni_indent (c : Char) (hc : sassChar c = true) (st : Style) (n : Nat) : c ∉ indentOut st n := by
  unfold indentOut; split
  · exact ni_nil c
  · exact ni_of_plain c hc _ (plain_spaces n)

theorem ni_optNl (c : Char) (hc : sassChar c = true) (st : Style) : c ∉ optNl st :=
  ni_of_plain c hc _ (by cases st <;> decide)

theorem ni_optSp (c : Char) (hc : sassChar c = true) (st : Style) : c ∉ optSp st :=
  ni_of_plain c hc _ (by cases st <;> decide)

/-! selectors: a placeholder (`%name`) is never printed, so only the visible texts matter -/

theorem ni_compoundOut (c : Char) (hc : sassChar c = true) (ss : List Simple) (hv : compoundInvisible ss = false)
    (h : ∀ s ∈ simpleTexts ss, c ∉ s) : c ∉ compoundOut ss := by
  have key : c ∉ (ss.map Simple.out).flatten := by
    induction ss with
    | nil => simp
    | cons a r ih =>
      simp only [compoundInvisible, List.any_cons, Bool.or_eq_false_iff] at hv
      cases a with
      | text s =>
        have h1 := h s (by simp [simpleTexts])
        have h2 := ih (by simpa [compoundInvisible] using hv.2) (fun s hs => h s (by simp [simpleTexts, hs]))
        simp [Simple.out, h1, h2]
      | placeholder n => simp [Simple.isInvisible] at hv
  unfold compoundOut
  simp only
  split
  · exact ni_of_plain c hc _ (by decide)
  · exact key

theorem ni_complexOut (c : Char) (hc : sassChar c = true) (st : Style) (last : Option Component) (cs : List Component)
    (hv : cs.any Component.isInvisible = false) (h : ∀ s ∈ compTexts cs, c ∉ s) :
    c ∉ complexOut st last cs := by
  induction cs generalizing last with
  | nil => simp [complexOut]
  | cons x r ih =>
    simp only [List.any_cons, Bool.or_eq_false_iff] at hv
    have hsp : c ∉ (match last with
      | some l => if (!omitSpaces st l && !omitSpaces st x) = true then [' '] else []
      | none => []) := by
      cases last with
      | none => simp
      | some l =>
        show c ∉ (if (!omitSpaces st l && !omitSpaces st x) = true then [' '] else [])
        split
        · exact ni_of_plain c hc _ (by decide)
        · simp
    have hx : c ∉ x.out := by
      cases x with
      | comb ch => simpa [Component.out] using h [ch] (by simp [compTexts])
      | compound ss =>
        exact ni_compoundOut c hc ss (by simpa [Component.isInvisible] using hv.1)
          (fun s hs => h s (by simp [compTexts, hs]))
    have hr := ih (some x) hv.2 (fun s hs => h s (by cases x <;> simp [compTexts, hs]))
    simp only [complexOut, List.mem_append, not_or]
    exact ⟨⟨hsp, hx⟩, hr⟩

theorem ni_selectorLoop (c : Char) (hc : sassChar c = true) (st : Style) (first : Bool) (l : List Complex)
    (hv : ∀ cx ∈ l, cx.isInvisible = false) (h : ∀ cx ∈ l, ∀ s ∈ compTexts cx.comps, c ∉ s) :
    c ∉ selectorLoop st first l := by
  induction l generalizing first with
  | nil => simp [selectorLoop]
  | cons cx r ih =>
    have h1 : c ∉ (if first = true then [] else ',' :: (if cx.lineBreak = true then optNl st else optSp st)) := by
      split
      · simp
      · have : c ∉ [','] := ni_of_plain c hc _ (by decide)
        have h2 : c ∉ (if cx.lineBreak = true then optNl st else optSp st) := by
          split; exact ni_optNl c hc st; exact ni_optSp c hc st
        simpa using ni_append this h2
    have h2 := ni_complexOut c hc st none cx.comps (by simpa [Complex.isInvisible] using hv cx (by simp)) (h cx (by simp))
    have h3 := ih false (fun x hx => hv x (by simp [hx])) (fun x hx => h x (by simp [hx]))
    simp only [selectorLoop, List.mem_append, not_or]
    exact ⟨⟨h1, h2⟩, h3⟩

theorem ni_selectorOut (c : Char) (hc : sassChar c = true) (st : Style) (sel : Selector)
    (h : ∀ s ∈ selTexts sel, c ∉ s) : c ∉ selectorOut st sel := by
  unfold selectorOut
  apply ni_selectorLoop c hc
  · intro cx hcx
    simpa using (List.mem_filter.mp hcx).2
  · intro cx hcx s hs
    exact h s (by
      simp only [selTexts, List.mem_flatten, List.mem_map]
      exact ⟨compTexts cx.comps, ⟨cx, (List.mem_filter.mp hcx).1, rfl⟩, hs⟩)

theorem ni_unquotedLoop (c : Char) (hc : sassChar c = true) (b : Bool) (s : Str) (h : c ∉ s) : c ∉ unquotedLoop b s := by
  have hsp : c ≠ ' ' := sass_ne hc (by decide)
  induction s generalizing b with
  | nil => simp [unquotedLoop]
  | cons x xs ih =>
    simp only [List.mem_cons, not_or] at h
    simp only [unquotedLoop]
    split
    · simp [hsp, ih true h.2]
    · split
      · have : c ∉ (if b = true then [] else [' ']) := by split <;> simp [hsp]
        exact ni_append this (ih b h.2)
      · simp [h.1, ih false h.2]

theorem hex_plain : ∀ n, n < 16 → sassChar (hexCharFor n) = false := by decide +kernel

theorem ni_escChar (c : Char) (hc : sassChar c = true) (force : Bool) (x : Char) (next : Option Char) (hx : c ≠ x) :
    c ∉ escChar force x next := by
  have q1 : c ≠ '\'' := sass_ne hc (by decide)
  have q2 : c ≠ '"' := sass_ne hc (by decide)
  have q3 : c ≠ '\\' := sass_ne hc (by decide)
  fun_cases escChar force x next
  case case1 => simp [q1]
  case case2 => simp [q2, q3]
  case case3 => simp [q2]
  case case4 hctl =>
    have hlt := ctl_lt x hctl
    have g1 : c ≠ hexCharFor (x.toNat / 16) := sass_ne hc (hex_plain _ (by omega))
    have g2 : c ≠ hexCharFor (x.toNat % 16) := sass_ne hc (hex_plain _ (by omega))
    have hs : c ∉ ctlSpace next := by
      unfold ctlSpace
      cases next with
      | none => simp
      | some n => dsimp only; split <;> simp [sass_ne hc (x := ' ') (by decide)]
    rw [controlEscape_eq]
    split <;> simp [q3, g1, g2, hs]
  case case5 => simp [q3]
  case case6 => simp [hx]

theorem ni_escBody (c : Char) (hc : sassChar c = true) (force : Bool) (s : Str) (h : c ∉ s) : c ∉ escBody force s := by
  induction s with
  | nil => simp [escBody]
  | cons x xs ih =>
    simp only [List.mem_cons, not_or] at h
    simp only [escBody]
    exact ni_append (ni_escChar c hc force x _ h.1) (ih h.2)

theorem ni_quote (c : Char) (hc : sassChar c = true) (s : Str) (h : c ∉ s) : c ∉ quote s := by
  have q1 : c ≠ '\'' := sass_ne hc (by decide)
  have q2 : c ≠ '"' := sass_ne hc (by decide)
  unfold quote
  cases quoteFlags false false s with
  | none => simp [q2, ni_escBody c hc true s h]
  | some hd => cases hd <;> simp [q1, q2, ni_escBody c hc false s h]

theorem ni_atom (c : Char) (hc : sassChar c = true) (a : Atom) (h : a.leafFree c = true) : c ∉ a.out := by
  cases a with
  | raw s => exact ni_unquotedLoop c hc false s (by simpa [Atom.leafFree] using h)
  | quoted s => exact ni_quote c hc s (by simpa [Atom.leafFree] using h)

theorem ni_sepOut (c : Char) (hc : sassChar c = true) (st : Style) (sep : Sep) : c ∉ sepOut st sep :=
  ni_of_plain c hc _ (by cases st <;> cases sep <;> decide)

theorem ni_listLoop (c : Char) (hc : sassChar c = true) (st : Style) (sep : Sep) (l : List Atom)
    (h : l.all (Atom.leafFree c) = true) : c ∉ listLoop st sep l := by
  induction l with
  | nil => simp [listLoop]
  | cons a r ih =>
    simp only [List.all_cons, Bool.and_eq_true] at h
    cases r with
    | nil => simpa [listLoop] using ni_atom c hc a h.1
    | cons b r' =>
      simp only [listLoop]
      exact ni_append (ni_append (ni_atom c hc a h.1) (ni_sepOut c hc st sep)) (ih h.2)

theorem ni_value (c : Char) (hc : sassChar c = true) (st : Style) (v : Value) (h : v.leafFree c = true) : c ∉ v.out st := by
  cases v with
  | atom a => exact ni_atom c hc a h
  | list sep items => exact ni_listLoop c hc st sep _ (all_filter _ _ _ h)

theorem ni_joinWith (c : Char) (sep : Str) (l : List Str) (hs : c ∉ sep) (h : l.all (fun s => !s.contains c) = true) :
    c ∉ joinWith sep l := by
  induction l with
  | nil => simp [joinWith]
  | cons x r ih =>
    simp only [List.all_cons, Bool.and_eq_true, Bool.not_eq_true', List.contains_eq_mem, decide_eq_false_iff_not] at h
    cases r with
    | nil => simpa [joinWith] using h.1
    | cons y r' =>
      simp only [joinWith]
      exact ni_append (ni_append h.1 hs) (ih (by simpa using h.2))

theorem ni_contains {c : Char} {x : Str} (h : (!x.contains c) = true) : c ∉ x := by
  simpa using h

theorem ni_block (c : Char) (hc : sassChar c = true) (st : Style) (ind : Nat) (K : Str) (h : c ∉ K) :
    c ∉ blockOut st ind K := by
  have h1 : c ∉ openBlock st := ni_of_plain c hc _ (by cases st <;> decide)
  have h2 : c ∉ closeBlock st ind := by
    unfold closeBlock
    exact ni_append (ni_indent c hc st ind) (ni_of_plain c hc _ (by decide))
  unfold blockOut
  exact ni_append (ni_append h1 h) h2

theorem ni_params (c : Char) (hc : sassChar c = true) (params : Str) (h : c ∉ params) :
    c ∉ (if params.isEmpty then [] else ' ' :: params) := by
  have : c ≠ ' ' := by intro e; subst e; simp [sassChar] at hc
  split <;> simp [this, h]

theorem ni_childSemi (c : Char) (hc : sassChar c = true) (st : Style) (b : Bool) (s : Stmt) : c ∉ childSemi st b s := by
  unfold childSemi
  split
  · exact ni_of_plain c hc [';'] (by decide)
  · exact ni_nil c

theorem ni_unknownPrelude (c : Char) (hc : sassChar c = true) (name params : Str) (hn : c ∉ name) (hp : c ∉ params) :
    c ∉ unknownPrelude name params :=
  ni_append (a := '@' :: name) (by simp [sass_ne hc (x := '@') (by decide), hn]) (ni_params c hc params hp)

mutual
theorem visit_NI (c : Char) (hc : sassChar c = true) (st : Style) :
    ∀ (s : Stmt) (ind : Nat), s.leafFree c = true → c ∉ (visitStmt st ind s).2
  | .rule ge sel body, ind, h => by
    simp only [Stmt.leafFree, Bool.and_eq_true] at h
    cases hv : (Stmt.rule ge sel body).isInvisible
    · rw [visit_rule st ind ge sel body hv]
      have hsel : c ∉ selectorOut st sel :=
        ni_selectorOut c hc st sel (fun s hs => ni_contains (List.all_eq_true.mp h.1 s hs))
      exact ni_append (ni_append (ni_indent c hc st ind) hsel)
        (ni_block c hc st ind _ (children_NI c hc st body (ind + 2) h.2))
    · rw [visit_invisible st ind _ hv]; exact ni_nil c
  | .decl name custom v, ind, h => by
    simp only [Stmt.leafFree, Bool.and_eq_true] at h
    cases hv : (Stmt.decl name custom v).isInvisible
    · rw [visit_decl st ind name custom v hv]
      refine ni_append (ni_indent c hc st ind) (ni_append (ni_append (ni_append (ni_contains h.1)
        (ni_of_plain c hc _ (by decide))) ?_) (ni_value c hc st v h.2))
      split
      · exact ni_of_plain c hc _ (by decide)
      · exact ni_nil c
    · rw [visit_invisible st ind _ hv]; exact ni_nil c
  | .media ge qs body, ind, h => by
    simp only [Stmt.leafFree, Bool.and_eq_true] at h
    cases hv : (Stmt.media ge qs body).isInvisible
    · rw [visit_media st ind ge qs body hv]
      have hsep : c ∉ ',' :: optSp st :=
        ni_append (a := [',']) (ni_of_plain c hc _ (by decide)) (ni_optSp c hc st)
      exact ni_append (ni_append (ni_indent c hc st ind)
        (ni_append (ni_of_plain c hc _ (by decide)) (ni_joinWith c _ _ hsep h.1)))
        (ni_block c hc st ind _ (children_NI c hc st body (ind + 2) h.2))
    · rw [visit_invisible st ind _ hv]; exact ni_nil c
  | .supports ge params body, ind, h => by
    simp only [Stmt.leafFree, Bool.and_eq_true] at h
    cases hv : (Stmt.supports ge params body).isInvisible
    · rw [visit_supports st ind ge params body hv]
      exact ni_append (ni_append (ni_indent c hc st ind)
        (ni_append (ni_of_plain c hc _ (by decide)) (ni_params c hc params (ni_contains h.1))))
        (ni_block c hc st ind _ (children_NI c hc st body (ind + 2) h.2))
    · rw [visit_invisible st ind _ hv]; exact ni_nil c
  | .unknown ge name params hasBody body, ind, h => by
    simp only [Stmt.leafFree, Bool.and_eq_true] at h
    rw [visit_unknown]
    refine ni_append (ni_append (ni_indent c hc st ind)
      (ni_unknownPrelude c hc name params (ni_contains h.1.1) (ni_contains h.1.2))) ?_
    split
    · exact ni_nil c
    · split
      · exact ni_of_plain c hc _ (by decide)
      · exact ni_block c hc st ind _ (children_NI c hc st body (ind + 2) h.2)
  | .kf sels body, ind, h => by
    simp only [Stmt.leafFree, Bool.and_eq_true] at h
    cases hv : (Stmt.kf sels body).isInvisible
    · rw [visit_kf st ind sels body hv]
      exact ni_append (ni_append (ni_indent c hc st ind)
        (ni_joinWith c _ _ (ni_of_plain c hc _ (by decide)) h.1))
        (ni_block c hc st ind _ (children_NI c hc st body (ind + 2) h.2))
    · rw [visit_invisible st ind _ hv]; exact ni_nil c
  | .comment text col, ind, h => by
    simp only [Stmt.leafFree] at h
    rw [visit_comment]
    split
    · exact ni_append (ni_indent c hc st ind) (ni_contains h)
    · exact ni_nil c
  | .import url mods, ind, h => by
    simp only [Stmt.leafFree, Bool.and_eq_true] at h
    rw [visit_import]
    refine ni_append (ni_indent c hc st ind)
      (ni_append (ni_append (ni_of_plain c hc _ (by decide)) (ni_contains h.1)) ?_)
    cases mods with
    | none => exact ni_nil c
    | some m =>
      exact ni_append (a := [' ']) (ni_of_plain c hc _ (by decide)) (ni_contains (by simpa [optFree] using h.2))
theorem children_NI (c : Char) (hc : sassChar c = true) (st : Style) :
    ∀ (ss : Stmts) (ind : Nat), ss.leafFree c = true → c ∉ childrenLoop st ind ss
  | .nil, ind, _ => by rw [childrenLoop]; exact ni_nil c
  | .cons s ss, ind, h => by
    simp only [Stmts.leafFree, Bool.and_eq_true] at h
    unfold childrenLoop
    have h1 := visit_NI c hc st s ind h.1
    have h2 := children_NI c hc st ss ind h.2
    refine ni_append ?_ h2
    cases hw : (visitStmt st ind s).1
    · simp only [Bool.false_eq_true, if_false]; exact ni_nil c
    · simp only [if_true]
      exact ni_append (ni_append h1 (ni_childSemi c hc st _ s)) (ni_optNl c hc st)
end

theorem ni_semi (c : Char) (hc : sassChar c = true) (b : Bool) : c ∉ (if b then [';'] else []) := by
  split
  · exact ni_of_plain c hc _ (by decide)
  · exact ni_nil c

theorem visitGroup_NI (c : Char) (hc : sassChar c = true) (st : Style) (T : Top) (s : Stmt) (hT : c ∉ T.buf)
    (hs : s.leafFree c = true) : c ∉ (visitGroup st T s).buf := by
  rw [visitGroup_buf]
  refine ni_append (ni_append (ni_append hT (ni_semi c hc _)) ?_) (visit_NI c hc st s 0 hs)
  split
  · refine ni_append (ni_optNl c hc st) ?_
    split
    · exact ni_optNl c hc st
    · exact ni_nil c
  · exact ni_nil c

theorem topLoop_NI (c : Char) (hc : sassChar c = true) (st : Style) (t : List Stmt) (T : Top) (hT : c ∉ T.buf)
    (ht : treeLeafFree c t = true) : c ∉ (topLoop st T t).buf := by
  induction t generalizing T with
  | nil => simpa [topLoop] using hT
  | cons s ss ih =>
    simp only [treeLeafFree, List.all_cons, Bool.and_eq_true] at ht
    simp only [topLoop]
    split
    · exact ih T hT (by simpa [treeLeafFree] using ht.2)
    · exact ih _ (visitGroup_NI c hc st T s hT ht.1) (by simpa [treeLeafFree] using ht.2)

end Grass.Serialize
