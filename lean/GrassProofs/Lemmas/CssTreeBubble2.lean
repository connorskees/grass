import GrassProofs.Lemmas.CssTreeBubble
/-
  C04 with bubbling at-rules, the induction.  Result, for the shallow sibling test and no @at-root: the
  built tree read in index order is `flattenSpec`.
-/
namespace Grass.CssTree

/-- The body of a bubbling at-rule once its node `r` exists; inside a style rule the rule is re-created first. -/
def atVisit (af : AsFound) (vcf : Option Nat → VCtx) (ruleExists : Bool) (styleRule : Option SelList)
    (r : Tree × Nat) (body : Stmts) : Except Err Tree :=
  if !ruleExists then visitStmts af (vcf (some r.2)) r.1 body
  else match styleRule with
    | none => .error .unreachable
    | some sel =>
      visitStmts af (vcf (some (addChild false r.1 (some r.2) (.rule sel) .never).2))
        (addChild false r.1 (some r.2) (.rule sel) .never).1 body

theorem isAt_not_decl (k : Kind) (h : k.isAt = true) : k.isDecl = false := by
  cases k <;> simp_all [Kind.isAt, Kind.isDecl]

theorem isAt_selOf (k : Kind) (h : k.isAt = true) : selOf k = none := by
  cases k <;> simp_all [Kind.isAt, selOf]

theorem eq_rule_of_not_at (k : Kind) (hd : k.isDecl = false) (ha : ¬ k.isAt = true) : ∃ S, k = .rule S := by
  cases k <;> simp_all [Kind.isAt, Kind.isDecl]

/-- **Opening a block.**  `t` extends `t0` by the still empty blocks `A`; the new node lands below `L` and the
    body fills its block.  The new context hangs on the new node (at-rule) or on its parent (style rule). -/
theorem open_block_rel (af : AsFound) (t0 t : Tree) (gd : Good t) (ex0 : Ext t0 t) (P0 : Option Nat)
    (A : List EntB) (hview : viewB t = viewB t0 ++ A)
    (hA : ∀ e ∈ A, e.2.2.2 = [] ∧ t0.length ≤ e.1 ∧ e.1 < t.length)
    (P : Option Nat) (th : Through) (L : Nat) (hL : L < t.length) (hland : landing t P th = L)
    (hLat : L = 0 ∨ ∃ kL, kindAt t L = some kL ∧ kL.isAt = true)
    (k : Kind) (hk : k.isDecl = false)
    (hLpar : k.isAt = false → ∀ G, parentOf t L = some G → G = 0 ∨ ∃ kG, kindAt t G = some kG ∧ kG.isAt = true)
    (sc' : SCtx) (hf : sc'.frames = fullCtx t L ++ (if k.isAt then [k] else [])) (hsel : sc'.sel = selOf k)
    (vc' : Nat → VCtx) (hc : ∀ y, CohCtx sc' (vc' y)) (hpar : ∀ y, (vc' y).parent = some y)
    (body : Stmts)
    (ih : ∀ t2 vc2, Good t2 → CohB t2 sc' vc2 →
      RelB t2 vc2.parent (specStmts sc' body) (visitStmts af vc2 t2 body)) :
    RelB t0 P0 (wrapBlock sc' (specStmts sc' body))
      (visitStmts af (vc' (addChild false t P k th).2) (addChild false t P k th).1 body) := by
  have hLnd : ∀ kL, kindAt t L = some kL → kL.isDecl = false :=
    fun kL hkL => isAt_not_decl _ (isAt_of_atOrRoot t gd L hLat kL hkL)
  obtain ⟨pre, q, ld⟩ := addChild_landing t gd P k hk th L hL hland hLnd
  generalize addChild false t P k th = r1 at *
  obtain ⟨t1, x⟩ := r1
  simp only at ld ⊢
  have hlast := ld.last
  have hfresh := ld.fresh
  have hx0 : x ≠ 0 := by have := gd.pos; omega
  have hql : q < x := ld.good.po x q ld.par
  have hqat := atOrRoot_copy t t1 gd L q ld.parKind hLat
  have hv1 := hpar x
  have coh1 : CohB t1 sc' (vc' x) := by
    by_cases hkat : k.isAt = true
    · refine (hc x).withNode x (by omega) (by rw [ld.ctx, hf, if_pos hkat]) (Or.inr ⟨k, ld.kind, hkat⟩) ?_ ?_
      · intro G hG
        rw [ld.par] at hG; injection hG with hG; subst hG; exact hqat
      · rw [hsel, isAt_selOf k hkat, hv1]
        simp [ParentIs, hx0]
    · obtain ⟨S, rfl⟩ := eq_rule_of_not_at k hk hkat
      refine (hc x).withNode q (by omega) (by rw [ld.parCtx, hf]; simp [Kind.isAt]) hqat ?_ ?_
      · intro G hG
        have hG1 := ld.parPar G hG
        rcases hLpar rfl G hG1 with h0 | ⟨kG, h1, h2⟩
        · exact Or.inl h0
        · have := gd.po L G hG1
          exact Or.inr ⟨kG, by rw [ld.ext.kind G (by omega)]; exact h1, h2⟩
      · rw [hsel, hv1]
        exact ⟨x, rfl, hx0, by omega, ld.kind, ld.par⟩
  have hrel := ih t1 (vc' x) ld.good coh1
  rw [hv1] at hrel
  have hl0 := ex0.len
  apply construct_rel t0 t1 P0 x _ (selOf k) (A ++ pre) ?_ ?_ (by omega) (Ext.trans ex0 ld.ext)
    _ _ hrel sc' hf (by rw [SCtx.home, SCtx.ruleHere, (hc x).excl, hsel]; cases selOf k <;> rfl)
  · rw [ld.view, hview]
    simp only [List.append_assoc]
  · intro e he
    simp only [List.mem_append] at he
    rcases he with he | he
    · have := hA e he; exact ⟨this.1, this.2.1, by omega⟩
    · have := ld.preEmpty e he; exact ⟨this.1, by omega, by omega⟩

/-- **The bubbling lemma**: the at-rule node lands at `L`, the style rule (if any) is re-created inside
    it, and the body fills the block `(context of L ++ [at-rule], current selector, own declarations)`. -/
theorem bubble_rel (af : AsFound) (t : Tree) (gd : Good t) (sc : SCtx) (vc : VCtx) (coh : CohB t sc vc)
    (k : Kind) (hkat : k.isAt = true) (th : Through) (L : Nat) (hL : L < t.length)
    (hland : landing t vc.parent th = L)
    (hLat : L = 0 ∨ ∃ kL, kindAt t L = some kL ∧ kL.isAt = true)
    (sc' : SCtx) (vcf : Option Nat → VCtx)
    (hf : sc'.frames = fullCtx t L ++ [k]) (hsel : sc'.sel = sc.sel)
    (hc : ∀ P, CohCtx sc' (vcf P)) (hpar : ∀ P, (vcf P).parent = P)
    (body : Stmts)
    (ih : ∀ t2 vc2, Good t2 → CohB t2 sc' vc2 →
      RelB t2 vc2.parent (specStmts sc' body) (visitStmts af vc2 t2 body)) :
    RelB t vc.parent (wrapBlock sc' (specStmts sc' body))
      (atVisit af vcf vc.styleRuleExists vc.styleRule (addChild false t vc.parent k th) body) := by
  have hknd := isAt_not_decl k hkat
  cases hS : vc.styleRule with
  | none =>
    have hre : vc.styleRuleExists = false := by simp [VCtx.styleRuleExists, hS]
    simp only [atVisit, hre, Bool.not_false, if_true]
    exact open_block_rel af t t gd (Ext.refl t) vc.parent [] (by simp) (by simp) vc.parent th L hL hland hLat k hknd
      (fun h => by rw [hkat] at h; cases h) sc' (by rw [hf, if_pos hkat])
      (by rw [hsel, ← coh.sel, hS, isAt_selOf k hkat]) (fun y => vcf (some y)) (fun _ => hc _) (fun _ => hpar _) body ih
  | some S =>
    have hre : vc.styleRuleExists = true := by simp [VCtx.styleRuleExists, hS, coh.aexcl]
    have hLnd : ∀ kL, kindAt t L = some kL → kL.isDecl = false :=
      fun kL hkL => isAt_not_decl _ (isAt_of_atOrRoot t gd L hLat kL hkL)
    obtain ⟨pre1, q1, ld⟩ := addChild_landing t gd vc.parent k hknd th L hL hland hLnd
    simp only [atVisit, hre, Bool.not_true, Bool.false_eq_true, if_false]
    generalize addChild false t vc.parent k th = r1 at *
    obtain ⟨t1, x⟩ := r1
    simp only at ld ⊢
    have hlast := ld.last
    have hfresh := ld.fresh
    have hx0 : x ≠ 0 := by have := gd.pos; omega
    have hxlt : x < t1.length := by omega
    have hland2 : landing t1 (some x) .never = x := by
      rw [landing_some_succ t1 .never x hx0]
      obtain ⟨f, hf'⟩ : ∃ f, t1.length = f + 1 := ⟨t1.length - 1, by omega⟩
      rw [hf']; exact climb_stop t1 .never f x k ld.kind (by cases k <;> rfl)
    exact open_block_rel af t t1 ld.good ld.ext vc.parent
      (pre1 ++ [(x, fullCtx t L ++ (if k.isAt then [k] else []), selOf k, [])])
      (by rw [ld.view, List.append_assoc])
      (fun e he => by
        simp only [List.mem_append, List.mem_singleton] at he
        rcases he with he | he
        · have := ld.preEmpty e he; exact ⟨this.1, this.2.1, by omega⟩
        · subst he; exact ⟨rfl, hfresh, hxlt⟩)
      (some x) .never x hxlt hland2 (Or.inr ⟨k, ld.kind, hkat⟩) (.rule S) rfl
      (fun _ G hG => by
        rw [ld.par] at hG; injection hG with hG; subst hG; exact atOrRoot_copy t t1 gd L q1 ld.parKind hLat)
      sc' (by rw [ld.ctx, hf]; simp [Kind.isAt]) (by rw [hsel, ← coh.sel, hS]; rfl)
      (fun y => vcf (some y)) (fun _ => hc _) (fun _ => hpar _) body ih


theorem coh_ruleExists (t : Tree) (sc : SCtx) (vc : VCtx) (coh : CohB t sc vc) :
    vc.styleRuleExists = sc.ruleHere := by
  simp [VCtx.styleRuleExists, SCtx.ruleHere, coh.aexcl, coh.excl, coh.sel]

theorem through_media_self (ms cur qs2 : List (List Nat)) (hne : cur ≠ []) :
    (Through.media ((ms ++ cur) ++ qs2)).test (.media cur) = true := by
  simp only [Through.test, Bool.and_eq_true, Bool.not_eq_true', List.all_eq_true]
  refine ⟨?_, ?_⟩
  · cases cur with
    | nil => exact absurd rfl hne
    | cons a as => cases ms <;> simp
  · intro q hq
    simp [hq]

theorem innermostMedia_none_last (fs : List Kind) (k : Kind) (h : innermostMedia (fs ++ [k]) = none) :
    k.isMedia = false ∧ innermostMedia fs = none := by
  rw [innermostMedia_snoc] at h
  cases k <;> simp_all [Kind.isMedia]

theorem visit_supports_eq (af : AsFound) (h : af.shallowSibling = true) (vc : VCtx) (t : Tree) (cond : String)
    (body : Stmts) :
    visitStmt af vc t (.supports cond body) =
      atVisit af (fun P => { vc with parent := P }) vc.styleRuleExists vc.styleRule
        (addChild false t vc.parent (.supports cond) .styleRule) body := by
  simp only [visitStmt, atVisit, h, Bool.not_true]
  split <;> rfl

theorem visit_unknown_eq (af : AsFound) (h : af.shallowSibling = true) (vc : VCtx) (t : Tree) (n p : String)
    (body : Stmts) :
    visitStmt af vc t (.unknown n p body) =
      atVisit af (fun P => { vc with parent := P, inUnknown := true }) vc.styleRuleExists vc.styleRule
        (addChild false t vc.parent (.unknown n p) .styleRule) body := by
  simp only [visitStmt, atVisit, h, Bool.not_true]
  split <;> rfl


theorem stop_media_nonMedia (srcs : List (List Nat)) (k : Kind) (hat : k.isAt = true) (hm : k.isMedia = false) :
    (Through.media srcs).test k = false := by
  cases k <;> simp_all [Kind.isAt, Kind.isMedia, Through.test]

theorem eq_media_of_isMedia (k : Kind) (h : k.isMedia = true) : ∃ c, k = .media c := by
  cases k <;> simp_all [Kind.isMedia]

theorem media_nil_stops (k : Kind) (h : k.isAt = true) : (Through.media []).test k = false := by
  cases k <;> simp_all [Kind.isAt, Through.test]

theorem mergeQ_nil_left (qs : List (List Nat)) : mergeQ [] qs = [] := rfl

theorem media_rel (af : AsFound) (h : af.shallowSibling = true) (qs : List (List Nat)) (body : Stmts)
    (t : Tree) (sc : SCtx) (vc : VCtx) (gd : Good t) (coh : CohB t sc vc)
    (ih : ∀ t2 sc2 vc2, Good t2 → CohB t2 sc2 vc2 →
      RelB t2 vc2.parent (specStmts sc2 body) (visitStmts af vc2 t2 body)) :
    RelB t vc.parent (specStmt sc (.media qs body)) (visitStmt af vc t (.media qs body)) := by
  obtain ⟨g, hg, hf, hk, hgp, hp⟩ := coh.node
  cases hm : innermostMedia sc.frames with
  | none =>
    have hvm : vc.mq = none := by rw [coh.mq, hm]
    have e : visitStmt af vc t (.media qs body) =
        atVisit af (fun P => { vc with parent := P, mq := some qs, mqSources := [] }) vc.styleRuleExists vc.styleRule
          (addChild false t vc.parent (.media qs) (.media [])) body := by
      have hb : ((none : Option (List (List Nat))) == some []) = false := rfl
      simp only [visitStmt, atVisit, h, hvm, Bool.not_true, Option.map_none, Option.getD_none, hb,
        Bool.false_eq_true, if_false]
      split <;> rfl
    rw [e]
    simp only [specStmt, pushMedia, hm]
    have hstop : ∀ k, kindAt t g = some k → (Through.media []).test k = false := by
      intro k hkk
      exact media_nil_stops k (isAt_of_atOrRoot t gd g hk k hkk)
    have hland := landing_at_g t gd (.media []) (fun _ => rfl) vc.parent g hg sc.sel hp hstop
    apply bubble_rel af t gd sc vc coh (.media qs) rfl (.media []) g hg hland hk
      { sc with frames := sc.frames ++ [.media qs] }
      (fun P => { vc with parent := P, mq := some qs, mqSources := [] })
      (by simp [hf]) rfl
      (fun _ => ⟨coh.excl, coh.aexcl, coh.sel, coh.unk, by simp [coh.unkf, Kind.isUnknown], by simp [innermostMedia_snoc],
        noAdjR_snoc _ _ coh.noadj (Or.inr (innermostMedia_none_head _ hm))⟩)
      (fun _ => rfl)
    intro t2 vc2 gd2 coh2
    exact ih t2 _ vc2 gd2 coh2
  | some cur =>
    have hvm : vc.mq = some cur := by rw [coh.mq, hm]
    cases hmm : mergeQ cur qs with
    | nil =>
      have e : visitStmt af vc t (.media qs body) = .ok t := by
        simp only [visitStmt, hvm, Option.map_some, hmm]
        rfl
      rw [e]
      simp only [specStmt, pushMedia, hm, hmm, List.isEmpty_nil, if_true, RelB]
      exact ⟨t, rfl, gd, Ext.refl t, [], by
        simp only [List.append_nil]
        exact (map_eq_self _ _ (fun e _ => extOB_nil vc.parent e)).symm, rfl, by simp⟩
    | cons m0 ms =>
      have hcur : cur ≠ [] := by
        intro hc; subst hc; simp [mergeQ_nil_left] at hmm
      have e : visitStmt af vc t (.media qs body) =
          atVisit af (fun P => { vc with parent := P, mq := some (m0 :: ms), mqSources := (vc.mqSources ++ cur) ++ qs })
            vc.styleRuleExists vc.styleRule
            (addChild false t vc.parent (.media (m0 :: ms)) (.media ((vc.mqSources ++ cur) ++ qs))) body := by
        have hb : ((some (m0 :: ms) : Option (List (List Nat))) == some []) = false := rfl
        simp only [visitStmt, atVisit, h, hvm, Bool.not_true, Option.map_some, hmm, Option.getD_some, hb,
          Bool.false_eq_true, if_false]
        split <;> rfl
      rw [e]
      have hg0 : g ≠ 0 := by
        intro h0; subst h0
        rw [fullCtx_zero t gd] at hf
        rw [← hf] at hm; simp [innermostMedia] at hm
      obtain ⟨kg, hkg, hkgat⟩ : ∃ kg, kindAt t g = some kg ∧ kg.isAt = true := by
        rcases hk with h0 | h1
        · exact absurd h0 hg0
        · exact h1
      obtain ⟨G, hG, hGg, hfG⟩ := frames_of_node t gd g hg0 hg kg hkg
      have hfr : sc.frames = fullCtx t G ++ [kg] := by rw [← hf, hfG]
      by_cases hkm : kg.isMedia = true
      · -- merged with the enclosing @media: bubbles through it
        obtain ⟨c, hc⟩ := eq_media_of_isMedia kg hkm
        subst hc
        have hcc : c = cur := by
          rw [hfr, innermostMedia_snoc] at hm; simpa using hm
        subst hcc
        have hGat := hgp G hG
        have hnoG : ∀ kG, kindAt t G = some kG → kG.isMedia = false := by
          intro kG hkG
          by_cases hG0 : G = 0
          · subst hG0; rw [gd.root] at hkG; cases hkG
          · obtain ⟨G', _, _, hfG'⟩ := frames_of_node t gd G hG0 (by omega) kG hkG
            have hn := coh.noadj
            rw [hfr, hfG'] at hn
            simp only [List.reverse_append, List.reverse_cons, List.reverse_nil, List.nil_append, List.cons_append,
              noAdjR, Kind.isMedia, Bool.true_and, Bool.and_eq_true, Bool.not_eq_true'] at hn
            exact hn.1
        have hstopG : ∀ kG, kindAt t G = some kG → (Through.media ((vc.mqSources ++ c) ++ qs)).test kG = false := by
          intro kG hkG
          exact stop_media_nonMedia _ _ (isAt_of_atOrRoot t gd G hGat kG hkG) (hnoG _ hkG)
        have hland := landing_at_G t gd (.media ((vc.mqSources ++ c) ++ qs)) (fun _ => rfl) vc.parent g G hg hg0
          sc.sel hp (.media c) hkg (through_media_self vc.mqSources c qs hcur) hG hstopG
        have hpm : pushMedia sc.frames qs = some (fullCtx t G ++ [.media (m0 :: ms)]) := by
          simp only [pushMedia, hm, hmm, List.isEmpty_cons, Bool.false_eq_true, if_false]
          rw [hfr, dropMedia_snoc_media _ _ rfl (by rw [← hfr]; exact coh.noadj)]
        simp only [specStmt, hpm]
        have hn : noAdjR (.media c :: (fullCtx t G).reverse) = true := by
          have hn := coh.noadj
          rw [hfr] at hn
          simpa only [List.reverse_append, List.reverse_cons, List.reverse_nil, List.nil_append, List.cons_append] using hn
        apply bubble_rel af t gd sc vc coh (.media (m0 :: ms)) rfl _ G (by omega) hland hGat
          { sc with frames := fullCtx t G ++ [.media (m0 :: ms)] }
          (fun P => { vc with parent := P, mq := some (m0 :: ms), mqSources := (vc.mqSources ++ c) ++ qs })
          rfl rfl
          (fun _ => ⟨coh.excl, coh.aexcl, coh.sel, coh.unk, by simp [coh.unkf, hfr, Kind.isUnknown],
            by simp [innermostMedia_snoc], noAdjR_snoc _ _ (noAdjR_tail _ _ hn) (Or.inr (noAdjR_head _ _ hn rfl))⟩)
          (fun _ => rfl)
        intro t2 vc2 gd2 coh2
        exact ih t2 _ vc2 gd2 coh2
      · -- separated from the enclosing @media by another at-rule: stays inside it
        have hkm' : kg.isMedia = false := by simpa using hkm
        have hstop : ∀ k, kindAt t g = some k → (Through.media ((vc.mqSources ++ cur) ++ qs)).test k = false := by
          intro k hkk
          rw [hkg] at hkk; injection hkk with hkk; subst hkk
          exact stop_media_nonMedia _ _ hkgat hkm'
        have hland := landing_at_g t gd (.media ((vc.mqSources ++ cur) ++ qs)) (fun _ => rfl) vc.parent g hg sc.sel hp hstop
        have hpm : pushMedia sc.frames qs = some (sc.frames ++ [.media (m0 :: ms)]) := by
          simp only [pushMedia, hm, hmm, List.isEmpty_cons, Bool.false_eq_true, if_false]
          rw [hfr, dropMedia_snoc_nonMedia _ _ hkm']
        simp only [specStmt, hpm]
        apply bubble_rel af t gd sc vc coh (.media (m0 :: ms)) rfl _ g hg hland hk
          { sc with frames := sc.frames ++ [.media (m0 :: ms)] }
          (fun P => { vc with parent := P, mq := some (m0 :: ms), mqSources := (vc.mqSources ++ cur) ++ qs })
          (by simp [hf]) rfl
          (fun _ => ⟨coh.excl, coh.aexcl, coh.sel, coh.unk, by simp [coh.unkf, Kind.isUnknown],
            by simp [innermostMedia_snoc], noAdjR_snoc _ _ coh.noadj (Or.inr (fun b hb => by
              rw [hfr] at hb; simp at hb; subst hb; exact hkm'))⟩)
          (fun _ => rfl)
        intro t2 vc2 gd2 coh2
        exact ih t2 _ vc2 gd2 coh2

theorem coh_parent_lt (t : Tree) (sc : SCtx) (vc : VCtx) (coh : CohB t sc vc) :
    ∀ p, vc.parent = some p → p < t.length := by
  obtain ⟨g, hg, _, _, _, hp⟩ := coh.node
  exact parentIs_lt t vc.parent g hg sc.sel hp

theorem styleRule_stops (k : Kind) (h : k.isAt = true) : Through.styleRule.test k = false := by
  cases k <;> simp_all [Kind.isAt, Through.test]

theorem stop_styleRule (t : Tree) (gd : Good t) (g : Nat)
    (hk : g = 0 ∨ ∃ k, kindAt t g = some k ∧ k.isAt = true) :
    ∀ k, kindAt t g = some k → Through.styleRule.test k = false :=
  fun k hkk => styleRule_stops k (isAt_of_atOrRoot t gd g hk k hkk)

mutual
  theorem stmtB_rel (af : AsFound) (h : af.shallowSibling = true) : ∀ (s : Stmt), bubOnly s = true →
      ∀ (t : Tree) (sc : SCtx) (vc : VCtx), Good t → CohB t sc vc →
        RelB t vc.parent (specStmt sc s) (visitStmt af vc t s)
    | .decl d, _, t, sc, vc, gd, coh => by
      have hre := coh_ruleExists t sc vc coh
      simp only [specStmt, visitStmt, hre, coh.unk]
      by_cases hok : (sc.ruleHere || sc.inUnknown) = true
      · have hnot : (!sc.ruleHere && !sc.inUnknown) = false := by
          cases h1 : sc.ruleHere <;> cases h2 : sc.inUnknown <;> simp_all
        simp only [hok, if_true, hnot, Bool.false_eq_true, if_false, RelB, visitDecl_none]
        obtain ⟨g, hg, hf, hk, _, hp⟩ := coh.node
        have hP : ∃ p, vc.parent = some p ∧ p < t.length ∧ ∀ n v, kindAt t p ≠ some (.decl n v) := by
          cases hs : sc.sel with
          | some S =>
            rw [hs] at hp
            obtain ⟨p, h1, _, h3, h4, _⟩ := hp
            exact ⟨p, h1, h3, by intro n v h; rw [h4] at h; cases h⟩
          | none =>
            rw [hs] at hp
            simp only [ParentIs] at hp
            have hu : sc.inUnknown = true := by simpa [SCtx.ruleHere, hs] using hok
            have hg0 : g ≠ 0 := by
              intro h0; subst h0
              rw [fullCtx_zero t gd] at hf
              rw [coh.unkf, ← hf] at hu; simp at hu
            simp only [hg0, if_false] at hp
            refine ⟨g, hp, hg, ?_⟩
            intro n v h
            rcases hk with h0 | ⟨k', h1, h2⟩
            · exact hg0 h0
            · rw [h1] at h; injection h with h; subst h; simp [Kind.isAt] at h2
        obtain ⟨p, hp1, hp2, hp3⟩ := hP
        obtain ⟨g2, e2, v2⟩ := addDecls_B p (declSpec [] d) t gd hp2 hp3
        rw [hp1]
        exact ⟨_, rfl, g2, e2, [], by simp [v2, extOB], rfl, by simp⟩
      · have hnot : (!sc.ruleHere && !sc.inUnknown) = true := by
          cases h1 : sc.ruleHere <;> cases h2 : sc.inUnknown <;> simp_all
        simp [hok, hnot, RelB]
    | .rule sel0 body, hro, t, sc, vc, gd, coh => by
      simp only [bubOnly] at hro
      simp only [specStmt, visitStmt, coh.sel, coh.aexcl, coh.excl, h, Bool.not_true, Bool.not_false]
      cases hres : resolveList sc.sel true sel0 with
      | error e => simp [RelB]
      | ok sel' =>
        simp only
        obtain ⟨g, hg, hf, hk, hgp, hp⟩ := coh.node
        have hland := landing_at_g t gd .styleRule (fun _ => rfl) vc.parent g hg sc.sel hp (stop_styleRule t gd g hk)
        exact open_block_rel af t t gd (Ext.refl t) vc.parent [] (by simp) (by simp) vc.parent .styleRule g hg hland hk
          (.rule sel') rfl (fun _ => hgp)
          { sc with sel := some sel', exclStyle := false } (by simp [hf, Kind.isAt]) rfl
          (fun y => { vc with parent := some y, styleRule := some sel', atRootExcl := false })
          (fun _ => ⟨rfl, rfl, rfl, coh.unk, coh.unkf, coh.mq, coh.noadj⟩) (fun _ => rfl) body
          (fun t2 vc2 gd2 coh2 => stmtsB_rel af h body hro t2 _ vc2 gd2 coh2)
    | .supports cond body, hro, t, sc, vc, gd, coh => by
      simp only [bubOnly] at hro
      rw [visit_supports_eq af h]
      simp only [specStmt]
      obtain ⟨g, hg, hf, hk, hgp, hp⟩ := coh.node
      have hland := landing_at_g t gd .styleRule (fun _ => rfl) vc.parent g hg sc.sel hp (stop_styleRule t gd g hk)
      apply bubble_rel af t gd sc vc coh (.supports cond) rfl .styleRule g hg hland hk
        { sc with frames := sc.frames ++ [.supports cond] } (fun P => { vc with parent := P })
        (by simp [hf]) rfl
        (fun _ => ⟨coh.excl, coh.aexcl, coh.sel, coh.unk, by simp [coh.unkf, Kind.isUnknown],
          by simp [innermostMedia_snoc, coh.mq], noAdjR_snoc _ _ coh.noadj (Or.inl rfl)⟩)
        (fun _ => rfl)
      intro t2 vc2 gd2 coh2
      exact stmtsB_rel af h body hro t2 _ vc2 gd2 coh2
    | .unknown n p body, hro, t, sc, vc, gd, coh => by
      simp only [bubOnly] at hro
      rw [visit_unknown_eq af h]
      simp only [specStmt]
      obtain ⟨g, hg, hf, hk, hgp, hp⟩ := coh.node
      have hland := landing_at_g t gd .styleRule (fun _ => rfl) vc.parent g hg sc.sel hp (stop_styleRule t gd g hk)
      apply bubble_rel af t gd sc vc coh (.unknown n p) rfl .styleRule g hg hland hk
        { sc with frames := sc.frames ++ [.unknown n p], inUnknown := true }
        (fun P => { vc with parent := P, inUnknown := true })
        (by simp [hf]) rfl
        (fun _ => ⟨coh.excl, coh.aexcl, coh.sel, rfl, by simp [Kind.isUnknown],
          by simp [innermostMedia_snoc, coh.mq], noAdjR_snoc _ _ coh.noadj (Or.inl rfl)⟩)
        (fun _ => rfl)
      intro t2 vc2 gd2 coh2
      exact stmtsB_rel af h body hro t2 _ vc2 gd2 coh2
    | .media qs body, hro, t, sc, vc, gd, coh => by
      simp only [bubOnly] at hro
      exact media_rel af h qs body t sc vc gd coh (fun t2 sc2 vc2 gd2 coh2 => stmtsB_rel af h body hro t2 sc2 vc2 gd2 coh2)
    | .atroot _ _, hro, _, _, _, _, _ => by simp [bubOnly] at hro
  theorem stmtsB_rel (af : AsFound) (h : af.shallowSibling = true) : ∀ (ss : Stmts), bubOnlyL ss = true →
      ∀ (t : Tree) (sc : SCtx) (vc : VCtx), Good t → CohB t sc vc →
        RelB t vc.parent (specStmts sc ss) (visitStmts af vc t ss)
    | .nil, _, t, sc, vc, gd, coh => by
      simp only [specStmts, visitStmts, RelB]
      refine ⟨t, rfl, gd, Ext.refl t, [], ?_, rfl, by simp⟩
      simp only [List.append_nil]
      exact (map_eq_self _ _ (fun e _ => extOB_nil vc.parent e)).symm
    | .cons s ss, hro, t, sc, vc, gd, coh => by
      simp only [bubOnlyL, Bool.and_eq_true] at hro
      simp only [specStmts, visitStmts]
      show RelB t vc.parent _ (bindT (visitStmt af vc t s) (fun t' => visitStmts af vc t' ss))
      apply relB_seq t vc.parent (coh_parent_lt t sc vc coh)
      · exact stmtB_rel af h s hro.1 t sc vc gd coh
      · intro t1 _ gd1 ex1
        exact stmtsB_rel af h ss hro.2 t1 sc vc gd1 (CohB.of_ext t t1 gd ex1 sc vc coh)
end


/-! ### the bubbling fragment: `treeBuild` read in index order against `flattenSpec` -/

/-- The non-declaration nodes in index order, as blocks; empty blocks dropped. -/
def observeIdx (t : Tree) : List Block := ((viewB t).map toBlockB).filter Block.nonEmpty

def readIdx : Except Err Tree → Except Err (List Block)
  | .error e => .error e
  | .ok t => .ok (observeIdx t)

theorem cohB_init : CohB Tree.init SCtx.init VCtx.init := by
  refine ⟨rfl, rfl, rfl, rfl, rfl, rfl, rfl, 0, by simp [Tree.init], fullCtx_zero _ good_init, Or.inl rfl, ?_, ?_⟩
  · intro G hG; simp [parentOf, Tree.init] at hG
  · simp [ParentIs, SCtx.init, VCtx.init]

theorem viewB_init : viewB Tree.init = [] := by
  simp [viewB, entB, kindAt, Tree.init, List.range_succ]

theorem readIdx_eq_flattenSpec_bubbling (af : AsFound) (h : af.shallowSibling = true) (src : Stmts)
    (hb : bubOnlyL src = true) : readIdx (treeBuild af src) = flattenSpec src := by
  have rel := stmtsB_rel af h src hb Tree.init SCtx.init VCtx.init good_init cohB_init
  unfold treeBuild flattenSpec
  cases hs : specStmts SCtx.init src with
  | error e =>
    rw [hs] at rel
    simp only [RelB] at rel
    rw [rel]; rfl
  | ok x =>
    obtain ⟨ds, bs⟩ := x
    rw [hs] at rel
    obtain ⟨t', hb', _, _, new, v, m, _⟩ := rel
    rw [hb']
    simp only [readIdx, observeIdx]
    rw [v, viewB_init]
    simp [m]

def ownDecls : Stmts → List (String × String)
  | .nil => []
  | .cons (.decl d) ss => declSpec [] d ++ ownDecls ss
  | .cons _ ss => ownDecls ss

theorem wrapBlock_own (c : SCtx) (r : SpecRes) (ds : List (String × String)) (bs : List Block)
    (h : wrapBlock c r = .ok (ds, bs)) : ds = [] := by
  cases r with
  | error e => simp [wrapBlock] at h
  | ok x =>
    obtain ⟨d, b⟩ := x
    simp only [wrapBlock] at h
    injection h with h
    injection h with h1 _
    exact h1.symm

theorem specStmt_own (c : SCtx) (s : Stmt) (hb : bubOnly s = true) (ds : List (String × String)) (bs : List Block)
    (h : specStmt c s = .ok (ds, bs)) : ds = ownDecls (.cons s .nil) := by
  cases s with
  | decl d =>
    simp only [specStmt] at h
    split at h
    · injection h with h
      injection h with h1 _
      simp [ownDecls, ← h1]
    · cases h
  | rule sel body =>
    simp only [specStmt] at h
    split at h
    · cases h
    · simpa [ownDecls] using wrapBlock_own _ _ _ _ h
  | media qs body =>
    simp only [specStmt] at h
    split at h
    · injection h with h
      injection h with h1 _
      simp [ownDecls, ← h1]
    · simpa [ownDecls] using wrapBlock_own _ _ _ _ h
  | supports cond body =>
    simp only [specStmt] at h
    simpa [ownDecls] using wrapBlock_own _ _ _ _ h
  | unknown n p body =>
    simp only [specStmt] at h
    simpa [ownDecls] using wrapBlock_own _ _ _ _ h
  | atroot q body => simp [bubOnly] at hb

theorem ownDecls_cons (s : Stmt) (ss : Stmts) : ownDecls (.cons s ss) = ownDecls (.cons s .nil) ++ ownDecls ss := by
  cases s <;> simp [ownDecls]

theorem specStmts_own (c : SCtx) : ∀ (ss : Stmts), bubOnlyL ss = true → ∀ (ds : List (String × String)) (bs : List Block),
    specStmts c ss = .ok (ds, bs) → ds = ownDecls ss
  | .nil, _, ds, bs, h => by
    simp only [specStmts] at h
    injection h with h
    injection h with h1 _
    simp [ownDecls, ← h1]
  | .cons s ss, hb, ds, bs, h => by
    simp only [bubOnlyL, Bool.and_eq_true] at hb
    simp only [specStmts] at h
    cases h1 : specStmt c s with
    | error e => rw [h1] at h; simp [seqRes] at h
    | ok x1 =>
      obtain ⟨d1, b1⟩ := x1
      cases h2 : specStmts c ss with
      | error e => rw [h1, h2] at h; simp [seqRes] at h
      | ok x2 =>
        obtain ⟨d2, b2⟩ := x2
        rw [h1, h2] at h
        simp only [seqRes] at h
        injection h with h
        injection h with hd _
        rw [ownDecls_cons, ← hd, specStmt_own c s hb.1 d1 b1 h1, specStmts_own c ss hb.2 d2 b2 h2]

mutual
theorem rulesOnly_bub : ∀ s : Stmt, rulesOnly s = true → bubOnly s = true
  | .decl _, _ => rfl
  | .rule _ body, h => by simp only [rulesOnly] at h; simp only [bubOnly]; exact rulesOnlyL_bub body h
  | .media _ _, h => by simp [rulesOnly] at h
  | .supports _ _, h => by simp [rulesOnly] at h
  | .unknown _ _ _, h => by simp [rulesOnly] at h
  | .atroot _ _, h => by simp [rulesOnly] at h
theorem rulesOnlyL_bub : ∀ ss : Stmts, rulesOnlyL ss = true → bubOnlyL ss = true
  | .nil, _ => rfl
  | .cons s ss, h => by
    simp only [rulesOnlyL, Bool.and_eq_true] at h
    simp only [bubOnlyL, Bool.and_eq_true]
    exact ⟨rulesOnly_bub s h.1, rulesOnlyL_bub ss h.2⟩
end

end Grass.CssTree
