import GrassProofs.Lemmas.CalcSimp
/-
  `min()`/`max()` (`extremumLoop`) and `clamp()` (`clampReduce`) never panic, and where they reduce
  without having coerced a unit the result is the ordinary extremum, resp. `max(MIN, min(VAL, MAX))`.
-/
namespace Grass.Calc

/-! ### `min()` and `max()` -/

theorem extremumLoop_no_panic (isMax : Bool) :
    ∀ (args : List CalcArg) (m : Option Num), extremumLoop isMax m args ≠ .panic := by
  intro args
  induction args with
  | nil => intro m; simp [extremumLoop]
  | cons a rest ih =>
    intro m
    cases m with
    | none =>
      cases a <;> simp [extremumLoop]
      exact ih _
    | some m =>
      cases a <;> simp only [extremumLoop] <;> try simp
      rename_i n u
      split
      · simp
      · rename_i hc
        have := convert_isSome n u m.u (Or.inr (by simpa using hc))
        cases hcv : convert n u m.u with
        | none => simp [hcv] at this
        | some c => exact Res.bind_ne_panic (ih _) fun _ => nofun

def foldExt (isMax : Bool) (m : Rat) (xs : List Rat) : Rat := if isMax then foldMax m xs else foldMin m xs

theorem foldExt_cons (isMax : Bool) (m x : Rat) (xs : List Rat) :
    foldExt isMax m (x :: xs) = foldExt isMax (if isMax then rmax m x else rmin m x) xs := by
  cases isMax <;> simp [foldExt, foldMin, foldMax]

theorem evalArgs_cons_some (ρ : Env) (a : CalcArg) (as : CalcArgs) (x : Rat) (xs : List Rat)
    (h1 : evalCalc ρ a = some x) (h2 : evalArgs ρ as = some xs) :
    evalArgs ρ (.cons a as) = some (x :: xs) := by
  simp [evalArgs, h1, h2]

theorem extremumLoop_none_ok {isMax : Bool} {args : List CalcArg} {r : Num} {co : Bool}
    (h : extremumLoop isMax none args = .ok (some r, co)) :
    ∃ n u rest, args = .number n u :: rest ∧ extremumLoop isMax (some ⟨n, u⟩) rest = .ok (some r, co) := by
  cases args with
  | nil => simp [extremumLoop] at h
  | cons a rest =>
    cases a <;> simp only [extremumLoop] at h
    case number n u => exact ⟨n, u, rest, rfl, h⟩
    all_goals cases h

theorem extremumLoop_cons_ok {isMax : Bool} {m r : Num} {a : CalcArg} {rest : List CalcArg} {co : Bool}
    (h : extremumLoop isMax (some m) (a :: rest) = .ok (some r, co)) :
    ∃ n u c co', a = .number n u ∧ convert n u m.u = some c ∧
      extremumLoop isMax (some (if (if isMax then m.n < c else m.n > c) then ⟨n, u⟩ else m)) rest
        = .ok (some r, co') ∧
      co = (co' || !compatible m.u u) := by
  cases a <;> simp only [extremumLoop] at h
  case number n u =>
    split at h
    · cases h
    · split at h
      · cases h
      · next c hcv =>
        obtain ⟨⟨r', co'⟩, hr, ho⟩ := Res.bind_eq_ok.mp h
        cases ho
        rw [← apply_ite some] at hr
        exact ⟨n, u, c, co', rfl, hcv, hr, rfl⟩
  all_goals cases h

theorem extremumLoop_value (ρ : Env) (hw : ρ.wf) (isMax : Bool) :
    ∀ (rest : List CalcArg) (m r : Num),
      extremumLoop isMax (some m) rest = .ok (some r, false) →
      ∃ vals, evalArgs ρ (CalcArgs.ofList rest) = some vals ∧ r.val ρ = foldExt isMax (m.val ρ) vals := by
  intro rest
  induction rest with
  | nil =>
    intro m r h
    simp [extremumLoop] at h; subst h
    exact ⟨[], by simp [CalcArgs.ofList, evalArgs], by cases isMax <;> simp [foldExt, foldMin, foldMax]⟩
  | cons a rest ih =>
    intro m r h
    obtain ⟨n, u, c, co', rfl, hcv, hr, hco⟩ := extremumLoop_cons_ok h
    obtain ⟨rfl, hcomp⟩ : co' = false ∧ compatible m.u u = true := by simpa using hco.symm
    obtain ⟨vals, hv, hf⟩ := ih _ r hr
    have hconv := convert_value ρ n c u m.u (compatible_symm _ _ hcomp) hcv
    have hU := unitVal_pos ρ hw m.u
    refine ⟨n * unitVal ρ u :: vals, evalArgs_cons_some ρ _ _ _ _ (by simp [evalCalc]) hv, ?_⟩
    rw [foldExt_cons, hf]
    congr 1
    -- comparing magnitudes in `m`'s unit is comparing the quantities
    have hlt : m.n < c ↔ m.val ρ < n * unitVal ρ u := by
      simp only [Num.val, ← hconv]
      exact (Rat.mul_lt_mul_right hU).symm
    have hgt : m.n > c ↔ n * unitVal ρ u < m.val ρ := by
      simp only [Num.val, ← hconv]
      exact (Rat.mul_lt_mul_right hU).symm
    cases isMax
    · simp only [Bool.false_eq_true, if_false, rmin, hgt]
      split <;> rfl
    · simp only [if_true, rmax, hlt]
      split <;> rfl

theorem extremumLoop_all_numbers (isMax : Bool) :
    ∀ (rest : List CalcArg) (m r : Num) (co : Bool),
      extremumLoop isMax (some m) rest = .ok (some r, co) → ∀ a ∈ rest, ∃ n u, a = .number n u := by
  intro rest
  induction rest with
  | nil => intro m r co _ a ha; cases ha
  | cons x rest ih =>
    intro m r co h a ha
    obtain ⟨n, u, c, co', rfl, -, hr, -⟩ := extremumLoop_cons_ok h
    rcases List.mem_cons.mp ha with e | e
    · exact ⟨n, u, e⟩
    · exact ih _ r co' hr a e

theorem extremumLoop_compat (isMax : Bool) :
    ∀ (rest : List CalcArg) (m r : Num),
      extremumLoop isMax (some m) rest = .ok (some r, false) →
      compatible m.u r.u = true ∧ ∀ n u, CalcArg.number n u ∈ rest → compatible m.u u = true := by
  intro rest
  induction rest with
  | nil =>
    intro m r h
    simp [extremumLoop] at h; subst h
    exact ⟨(compatible_iff _ _).mpr (Or.inl rfl), fun n u hm => by cases hm⟩
  | cons x rest ih =>
    intro m r h
    obtain ⟨n0, u0, c, co', rfl, -, hr, hco⟩ := extremumLoop_cons_ok h
    obtain ⟨rfl, e3⟩ : co' = false ∧ compatible m.u u0 = true := by simpa using hco.symm
    obtain ⟨c1, c2⟩ := ih _ r hr
    have hmu : ∀ (P : Prop) [Decidable P], compatible m.u (if P then (⟨n0, u0⟩ : Num) else m).u = true := by
      intro P _
      split
      · exact e3
      · exact (compatible_iff _ _).mpr (Or.inl rfl)
    refine ⟨compatible_trans _ _ _ (hmu _) c1, fun n u hm => ?_⟩
    rcases List.mem_cons.mp hm with e | e
    · cases e; exact e3
    · exact compatible_trans _ _ _ (hmu _) (c2 n u e)

theorem evalArgs_map_simplify (ρ : Env) (l : List CalcArg) :
    evalArgs ρ (CalcArgs.ofList (l.map simplify)) = evalArgs ρ (CalcArgs.ofList l) := by
  induction l with
  | nil => rfl
  | cons a l ih => simp only [List.map, CalcArgs.ofList, evalArgs, simplify_value, ih]

theorem eval_calculation_congr (ρ : Env) (nm : CName) (as as' : CalcArgs)
    (h : evalArgs ρ as = evalArgs ρ as') :
    evalCalc ρ (.calculation nm as) = evalCalc ρ (.calculation nm as') := by
  simp only [evalCalc, h]

theorem extremumFn_no_panic (cfg : Cfg) (isMax : Bool) (args : List CalcArg) :
    extremumFn cfg isMax args ≠ .panic := by
  refine Res.bind_ne_panic (extremumLoop_no_panic _ _ _) fun (m, co) => ?_
  cases m with
  | some m => nofun
  | none => exact Res.bind_ne_panic (verifyCompatible_no_panic _ _) fun _ => nofun

/-! ### `calc()` -/

theorem calcFn_value (ρ : Env) (a : CalcArg) :
    evalCalc ρ (calcFn a) = evalCalc ρ (.calculation .calc (.cons a .nil)) := by
  have hs := simplify_value ρ a
  have hc : evalCalc ρ (.calculation .calc (.cons a .nil)) = evalCalc ρ a := by
    simp only [evalCalc, evalArgs]
    cases evalCalc ρ a <;> simp [evalFn]
  have hc' : evalCalc ρ (.calculation .calc (.cons (simplify a) .nil)) = evalCalc ρ (simplify a) := by
    simp only [evalCalc, evalArgs]
    cases evalCalc ρ (simplify a) <;> simp [evalFn]
  rw [hc, ← hs]
  unfold calcFn
  split
  · rename_i e; rw [e]
  · rename_i e; rw [e]
  · rename_i x _ _; exact hc'

/-! ### `clamp()` -/

theorem mul_le_mul_right_iff (x y U : Rat) (hU : 0 < U) : x ≤ y ↔ x * U ≤ y * U := by
  rw [← Rat.not_lt, ← Rat.not_lt (a := y * U)]
  exact not_congr (Rat.mul_lt_mul_right hU).symm

/-- the coded cascade (`VAL ≤ MIN ∨ MAX < MIN → MIN; VAL ≥ MAX → MAX; VAL`) -/
theorem clamp_cascade (A B C : Rat) :
    (if B ≤ A then A else if C < A then A else if B ≥ C then C else B) = rmax A (rmin B C) := by
  unfold rmax rmin; grind

theorem clampReduce_value (ρ : Env) (hw : ρ.wf) (cfg : Cfg) (hcss : cfg.clampCss = true) (mn v mx r : Num)
    (h1 : compatible mn.u v.u = true) (h2 : compatible mn.u mx.u = true)
    (h : clampReduce cfg mn v mx = .ok r) :
    r.val ρ = rmax (mn.val ρ) (rmin (v.val ρ) (mx.val ρ)) := by
  obtain ⟨a, e1, k1⟩ := convert_compatible mn.n h1
  obtain ⟨b, e2, k2⟩ := convert_compatible mx.n (compatible_trans _ _ _ (compatible_symm _ _ h2) h1)
  obtain ⟨c, e3, k3⟩ := convert_compatible mx.n (compatible_symm _ _ h2)
  have hU := unitVal_pos ρ hw v.u
  have hUm := unitVal_pos ρ hw mn.u
  have c1 : v.n ≤ a ↔ v.val ρ ≤ mn.val ρ := by
    unfold Num.val; rw [← k1 ρ]; exact mul_le_mul_right_iff v.n a _ hU
  have c2 : c < mn.n ↔ mx.val ρ < mn.val ρ := by
    unfold Num.val; rw [← k3 ρ]; exact (Rat.mul_lt_mul_right hUm).symm
  have c3 : v.n ≥ b ↔ v.val ρ ≥ mx.val ρ := by
    unfold Num.val; rw [← k2 ρ]; exact mul_le_mul_right_iff b v.n _ hU
  unfold clampReduce at h
  rw [e1, e2] at h
  simp only [e3, hcss, if_true, ← apply_ite Res.ok] at h
  cases h
  simp only [← clamp_cascade, ← c1, ← c2, ← c3, apply_ite (Num.val ρ)]

theorem ite_elim {α : Type} (P : α → Prop) {c : Prop} [Decidable c] {x y : α} (hx : P x) (hy : P y) :
    P (if c then x else y) := by
  split <;> assumption

theorem clampReduce_ok (cfg : Cfg) (mn v mx : Num)
    (h1 : compatible mn.u v.u = true) (h2 : compatible mn.u mx.u = true) :
    ∃ r, clampReduce cfg mn v mx = .ok r ∧ (r = mn ∨ r = v ∨ r = mx) := by
  obtain ⟨a, e1, -⟩ := convert_compatible mn.n h1
  obtain ⟨b, e2, -⟩ := convert_compatible mx.n (compatible_trans _ _ _ (compatible_symm _ _ h2) h1)
  obtain ⟨c, e3, -⟩ := convert_compatible mx.n (compatible_symm _ _ h2)
  unfold clampReduce
  rw [e1, e2]
  simp only [e3]
  -- every leaf of the cascade is one of the three
  let P : Res Num → Prop := fun x => ∃ r, x = .ok r ∧ (r = mn ∨ r = v ∨ r = mx)
  have hmn : P (.ok mn) := ⟨_, rfl, .inl rfl⟩
  have hv : P (.ok v) := ⟨_, rfl, .inr (.inl rfl)⟩
  have hmx : P (.ok mx) := ⟨_, rfl, .inr (.inr rfl)⟩
  exact ite_elim P hmn (ite_elim P (ite_elim P hmn (ite_elim P hmx hv)) (ite_elim P hmx hv))

theorem clampFn_no_panic (cfg : Cfg) (hg : cfg.clampGuarded = true) (args : List CalcArg) :
    clampFn cfg args ≠ .panic := by
  unfold clampFn
  simp only []
  generalize args.map simplify = A
  have gen : ((verifyLength A 3).bind fun _ => (verifyCompatible cfg.strict A).bind fun _ =>
      Res.ok (⟨.calculation .clamp (CalcArgs.ofList A), false⟩ : Out)) ≠ .panic :=
    Res.bind_ne_panic (verifyLength_no_panic _ _) fun _ =>
      Res.bind_ne_panic (verifyCompatible_no_panic _ _) fun _ => nofun
  split
  · next a ua b ub c uc =>
    simp only [hg, if_true]
    split
    · next hc =>
      simp only [Bool.and_eq_true] at hc
      obtain ⟨r, hr, -⟩ := clampReduce_ok cfg ⟨a, ua⟩ ⟨b, ub⟩ ⟨c, uc⟩ hc.1 hc.2
      rw [hr]
      nofun
    · exact gen
  · exact gen

end Grass.Calc
