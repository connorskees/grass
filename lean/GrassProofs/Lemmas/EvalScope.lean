import Grass.Eval
/-
  `lookupVar`, `findFrame` and `assignTarget` along a chain of frame ids against `setVarIn` and
  `newFrame`.  A chain reads the heap only through `getV` at its own frames (`lookupVar_congr`).
-/
namespace Grass.Eval

theorem alGet_alErase_ne {β : Type} (n m : String) (h : m ≠ n) :
    ∀ (l : List (String × β)), alGet (alErase l n) m = alGet l m
  | [] => rfl
  | (k, v) :: r => by
    unfold alErase
    by_cases hk : k = n
    · have h1 : ((k, v).1 != n) = false := by simp [hk]
      have h2 : (k == m) = false := by rw [hk]; simp; exact fun e => h e.symm
      simp only [List.filter_cons, h1, Bool.false_eq_true, if_false]
      have := alGet_alErase_ne n m h r
      unfold alErase at this
      rw [this]; simp [alGet, h2]
    · have h1 : ((k, v).1 != n) = true := by simp [hk]
      simp only [List.filter_cons, h1, if_true]
      have := alGet_alErase_ne n m h r
      unfold alErase at this
      simp only [alGet, this]

/-- The variable `n` as seen in frame `f` of heap `h`. -/
def getV (h : Array Frame) (f : Nat) (n : String) : Option Value :=
  (h[f]?).bind (fun fr => alGet fr.vars n)

/-- The heap after `setVarIn fid n v`. -/
def setV (h : Array Frame) (fid : Nat) (n : String) (v : Value) : Array Frame :=
  h.modify fid fun fr => { fr with vars := (n, v) :: alErase fr.vars n }

theorem setVarIn_eq (fid : Nat) (n : String) (v : Value) (st : St) :
    setVarIn fid n v st = .ok () { st with heap := setV st.heap fid n v } := rfl

theorem newFrame_eq (st : St) : newFrame st = .ok st.heap.size { st with heap := st.heap.push {} } := rfl

theorem setV_size (h : Array Frame) (fid : Nat) (n : String) (v : Value) : (setV h fid n v).size = h.size := by
  simp [setV]

theorem getV_setV (h : Array Frame) (fid g : Nat) (n m : String) (v : Value) (hf : fid < h.size) :
    getV (setV h fid n v) g m = if g = fid ∧ m = n then some v else getV h g m := by
  unfold getV setV
  rw [Array.getElem?_modify]
  by_cases hg : fid = g
  · subst hg
    have : h[fid]? = some h[fid] := Array.getElem?_eq_getElem hf
    simp only [if_true, this, Option.map_some, Option.bind_some, true_and]
    by_cases hm : m = n
    · subst hm; simp [alGet]
    · have h2 : (n == m) = false := by simp; exact fun e => hm e.symm
      simp only [alGet, h2, Bool.false_eq_true, if_false, hm]
      exact alGet_alErase_ne n m hm _
  · have hg' : ¬ g = fid := fun e => hg e.symm
    simp [hg, hg']

theorem getV_push (h : Array Frame) (g : Nat) (m : String) :
    getV (h.push {}) g m = if g = h.size then none else getV h g m := by
  unfold getV
  rw [Array.getElem?_push]
  by_cases hg : g = h.size
  · simp [hg, alGet]
  · simp [hg]

theorem lookupVar_cons (h : Array Frame) (f : Nat) (fs : List Nat) (n : String) :
    lookupVar h (f :: fs) n = match getV h f n with
      | some v => some v
      | none => lookupVar h fs n := rfl

theorem findFrame_cons (h : Array Frame) (f : Nat) (fs : List Nat) (n : String) :
    findFrame h (f :: fs) n = match getV h f n with
      | some _ => some f
      | none => findFrame h fs n := rfl

theorem lookupVar_congr (h h' : Array Frame) (n : String) :
    ∀ (env : List Nat), (∀ f ∈ env, getV h' f n = getV h f n) → lookupVar h' env n = lookupVar h env n
  | [], _ => rfl
  | f :: fs, hyp => by
    rw [lookupVar_cons, lookupVar_cons, hyp f (by simp),
      lookupVar_congr h h' n fs (fun g hg => hyp g (by simp [hg]))]

theorem findFrame_congr (h h' : Array Frame) (n : String) :
    ∀ (env : List Nat), (∀ f ∈ env, getV h' f n = getV h f n) → findFrame h' env n = findFrame h env n
  | [], _ => rfl
  | f :: fs, hyp => by
    rw [findFrame_cons, findFrame_cons, hyp f (by simp),
      findFrame_congr h h' n fs (fun g hg => hyp g (by simp [hg]))]

theorem findFrame_none_lookup : ∀ (h : Array Frame) (env : List Nat) (n : String),
    findFrame h env n = none → lookupVar h env n = none
  | _, [], _, _ => rfl
  | h, f :: fs, n, e => by
    rw [findFrame_cons] at e
    rw [lookupVar_cons]
    cases hv : getV h f n with
    | some v => simp [hv] at e
    | none => simp only [hv] at e ⊢; exact findFrame_none_lookup h fs n e

theorem findFrame_some : ∀ (h : Array Frame) (env : List Nat) (n : String) (f : Nat),
    findFrame h env n = some f → f ∈ env ∧ (getV h f n).isSome = true
  | _, [], _, _, e => by simp [findFrame] at e
  | h, g :: gs, n, f, e => by
    rw [findFrame_cons] at e
    cases hv : getV h g n with
    | some v => simp only [hv, Option.some.injEq] at e; subst e; simp [hv]
    | none =>
      simp only [hv] at e
      obtain ⟨h1, h2⟩ := findFrame_some h gs n f e
      exact ⟨by simp [h1], h2⟩

theorem lookupVar_push (h : Array Frame) (env : List Nat) (n : String) (hv : ∀ f ∈ env, f < h.size) :
    lookupVar (h.push {}) env n = lookupVar h env n := by
  apply lookupVar_congr
  intro f hf
  rw [getV_push]
  have := hv f hf
  have : f ≠ h.size := by omega
  simp [this]

theorem findFrame_push (h : Array Frame) (env : List Nat) (n : String) (hv : ∀ f ∈ env, f < h.size) :
    findFrame (h.push {}) env n = findFrame h env n := by
  apply findFrame_congr
  intro f hf
  rw [getV_push]
  have := hv f hf
  have : f ≠ h.size := by omega
  simp [this]

/-- an assignment without `!global` in the fresh frame of a block entered from `env` -/
theorem assignTarget_child (h : Array Frame) (env : List Nat) (n : String) (semi : Bool)
    (hne : env ≠ []) (hv : ∀ f ∈ env, f < h.size) :
    assignTarget (h.push {}) (h.size :: env) n false semi =
      match findFrame h env n with
      | none => some h.size
      | some f => if some f == env.getLast? then (if semi then env.getLast? else some h.size) else some f := by
  obtain ⟨a, b, rfl⟩ := List.exists_cons_of_ne_nil hne
  have hff : findFrame (h.push {}) (h.size :: a :: b) n = findFrame h (a :: b) n := by
    rw [findFrame_cons, getV_push, if_pos rfl, findFrame_push h _ n hv]
  rw [assignTarget, hff]
  cases findFrame h (a :: b) n <;> simp [List.getLast?_cons_cons]

theorem lookupVar_setV_notin (h : Array Frame) (fid : Nat) (n m : String) (v : Value) (env : List Nat)
    (hf : fid < h.size) (hn : fid ∉ env) : lookupVar (setV h fid n v) env m = lookupVar h env m := by
  apply lookupVar_congr
  intro f hfm
  rw [getV_setV h fid f n m v hf]
  have : f ≠ fid := fun e => hn (e ▸ hfm)
  simp [this]

theorem lookupVar_setV_fresh (h : Array Frame) (env : List Nat) (n m : String) (v : Value)
    (hv : ∀ f ∈ env, f < h.size) :
    lookupVar (setV (h.push {}) h.size n v) env m = lookupVar h env m := by
  rw [lookupVar_setV_notin _ _ _ _ _ _ (by simp) (fun hm => Nat.lt_irrefl _ (hv _ hm)),
    lookupVar_push h env m hv]

theorem lookupVar_setV_other (h : Array Frame) (fid : Nat) (n m : String) (v : Value) (env : List Nat)
    (hf : fid < h.size) (hm : m ≠ n) : lookupVar (setV h fid n v) env m = lookupVar h env m := by
  apply lookupVar_congr
  intro f _
  rw [getV_setV h fid f n m v hf]
  simp [hm]

theorem lookupVar_setV_top (h : Array Frame) (fid : Nat) (n : String) (v : Value) (env : List Nat)
    (hf : fid < h.size) : lookupVar (setV h fid n v) (fid :: env) n = some v := by
  rw [lookupVar_cons, getV_setV h fid fid n n v hf]; simp

theorem lookupVar_setV_found (h : Array Frame) (n : String) (v : Value) :
    ∀ (env : List Nat) (f : Nat), findFrame h env n = some f → f < h.size →
      lookupVar (setV h f n v) env n = some v
  | [], _, e, _ => by simp [findFrame] at e
  | g :: gs, f, e, hf => by
    rw [findFrame_cons] at e
    rw [lookupVar_cons, getV_setV h f g n n v hf]
    cases hv : getV h g n with
    | some x =>
      simp only [hv, Option.some.injEq] at e; subst e; simp
    | none =>
      simp only [hv] at e
      have hfs := (findFrame_some h gs n f e).2
      have hne : g ≠ f := by
        intro e'; subst e'; rw [hv] at hfs; simp at hfs
      simp only [hne, false_and, if_false]
      exact lookupVar_setV_found h n v gs f e hf

end Grass.Eval
