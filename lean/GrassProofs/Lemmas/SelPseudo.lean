import Grass.Selector
import GrassProofs.Lemmas.SelSem
import GrassProofs.Lemmas.SelWalk
/-
  Soundness of the superselector test with selector pseudos on the LEFT
  (`Pseudo::is_super_selector`, simple.rs:489): `:not(..)` and the `:is/:where/:matches/:any` family.
  The four levels call each other with less fuel: one induction on the fuel for all four.
-/
namespace Grass.Selector

/-! ### `toComps` is inverted by `norm` -/

def fwdFold : RSteps → Compound × List (Rel × Compound) → Compound × List (Rel × Compound)
  | [], acc => acc
  | (r, c) :: rest, (d, ds) => fwdFold rest (c, (r, d) :: ds)

theorem fwd_cons_rel (c : Compound) (r : Rel) (acc : Complex) (d : Compound) (ds : List (Rel × Compound))
    (h : fwd acc = some (d, ds)) : fwd (.compound c :: relComps r ++ acc) = some (c, (r, d) :: ds) := by
  cases r with
  | desc =>
    simp only [relComps]
    cases acc with
    | nil => simp [fwd] at h
    | cons x xs =>
      cases x with
      | comb cb => simp [fwd] at h
      | compound d' =>
        show fwd (Component.compound c :: Component.compound d' :: xs) = _
        simp only [fwd, h]
  | child => simp [relComps, fwd, h, Comb.rel]
  | next => simp [relComps, fwd, h, Comb.rel]
  | later => simp [relComps, fwd, h, Comb.rel]

theorem fwd_stepsToComps : ∀ (st : RSteps) (acc : Complex) (d : Compound) (ds : List (Rel × Compound)),
    fwd acc = some (d, ds) → fwd (stepsToComps st acc) = some (fwdFold st (d, ds)) := by
  intro st
  induction st with
  | nil => intro acc d ds h; simpa [stepsToComps, fwdFold] using h
  | cons x rest ih =>
    intro acc d ds h
    obtain ⟨r, c⟩ := x
    simp only [stepsToComps, fwdFold]
    exact ih _ c ((r, d) :: ds) (fwd_cons_rel c r acc d ds h)

theorem revGo_fwdFold : ∀ (st : RSteps) (d : Compound) (ds : List (Rel × Compound)) (acc : RSteps),
    revGo (fwdFold st (d, ds)).1 acc (fwdFold st (d, ds)).2 = revGo d (st ++ acc) ds := by
  intro st
  induction st with
  | nil => intro d ds acc; simp [fwdFold]
  | cons x rest ih =>
    intro d ds acc
    obtain ⟨r, c⟩ := x
    simp only [fwdFold]
    rw [ih c ((r, d) :: ds) acc]
    simp [revGo]

theorem norm_toComps (r : RComplex) : norm r.toComps = some r := by
  obtain ⟨t, st⟩ := r
  unfold norm RComplex.toComps
  simp only
  rw [fwd_stepsToComps st [.compound t] t [] (by simp [fwd])]
  simp only
  have := revGo_fwdFold st t [] []
  rw [this]
  simp [revGo]

theorem matchesComplex_toComps (r : RComplex) (p : Ctx) : matchesComplex r.toComps p = mRC r p := by
  simp [matchesComplex, norm_toComps]

theorem matchesList_toComps (l : List RComplex) (q : Ctx) :
    matchesList (l.map RComplex.toComps) q = mArgs l q := by
  rw [mArgs_eq_any]
  simp only [matchesList, List.any_map, Function.comp_def, matchesComplex_toComps, mRC]

/-! ### walks against a subselector that starts with a combinator answer `false` -/

theorem walk_comb_head (af : Bool) (sup : Compound → Compound → Complex → Bool) (prev : Option Rel)
    (a : Complex) (cb : Comb) (X : Complex) : walk af sup prev a (.comb cb :: X) = false := by
  unfold walk
  split
  · rfl
  · rfl
  · rfl
  · split <;> rfl
  · split <;> rfl

theorem superComplex_comb_head (f : Nat) (af : Bool) (A : Complex) (cb : Comb) (X : Complex) :
    superComplex f af A (.comb cb :: X) = false := by
  cases f with
  | zero => rfl
  | succ f =>
    unfold superComplex
    split
    · rfl
    · exact walk_comb_head _ _ _ _ _ _

/-! ### the four levels -/

def CompoundSound (f : Nat) : Prop :=
  ∀ (A B : Compound) (ps : Complex) (q : Ctx), superCompound f false A B ps = true → mComp B q = true →
    Hps ps B q → mComp A q = true
def PseudoSound (f : Nat) : Prop :=
  ∀ (k : PName) (arg : List RComplex) (B : Compound) (ps : Complex) (q : Ctx),
    superPseudo f false k arg B ps = true → mComp B q = true → Hps ps B q → mSimple (.sel k arg) q = true
def ComplexSound (f : Nat) : Prop :=
  ∀ (A B : Complex) (p : Ctx), superComplex f false A B = true → matchesComplex B p = true →
    matchesComplex A p = true
def ListSound (f : Nat) : Prop :=
  ∀ (L1 L2 : SelList) (p : Ctx), superList f false L1 L2 = true → matchesList L2 p = true →
    matchesList L1 p = true

theorem compoundSound_succ (f : Nat) (hp : PseudoSound f) : CompoundSound (f + 1) := by
  intro A B ps q h hB hps
  unfold superCompound at h
  simp only [Bool.and_eq_true, List.all_eq_true] at h
  rw [mComp_eq_all, List.all_eq_true]
  intro s hs
  have := h.1 s hs
  cases s with
  | sel k arg => exact hp k arg B ps q this hB hps
  | _ => exact simpleSuperOfCompound_sound _ B q this hB

theorem listSound_succ (f : Nat) (hc : ComplexSound f) : ListSound (f + 1) := by
  intro L1 L2 p h hB
  unfold superList at h
  unfold matchesList at hB ⊢
  rw [List.any_eq_true] at hB ⊢
  obtain ⟨c1, hc1, hm⟩ := hB
  have := (List.all_eq_true.1 h) c1 hc1
  rw [List.any_eq_true] at this
  obtain ⟨c2, hc2, hs⟩ := this
  exact ⟨c2, hc2, hc c2 c1 p hs hm⟩

theorem complexSound_succ (f : Nat) (hc : CompoundSound f) : ComplexSound (f + 1) := by
  intro A B p h hB
  unfold superComplex at h
  split at h
  · cases h
  · exact walk_sound_top _ (fun c d ps q => hc c d ps q) h hB

theorem type_not_both {n m : Name} {q : Ctx} (h1 : mSimple (.type n) q = true) (h2 : mSimple (.type m) q = true) :
    n = m := by
  simp only [mSimple, decide_eq_true_eq] at h1 h2
  rw [← h1, ← h2]

theorem id_not_both {n m : Name} {q : Ctx} (h1 : mSimple (.id n) q = true) (h2 : mSimple (.id m) q = true) :
    n = m := by
  simp only [mSimple, decide_eq_true_eq] at h1 h2
  rw [h1] at h2; injection h2

theorem isFamily_sound (f : Nat) (hc : ComplexSound f) (hl : ListSound f) {k : PName} (hk : k ≠ .not)
    {arg : List RComplex} {B : Compound} {ps : Complex} {q : Ctx} (hB : mComp B q = true) (hps : Hps ps B q)
    (h : ((B.any fun t => match t with
          | .sel k2 arg2 => (k2 == k) && superList f false (arg.map RComplex.toComps) (arg2.map RComplex.toComps)
          | _ => false) ||
        arg.any fun c1 => superComplex f false c1.toComps (ps ++ [.compound B])) = true) :
    mArgs arg q = true := by
  rcases Bool.or_eq_true _ _ ▸ h with hh | hh
  · obtain ⟨t, ht, hm⟩ := List.any_eq_true.1 hh
    cases t with
    | sel k2 arg2 =>
      simp only [Bool.and_eq_true, beq_iff_eq] at hm
      obtain ⟨rfl, hsl⟩ := hm
      have h2 := mComp_mem hB ht
      rw [mSimple_sel hk, ← matchesList_toComps] at h2
      rw [← matchesList_toComps]
      exact hl _ _ q hsl h2
    | _ => simp at hm
  · obtain ⟨c1, hc1, hs⟩ := List.any_eq_true.1 hh
    have hmatch : matchesComplex (ps ++ [.compound B]) q = true := by
      unfold Hps at hps
      split at hps
      · rw [List.cons_append, superComplex_comb_head] at hs; cases hs
      · exact hps
    have := hc _ _ q hs hmatch
    rw [matchesComplex_toComps] at this
    rw [mArgs_eq_any, List.any_eq_true]
    exact ⟨c1, hc1, by simpa [mRC] using this⟩

theorem notArm_sound (f : Nat) (hl : ListSound f) {arg : List RComplex} {B : Compound} {q : Ctx}
    (hB : mComp B q = true)
    (h : (arg.all fun complex => B.any fun t => match t with
          | .type _ => complex.1.any (fun s1 => s1.isType && decide (s1 ≠ t))
          | .id _ => complex.1.any (fun s1 => s1.isId && decide (s1 ≠ t))
          | .sel k2 arg2 => (k2 == .not) && superList f false (arg2.map RComplex.toComps) [complex.toComps]
          | _ => false) = true) :
    mArgs arg q = false := by
  cases hm : mArgs arg q with
  | false => rfl
  | true =>
    exfalso
    rw [mArgs_eq_any, List.any_eq_true] at hm
    obtain ⟨r, hr, hrm⟩ := hm
    obtain ⟨t, ht, hcond⟩ := List.any_eq_true.1 ((List.all_eq_true.1 h) r hr)
    have ht' := mComp_mem hB ht
    have hrc : mRC r q = true := hrm
    rw [Bool.and_eq_true] at hrm
    cases t with
    | type n =>
      obtain ⟨s1, hs1, hc1⟩ := List.any_eq_true.1 hcond
      simp only [Bool.and_eq_true, decide_eq_true_eq] at hc1
      have hs1m := mComp_mem hrm.1 hs1
      cases s1 <;> simp [Simple.isType] at hc1
      exact hc1 (by rw [type_not_both hs1m ht'])
    | id n =>
      obtain ⟨s1, hs1, hc1⟩ := List.any_eq_true.1 hcond
      simp only [Bool.and_eq_true, decide_eq_true_eq] at hc1
      have hs1m := mComp_mem hrm.1 hs1
      cases s1 <;> simp [Simple.isId] at hc1
      exact hc1 (by rw [id_not_both hs1m ht'])
    | sel k2 arg2 =>
      simp only [Bool.and_eq_true, beq_iff_eq] at hcond
      obtain ⟨rfl, hsl⟩ := hcond
      have hml : matchesList [r.toComps] q = true := by
        simp [matchesList, matchesComplex_toComps, hrc]
      have := hl _ _ q hsl hml
      rw [matchesList_toComps] at this
      simp [mSimple, this] at ht'
    | _ => simp at hcond

theorem pseudoSound_succ (f : Nat) (hc : ComplexSound f) (hl : ListSound f) : PseudoSound (f + 1) := by
  intro k arg B ps q h hB hps
  unfold superPseudo at h
  by_cases hk : k = .not
  · subst hk
    rw [mSimple, notArm_sound f hl hB h]
    rfl
  · rw [mSimple_sel hk]
    refine isFamily_sound f hc hl hk hB hps ?_
    cases k with
    | not => exact absurd rfl hk
    | _ => exact h

theorem sound_all : ∀ (f : Nat), CompoundSound f ∧ PseudoSound f ∧ ComplexSound f ∧ ListSound f := by
  intro f
  induction f with
  | zero =>
    refine ⟨?_, ?_, ?_, ?_⟩
    · intro A B ps q h; simp [superCompound] at h
    · intro k arg B ps q h; simp [superPseudo] at h
    · intro A B p h; simp [superComplex] at h
    · intro L1 L2 p h; simp [superList] at h
  | succ f ih =>
    obtain ⟨h1, h2, h3, h4⟩ := ih
    exact ⟨compoundSound_succ f h2, pseudoSound_succ f h3 h4, complexSound_succ f h1, listSound_succ f h3⟩

end Grass.Selector
