import GrassProofs.Lemmas.SelParse
import GrassProofs.Lemmas.SelPseudo
/-
  For `C11_sel_parse_print_depth1_partial`: `renderArgs` on the normal form writes what `renderList`
  writes for the component view, `normAll` inverts that view, and the view of `wfArgs` arguments is a
  `wfL` list — so `pList_app` applies inside the brackets.
-/
namespace Grass.Selector

theorem normAll_toComps : ∀ (arg : List RComplex), normAll (arg.map RComplex.toComps) = some arg := by
  intro arg
  induction arg with
  | nil => rfl
  | cons r rs ih => simp [normAll, norm_toComps, ih]

theorem stepsToComps_ne_nil : ∀ (st : RSteps) (acc : Complex), acc ≠ [] → stepsToComps st acc ≠ [] := by
  intro st
  induction st with
  | nil => intro acc h; simpa [stepsToComps] using h
  | cons x rest ih => intro acc _; obtain ⟨r, c⟩ := x; exact ih _ (by simp)

theorem renderComplex_rel (c : Compound) (r : Rel) (acc : Complex) (h : acc ≠ []) :
    renderComplex (.compound c :: relComps r ++ acc) = renderC c ++ relText r ++ renderComplex acc := by
  cases acc with
  | nil => exact absurd rfl h
  | cons a as => cases r <;> simp [relComps, relText, renderComplex, renderComponent]

theorem renderComplex_stepsToComps : ∀ (st : RSteps) (acc : Complex), acc ≠ [] →
    renderComplex (stepsToComps st acc) = renderSt st (renderComplex acc) := by
  intro st
  induction st with
  | nil => intro acc _; simp [stepsToComps, renderSt]
  | cons x rest ih =>
    intro acc h
    obtain ⟨r, c⟩ := x
    simp only [stepsToComps, renderSt]
    rw [ih _ (by simp), renderComplex_rel c r acc h]

theorem renderArgs_eq_renderList : ∀ (arg : List RComplex), renderArgs arg = renderList (arg.map RComplex.toComps) := by
  intro arg
  induction arg with
  | nil => rfl
  | cons r rs ih =>
    obtain ⟨t, st⟩ := r
    have h1 : renderSt st (renderC t) = renderComplex (RComplex.toComps (t, st)) := by
      unfold RComplex.toComps
      rw [renderComplex_stepsToComps st [.compound t] (by simp)]
      simp [renderComplex, renderComponent]
    cases rs with
    | nil => simp [renderArgs, renderList, h1]
    | cons r2 rs2 =>
      obtain ⟨t2, st2⟩ := r2
      simp only [renderArgs, List.map_cons, renderList] at ih ⊢
      rw [h1, ih]

theorem mem_stepsToComps : ∀ (st : RSteps) (acc : Complex) (c : Compound),
    Component.compound c ∈ stepsToComps st acc → (∃ x ∈ st, x.2 = c) ∨ Component.compound c ∈ acc := by
  intro st
  induction st with
  | nil => intro acc c h; exact Or.inr (by simpa [stepsToComps] using h)
  | cons x rest ih =>
    intro acc c h
    obtain ⟨r, d⟩ := x
    simp only [stepsToComps] at h
    rcases ih _ c h with ⟨y, hy, e⟩ | hm
    · exact Or.inl ⟨y, by simp [hy], e⟩
    · rcases List.mem_cons.1 hm with e | hm2
      · injection e with e; exact Or.inl ⟨(r, d), by simp, e.symm⟩
      · rcases List.mem_append.1 hm2 with h3 | h3
        · cases r <;> simp [relComps] at h3
        · exact Or.inr h3

def wfArgs (arg : List RComplex) : Prop :=
  arg ≠ [] ∧ ∀ r ∈ arg, wfC r.1 ∧ ∀ x ∈ r.2, wfC x.2

theorem wfL_of_wfArgs (arg : List RComplex) (h : wfArgs arg) : wfL (arg.map RComplex.toComps) := by
  refine ⟨by simpa using h.1, ?_⟩
  intro x hx
  obtain ⟨r, hr, e⟩ := List.mem_map.1 hx
  subst e
  refine ⟨?_, stepsToComps_ne_nil _ _ (by simp)⟩
  intro c hc
  rcases mem_stepsToComps _ _ c hc with ⟨y, hy, e⟩ | hm
  · subst e; exact (h.2 r hr).2 y hy
  · simp only [List.mem_singleton, Component.compound.injEq] at hm
    subst hm; exact (h.2 r hr).1

theorem pname_facts (k : PName) : validName k.text ∧ pnameOf k.text = some k := by
  cases k <;> exact ⟨⟨⟨_, _, rfl, by decide⟩, by decide⟩, by decide⟩

theorem renderList_starts {c : Compound} (hc : wfC c) (tl : Complex) (xs : SelList) :
    Starts isCompoundStart (renderList ((.compound c :: tl) :: xs)) := by
  have h : Starts isCompoundStart (renderComplex (.compound c :: tl)) := by
    have e := renderComplex_cons (.compound c) tl []
    rw [List.append_nil] at e
    rw [e]
    exact (renderC_starts hc).append _
  cases xs with
  | nil => exact h
  | cons y ys => exact h.append _

theorem toComps_head (r : RComplex) : ∃ c tl, r.toComps = .compound c :: tl := by
  obtain ⟨t, st⟩ := r
  unfold RComplex.toComps
  suffices h : ∀ (st : RSteps) (acc : Complex), (∃ c tl, acc = .compound c :: tl) →
      ∃ c tl, stepsToComps st acc = .compound c :: tl from h st _ ⟨t, [], rfl⟩
  intro st
  induction st with
  | nil => intro acc h; simpa [stepsToComps] using h
  | cons x rest ih => intro acc _; obtain ⟨r, c⟩ := x; exact ih _ ⟨c, _, rfl⟩

end Grass.Selector
