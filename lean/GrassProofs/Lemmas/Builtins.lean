import Grass.Builtins
/-
  For C14: integer indices through `fuzzy_as_int`, the list and map built-ins on checked arguments,
  association-list lemmas under an equivalence hypothesis on the keys involved (`KeyEquiv`).
-/
namespace Grass.Builtins
open Grass.Value

/-! ## integer indices -/

theorem floor_intCast_add_half (n : Int) : ((n : Rat) + 1 / 2).floor = n := by
  have h : (1 / 2 : Rat).floor = 0 := by decide +kernel
  rw [Rat.add_comm, Rat.floor_add_intCast, h, Int.zero_add]

theorem roundHalfAway_intCast (n : Int) : roundHalfAway (n : Rat) = n := by
  unfold roundHalfAway
  split
  · exact floor_intCast_add_half n
  · rw [← Rat.intCast_neg, floor_intCast_add_half, Int.neg_neg]

theorem asInt_intCast (n : Int) : asInt (n : Rat) = some n := by
  unfold asInt
  rw [roundHalfAway_intCast]
  simp [fuzzyEq]

theorem abs_intCast (n : Int) : (n : Rat).abs = ((n.natAbs : Int) : Rat) := by
  unfold Rat.abs
  split
  · next h => rw [Int.natAbs_of_nonneg (Rat.intCast_nonneg.mp h)]
  · next h => rw [← Rat.intCast_neg, Int.ofNat_natAbs_of_nonpos (Int.le_of_lt (Int.not_le.mp (fun hh => h (Rat.intCast_nonneg.mpr hh))))]

theorem abs_intCast_lt (n : Int) (len : Nat) : ((len : Rat) < (n : Rat).abs) ↔ len < n.natAbs := by
  rw [abs_intCast, ← Rat.intCast_natCast len, Rat.intCast_lt_intCast]; omega

theorem isZero_intCast (n : Int) (h : n ≠ 0) : isZero (n : Rat) = false := by
  have h1 : ¬ ((n : Rat) = 0) := fun hh => h (Rat.intCast_eq_zero_iff.mp hh)
  have h2 : ¬ (((n : Rat) - 0).abs ≤ epsilon) := by
    rw [Rat.sub_eq_add_neg, Rat.neg_zero, Rat.add_zero, abs_intCast]
    intro hh
    have h3 : ((1 : Int) : Rat) ≤ ((n.natAbs : Int) : Rat) := Rat.intCast_le_intCast.mpr (by omega)
    exact absurd (Rat.le_trans h3 hh) (by decide +kernel)
  simp [isZero, fuzzyEq, h1, h2]

theorem isZero_zero : isZero 0 = true := by simp [isZero, fuzzyEq]

theorem tooBig_intCast (b : Bool) (n : Int) (len : Nat) : tooBig b (n : Rat) len = decide (len < n.natAbs) := by
  unfold tooBig
  rw [asInt_intCast]
  have := abs_intCast_lt n len
  cases b <;> simp [this]

/-- the 0-based position an integer index denotes -/
def posOf (len : Nat) (n : Int) : Nat := if 0 < n then n.toNat - 1 else len - n.natAbs

theorem nthIndex_int (sw : Sw) (len : Nat) (n : Int) (h0 : n ≠ 0) (hr : n.natAbs ≤ len) :
    nthIndex sw len (n : Rat) = .ok (posOf len n) := by
  unfold nthIndex
  rw [isZero_intCast n h0, asInt_intCast]
  have h1 : ¬ (len < n.natAbs) := by omega
  have h2 : ¬ ((len : Rat) < (n : Rat).abs) := fun h => h1 ((abs_intCast_lt n len).mp h)
  cases sw.rangeByInt <;> simp [h1, h2, posOf, Rat.intCast_pos]

theorem nthIndex_int_range (sw : Sw) (len : Nat) (n : Int) (h0 : n ≠ 0) (hr : len < n.natAbs) :
    nthIndex sw len (n : Rat) = .error .indexRange := by
  unfold nthIndex
  rw [isZero_intCast n h0, asInt_intCast]
  have h2 : (len : Rat) < (n : Rat).abs := (abs_intCast_lt n len).mpr hr
  cases sw.rangeByInt <;> simp [hr, h2]

theorem nthIndex_zero (sw : Sw) (len : Nat) : nthIndex sw len 0 = .error .indexZero := by
  unfold nthIndex
  rw [isZero_zero]
  rfl

theorem setNthIndex_zero (sw : Sw) (len : Nat) : setNthIndex sw len 0 = .error .indexZero := by
  unfold setNthIndex
  rw [isZero_zero]
  rfl

theorem setNthIndex_int_range (sw : Sw) (len : Nat) (n : Int) (h0 : n ≠ 0) (hr : len < n.natAbs) :
    setNthIndex sw len (n : Rat) = .error .indexRange := by
  unfold setNthIndex
  rw [isZero_intCast n h0, tooBig_intCast, asInt_intCast]
  simp [hr]

theorem setNthIndex_int (sw : Sw) (len : Nat) (n : Int) (h0 : n ≠ 0) (hr : n.natAbs ≤ len) :
    setNthIndex sw len (n : Rat) = .ok (posOf len n) := by
  unfold setNthIndex
  rw [isZero_intCast n h0, tooBig_intCast, asInt_intCast]
  have : ¬ (len < n.natAbs) := by omega
  simp [this, posOf]

theorem posOf_lt (len : Nat) (n : Int) (h0 : n ≠ 0) (hr : n.natAbs ≤ len) : posOf len n < len := by
  unfold posOf; split <;> omega

theorem posOf_natCast (len k : Nat) (h : 1 ≤ k) : posOf len (k : Int) = k - 1 := by
  unfold posOf
  rw [if_pos (by omega), Int.toNat_natCast]

theorem posOf_neg (len k : Nat) (h : 1 ≤ k) : posOf len (-(k : Int)) = len - k := by
  unfold posOf
  rw [if_neg (by omega), Int.natAbs_neg, Int.natAbs_natCast]

/-! ## lists -/

theorem toList_ofList (es : List Value) : (VList.ofList es).toList = es := by
  induction es with
  | nil => rfl
  | cons a t ih => simp [VList.ofList, VList.toList, ih]

theorem elems_mkList (es : List Value) (s : Sep) (b : Bool) : elems (mkList es s b) = es :=
  toList_ofList es

theorem lengthF_one (l : Value) : lengthF [l] = .ok (natV (elems l).length) := rfl

def numI (n : Int) (u : U) : Value := .num (.fin (n : Rat)) u

theorem nthF_fin (sw : Sw) (l : Value) (q : Rat) (u : U) :
    nthF sw [l, .num (.fin q) u] =
      match nthIndex sw (elems l).length q with
      | .error e => .error e
      | .ok p =>
        match (elems l)[p]? with
        | some v => .ok v
        | none => .error .indexRange := rfl

theorem nthF_int (sw : Sw) (l : Value) (n : Int) (u : U) (h0 : n ≠ 0) (hr : n.natAbs ≤ (elems l).length) :
    nthF sw [l, numI n u] =
      match (elems l)[posOf (elems l).length n]? with
      | some v => .ok v
      | none => .error .indexRange := by
  rw [numI, nthF_fin, nthIndex_int sw _ n h0 hr]

theorem setNthParts_fst (l : Value) : (setNthParts l).1 = elems l := by
  cases l <;> rfl

theorem setNthF_fin (sw : Sw) (l v : Value) (q : Rat) (u : U) :
    setNthF sw [l, .num (.fin q) u, v] =
      (setNthIndex sw (elems l).length q).map
        (fun p => mkList ((elems l).set p v) (setNthParts l).2.1 (setNthParts l).2.2) := by
  rw [← setNthParts_fst l]
  unfold setNthF
  simp only [List.length_cons, List.length_nil, Nat.lt_irrefl, if_false]
  cases setNthIndex sw (setNthParts l).1.length q <;> rfl

theorem setNthF_int (sw : Sw) (l v : Value) (n : Int) (u : U) (h0 : n ≠ 0) (hr : n.natAbs ≤ (elems l).length) :
    setNthF sw [l, numI n u, v] =
      .ok (mkList ((elems l).set (posOf (elems l).length n) v) (setNthParts l).2.1 (setNthParts l).2.2) := by
  rw [numI, setNthF_fin, setNthIndex_int sw _ n h0 hr]
  rfl

/-- the separator a `join` argument contributes (documented reading) -/
def argSep : Value → Sep
  | .list _ s _ => s
  | .map _ => .comma
  | .arglist _ _ s => s
  | _ => .undecided

def argBr : Value → Bool
  | .list _ _ b => b
  | _ => false

theorem appendParts_eq (sw : Sw) (h : sw.appendAsList = true) (l : Value) :
    appendParts sw l = (elems l, argSep l, argBr l) := by
  cases l <;> simp only [appendParts, h, if_true] <;> rfl

theorem joinParts_eq (sw : Sw) (h : sw.joinArgAsList = true) (l : Value) :
    joinParts sw l = (elems l, argSep l, argBr l) := by
  cases l <;> simp only [joinParts, h, if_true] <;> rfl

def sepOfName (s : Sep) : Sep := match s with | .undecided => .space | s => s

theorem sepArg_sepName (auto s : Sep) (q : Bool) :
    sepArg auto (some (.str (sepName s) q)) = .ok (sepOfName s) := by
  cases s <;> simp [sepArg, sepName, sepOfName]

theorem sepArg_auto (auto : Sep) (q : Bool) : sepArg auto (some (.str "auto".toList q)) = .ok auto := by
  simp [sepArg]

theorem sepArg_unknown (auto : Sep) (n : List Char) (q : Bool)
    (h : n ∉ ["auto".toList, "comma".toList, "space".toList, "slash".toList]) :
    sepArg auto (some (.str n q)) = .error .badSeparator := by
  simp only [List.mem_cons, List.not_mem_nil, or_false, not_or] at h
  obtain ⟨h1, h2, h3, h4⟩ := h
  exact (if_neg h1).trans ((if_neg h2).trans ((if_neg h3).trans (if_neg h4)))

theorem appendF_two (sw : Sw) (l v : Value) :
    appendF sw [l, v] = .ok (mkList ((appendParts sw l).1 ++ [v])
      (if (appendParts sw l).2.1 = .undecided then .space else (appendParts sw l).2.1) (appendParts sw l).2.2) := by
  simp [appendF, sepArg]

theorem appendF_three (sw : Sw) (l v x : Value) :
    appendF sw [l, v, x] =
      (sepArg (if (appendParts sw l).2.1 = .undecided then .space else (appendParts sw l).2.1) (some x)).map
        (fun s => mkList ((appendParts sw l).1 ++ [v]) s (appendParts sw l).2.2) := by
  unfold appendF
  simp only [List.length_cons, List.length_nil, Nat.lt_irrefl, if_false, List.head?_cons]
  cases sepArg _ (some x) <;> rfl

theorem joinF_two (sw : Sw) (a b : Value) :
    joinF sw [a, b] = .ok (mkList ((joinParts sw a).1 ++ (joinParts sw b).1)
      (joinAutoSep (joinParts sw a).2.1 (joinParts sw b).2.1) (joinParts sw a).2.2) := by
  simp [joinF, sepArg, bracketedArg]

theorem joinF_three (sw : Sw) (a b x : Value) :
    joinF sw [a, b, x] =
      (sepArg (joinAutoSep (joinParts sw a).2.1 (joinParts sw b).2.1) (some x)).map
        (fun s => mkList ((joinParts sw a).1 ++ (joinParts sw b).1) s (joinParts sw a).2.2) := by
  unfold joinF
  simp only [List.length_cons, List.length_nil, List.head?_cons]
  cases sepArg _ (some x) <;> rfl

theorem length_zipRows (n : Nat) (ls : List (List Value)) : (zipRows n ls).length = n := by
  induction n generalizing ls with
  | zero => rfl
  | succ n ih => simp [zipRows, ih]

theorem minLen_le (ls : List (List Value)) : ∀ l, l ∈ ls → minLen ls ≤ l.length := by
  fun_induction minLen ls with
  | case1 => intro l h; cases h
  | case2 a =>
    intro l h
    rw [List.mem_singleton.mp h]
    exact Nat.le_refl _
  | case3 a rest hne ih =>
    intro l h
    rcases List.mem_cons.mp h with rfl | h
    · exact Nat.min_le_left _ _
    · exact Nat.le_trans (Nat.min_le_right _ _) (ih l h)

theorem minLen_attained (ls : List (List Value)) (h : ls ≠ []) : ∃ l, l ∈ ls ∧ minLen ls = l.length := by
  fun_induction minLen ls with
  | case1 => exact absurd rfl h
  | case2 a => exact ⟨a, List.mem_singleton.mpr rfl, rfl⟩
  | case3 a rest hne ih =>
    obtain ⟨l, hl, hm⟩ := ih (fun h => hne (h ▸ rfl))
    rcases Nat.le_total a.length (minLen rest) with hc | hc
    · exact ⟨a, List.mem_cons_self, Nat.min_eq_left hc⟩
    · exact ⟨l, List.mem_cons_of_mem _ hl, (Nat.min_eq_right hc).trans hm⟩

theorem natOf_natV (n : Nat) : natOf (natV n) = some n := by
  simp [natOf, natV]

/-! ## maps as association lists, keys compared by `veq` -/

/-- what C09 proves for the values in its scope, taken here as a hypothesis on the keys involved -/
structure KeyEquiv (e : Grass.Value.Sw) (P : Value → Prop) : Prop where
  refl : ∀ x, P x → veq e x x = true
  symm : ∀ x y, P x → P y → veq e x y = true → veq e y x = true
  trans : ∀ x y z, P x → P y → P z → veq e x y = true → veq e y z = true → veq e x z = true

theorem VPairs.ind {motive : VPairs → Prop} (nil : motive .nil)
    (cons : ∀ k v t, motive t → motive (.cons k v t)) : ∀ m, motive m
  | .nil => nil
  | .cons k v t => cons k v t (VPairs.ind nil cons t)

def keysIn (P : Value → Prop) : VPairs → Prop
  | .nil => True
  | .cons k _ t => P k ∧ keysIn P t

theorem contains_eq_isSome (e : Grass.Value.Sw) (m : VPairs) (q : Value) :
    contains e m q = (get e m q).isSome := by
  fun_induction Grass.Value.get e m q with
  | case1 => rfl
  | case2 k v t q h => simp [contains, VPairs.any, h]
  | case3 k v t q h ih =>
    rw [← ih]
    simp [contains, VPairs.any, h]

theorem get_congr {e : Grass.Value.Sw} {P : Value → Prop} (E : KeyEquiv e P) (m : VPairs) (k q : Value)
    (hm : keysIn P m) (hk : P k) (hq : P q) (h : veq e k q = true) : get e m k = get e m q := by
  induction m using VPairs.ind with
  | nil => rfl
  | cons k' v' t ih =>
    obtain ⟨hk', ht⟩ := hm
    simp only [Grass.Value.get]
    by_cases h1 : veq e k' k = true
    · have : veq e k' q = true := E.trans _ _ _ hk' hk hq h1 h
      simp [h1, this]
    · have : ¬ veq e k' q = true := fun h2 =>
        h1 (E.trans _ _ _ hk' hq hk h2 (E.symm _ _ hk hq h))
      simp [h1, this, ih ht]

theorem get_insert_self (e : Grass.Value.Sw) (m : VPairs) (k v : Value) (hr : veq e k k = true) :
    get e (insert e m k v) k = some v := by
  fun_induction Grass.Value.insert e m k v with
  | case1 => simp [Grass.Value.get, hr]
  | case2 k' v' t key val h => simp [Grass.Value.get, h]
  | case3 k' v' t key val h ih => simp [Grass.Value.get, h, ih hr]

theorem get_insert {e : Grass.Value.Sw} {P : Value → Prop} (E : KeyEquiv e P) (m : VPairs) (k v q : Value)
    (hm : keysIn P m) (hk : P k) (hq : P q) :
    get e (insert e m k v) q = if veq e k q = true then some v else get e m q := by
  fun_induction Grass.Value.insert e m k v with
  | case1 => rfl
  | case2 k' v' t k v h1 =>
    by_cases h2 : veq e k q = true
    · simp [Grass.Value.get, h2, E.trans _ _ _ hm.1 hk hq h1 h2]
    · have : ¬ veq e k' q = true := fun h3 => h2 (E.trans _ _ _ hk hm.1 hq (E.symm _ _ hm.1 hk h1) h3)
      simp [Grass.Value.get, h2, this]
  | case3 k' v' t k v h1 ih =>
    by_cases h3 : veq e k' q = true
    · have : ¬ veq e k q = true := fun h2 => h1 (E.trans _ _ _ hm.1 hq hk h3 (E.symm _ _ hk hq h2))
      simp [Grass.Value.get, h3, this]
    · simp [Grass.Value.get, h3, ih hm.2 hk]

theorem keysIn_insert (e : Grass.Value.Sw) (P : Value → Prop) (m : VPairs) (k v : Value)
    (hm : keysIn P m) (hk : P k) : keysIn P (insert e m k v) := by
  fun_induction Grass.Value.insert e m k v with
  | case1 => exact ⟨hk, trivial⟩
  | case2 k' v' t key val h => exact hm
  | case3 k' v' t key val h ih => exact ⟨hm.1, ih hm.2 hk⟩

theorem get_none_of_not_any (e : Grass.Value.Sw) {P : Value → Prop} (E : KeyEquiv e P) (t : VPairs) (kb q : Value)
    (ht : keysIn P t) (hkb : P kb) (hq : P q) (hbq : veq e kb q = true)
    (hd : t.any (fun k2 _ => veq e kb k2) = false) : get e t q = none := by
  fun_induction Grass.Value.get e t q with
  | case1 => rfl
  | case2 k' v' t' q h =>
    rw [VPairs.any, E.trans _ _ _ hkb hq ht.1 hbq (E.symm _ _ ht.1 hq h)] at hd
    cases hd
  | case3 k' v' t' q h ih =>
    rw [VPairs.any, Bool.or_eq_false_iff] at hd
    exact ih ht.2 hq hbq hd.2

theorem get_merge {e : Grass.Value.Sw} {P : Value → Prop} (E : KeyEquiv e P) (a b : VPairs) (q : Value)
    (ha : keysIn P a) (hb : keysIn P b) (hq : P q) (hd : distinctKeys e b = true) :
    get e (merge e a b) q = match get e b q with | some v => some v | none => get e a q := by
  induction b using VPairs.ind generalizing a with
  | nil => rfl
  | cons kb vb t ih =>
    obtain ⟨hkb, ht⟩ := hb
    simp only [distinctKeys, Bool.and_eq_true, Bool.not_eq_true'] at hd
    simp only [Grass.Value.merge]
    rw [ih (insert e a kb vb) (keysIn_insert e P a kb vb ha hkb) ht hd.2, get_insert E a kb vb q ha hkb hq]
    simp only [Grass.Value.get]
    by_cases h : veq e kb q = true
    · have := get_none_of_not_any e E t kb q ht hkb hq h hd.1
      simp [h, this]
    · simp [h]

theorem keysIn_merge (e : Grass.Value.Sw) (P : Value → Prop) (a b : VPairs)
    (ha : keysIn P a) (hb : keysIn P b) : keysIn P (merge e a b) := by
  induction b using VPairs.ind generalizing a with
  | nil => exact ha
  | cons kb vb t ih =>
    obtain ⟨hkb, ht⟩ := hb
    exact ih _ (keysIn_insert e P a kb vb ha hkb) ht

theorem get_remove_self (e : Grass.Value.Sw) (h : e.removeEq = true) (m : VPairs) (k : Value) :
    get e (remove e m k) k = none := by
  fun_induction remove e m k with
  | case1 => rfl
  | case2 k' v' t key hk ih =>
    simp only [keeps, h, if_true, Bool.not_eq_true'] at hk
    simp [Grass.Value.get, hk, ih]
  | case3 k' v' t key hk ih => exact ih

theorem get_remove_other {e : Grass.Value.Sw} {P : Value → Prop} (E : KeyEquiv e P) (h : e.removeEq = true)
    (m : VPairs) (k q : Value) (hm : keysIn P m) (hk : P k) (hq : P q) (hne : veq e k q = false) :
    get e (remove e m k) q = get e m q := by
  fun_induction remove e m k with
  | case1 => rfl
  | case2 k' v' t k hkeep ih => simp [Grass.Value.get, ih hm.2 hk hne]
  | case3 k' v' t k hkeep ih =>
    simp only [keeps, h, if_true, Bool.not_eq_true', Bool.not_eq_false] at hkeep
    have : ¬ veq e k' q = true := fun h2 => by
      have := E.trans _ _ _ hk hm.1 hq (E.symm _ _ hm.1 hk hkeep) h2
      simp [this] at hne
    simp [Grass.Value.get, this, ih hm.2 hk hne]

/-! ## deep merge -/

theorem dmVal_none (sw : Sw) (vb : Value) : dmVal sw vb none = vb := by
  cases vb with
  | list es s b => cases es <;> simp [dmVal]
  | arglist es kw s => cases es <;> simp [dmVal]
  | _ => simp [dmVal]

theorem tryMap_map (m : VPairs) : tryMap (.map m) = some m := rfl
theorem tryMap_list_nil (s : Sep) (b : Bool) : tryMap (.list .nil s b) = some .nil := rfl
theorem tryMap_arglist_nil (kw : VPairs) (s : Sep) : tryMap (.arglist .nil kw s) = some .nil := rfl
theorem tryMap_list_cons (a : Value) (t : VList) (s : Sep) (b : Bool) : tryMap (.list (.cons a t) s b) = none := rfl
theorem tryMap_arglist_cons (a : Value) (t : VList) (kw : VPairs) (s : Sep) : tryMap (.arglist (.cons a t) kw s) = none := rfl

theorem dmVal_eq (sw : Sw) (vb : Value) (old : Option Value) :
    dmVal sw vb old =
      match old.bind tryMap, tryMap vb with
      | some rm, some vm => .map (deepMerge sw rm vm)
      | _, _ => vb := by
  cases old with
  | none => simp [dmVal_none]
  | some o =>
    simp only [Option.bind_some]
    cases hO : tryMap o with
    | none =>
      cases vb with
      | list es s b => cases es <;> simp [dmVal, hO]
      | arglist es kw s => cases es <;> simp [dmVal, hO]
      | _ => simp [dmVal, hO]
    | some rm =>
      cases vb with
      | map vm => simp [dmVal, hO, tryMap_map, deepMerge]
      | list es s b =>
        cases es with
        | nil => simp [dmVal, hO, tryMap_list_nil, deepMerge, dmImpl]
        | cons a t => simp [dmVal, tryMap_list_cons]
      | arglist es kw s =>
        cases es with
        | nil => simp [dmVal, hO, tryMap_arglist_nil, deepMerge, dmImpl]
        | cons a t => simp [dmVal, tryMap_arglist_cons]
      | null => simp [dmVal, tryMap]
      | bool _ => simp [dmVal, tryMap]
      | num _ _ => simp [dmVal, tryMap]
      | str _ _ => simp [dmVal, tryMap]
      | color _ _ _ _ => simp [dmVal, tryMap]

theorem get_dmFold (sw : Sw) {P : Value → Prop} (E : KeyEquiv sw.eq P) (t res : VPairs) (q : Value)
    (ht : keysIn P t) (hres : keysIn P res) (hq : P q) (hd : distinctKeys sw.eq t = true) :
    Grass.Value.get sw.eq (dmFold sw t res) q =
      match Grass.Value.get sw.eq t q with
      | none => Grass.Value.get sw.eq res q
      | some vb => some (dmVal sw vb (Grass.Value.get sw.eq res q)) := by
  induction t using VPairs.ind generalizing res with
  | nil => simp [dmFold, Grass.Value.get]
  | cons kb vb t ih =>
    obtain ⟨hkb, ht'⟩ := ht
    simp only [distinctKeys, Bool.and_eq_true, Bool.not_eq_true'] at hd
    simp only [dmFold]
    rw [ih _ ht' (keysIn_insert sw.eq P res kb _ hres hkb) hd.2, get_insert E res kb _ q hres hkb hq]
    simp only [Grass.Value.get]
    by_cases h : veq sw.eq kb q = true
    · have h1 := get_none_of_not_any sw.eq E t kb q ht' hkb hq h hd.1
      have h2 := get_congr E res kb q hres hkb hq h
      simp [h, h1, h2]
    · simp [h]

theorem deepMerge_cons_cons (sw : Sw) (k v : Value) (t : VPairs) (k1 v1 : Value) (t1 : VPairs) :
    deepMerge sw (.cons k1 v1 t1) (.cons k v t) = dmFold sw (.cons k v t) (.cons k1 v1 t1) := by
  simp [deepMerge, dmImpl, dmFold]

theorem get_deepMerge (sw : Sw) {P : Value → Prop} (E : KeyEquiv sw.eq P) (a b : VPairs) (q : Value)
    (ha : keysIn P a) (hb : keysIn P b) (hq : P q) (hd : distinctKeys sw.eq b = true) :
    Grass.Value.get sw.eq (deepMerge sw a b) q =
      match Grass.Value.get sw.eq b q with
      | none => Grass.Value.get sw.eq a q
      | some vb => some (dmVal sw vb (Grass.Value.get sw.eq a q)) := by
  cases b with
  | nil => simp [deepMerge, dmImpl, Grass.Value.get]
  | cons k v t =>
    cases a with
    | nil =>
      simp only [deepMerge, dmImpl]
      cases Grass.Value.get sw.eq (.cons k v t) q <;> simp [Grass.Value.get, dmVal_none]
    | cons k1 v1 t1 =>
      rw [deepMerge_cons_cons]
      exact get_dmFold sw E _ _ q hb ha hq hd

/-! ## maps: the built-ins on map arguments -/

theorem mapGetF_map (sw : Sw) (m : VPairs) (q : Value) :
    mapGetF sw [.map m, q] = .ok ((Grass.Value.get sw.eq m q).getD .null) := rfl

theorem mapHasKeyF_map (sw : Sw) (m : VPairs) (q : Value) :
    mapHasKeyF sw [.map m, q] = .ok (.bool (Grass.Value.get sw.eq m q).isSome) := by
  simp only [mapHasKeyF, assertMap, tryMap]
  cases Grass.Value.get sw.eq m q <;> simp [hasPath]

theorem mapMergeF_maps (sw : Sw) (a b : VPairs) :
    mapMergeF sw [.map a, .map b] = .ok (.map (Grass.Value.merge sw.eq a b)) := by
  simp [mapMergeF, assertMap, tryMap, mergeNested]

theorem mapSetF_map (sw : Sw) (m : VPairs) (k v : Value) :
    mapSetF sw [.map m, k, v] = .ok (.map (Grass.Value.insert sw.eq m k v)) := by
  simp [mapSetF, assertMap, tryMap, setNested]

theorem mapRemoveF_map (sw : Sw) (m : VPairs) (k : Value) :
    mapRemoveF sw [.map m, k] = .ok (.map (Grass.Value.remove sw.eq m k)) := by
  simp [mapRemoveF, assertMap, tryMap]

theorem deepMergeF_maps (sw : Sw) (a b : VPairs) :
    deepMergeF sw [.map a, .map b] = .ok (.map (deepMerge sw a b)) := by
  simp [deepMergeF, assertMap, tryMap]

theorem getPath_setNested (sw : Sw) (ks : List Value) (m : VPairs) (k v : Value)
    (hr : ∀ x, x ∈ ks → veq sw.eq x x = true) (hk : veq sw.eq k k = true) :
    getPath sw (ks ++ [k]) (.map (setNested sw ks m k v)) = v := by
  induction ks generalizing m with
  | nil => simp [getPath, setNested, tryMap, getD, get_insert_self sw.eq m k v hk]
  | cons k1 ks ih =>
    have h1 := hr k1 (by simp)
    simp only [List.cons_append, getPath, setNested, tryMap, getD, get_insert_self sw.eq m k1 _ h1, Option.getD_some]
    exact ih _ (fun x hx => hr x (List.mem_cons_of_mem _ hx))

theorem append_pair_ends (ks : List Value) (k v : Value) :
    (ks ++ [k, v]).getLast?.getD .null = v ∧ (ks ++ [k, v]).dropLast.getLast?.getD .null = k ∧
      (ks ++ [k, v]).dropLast.dropLast = ks := by
  have e : ks ++ [k, v] = (ks ++ [k]) ++ [v] := by simp
  rw [e]
  simp

theorem mapSetF_nested (sw : Sw) (m : VPairs) (ks : List Value) (k v : Value) :
    mapSetF sw (.map m :: (ks ++ [k, v])) = .ok (.map (setNested sw ks m k v)) := by
  obtain ⟨h1, h2, h3⟩ := append_pair_ends ks k v
  simp only [mapSetF, assertMap, tryMap]
  split
  · rename_i h; simp at h
  · rename_i h; have := congrArg List.length h; simp at this
  · rw [h1, h2, h3]

theorem mapGetF_path (sw : Sw) (m : VPairs) (ks : List Value) (h : ks ≠ []) :
    mapGetF sw (.map m :: ks) = .ok (getPath sw ks (.map m)) := by
  cases ks with
  | nil => exact absurd rfl h
  | cons k ks => rfl

theorem mapHasKeyF_path (sw : Sw) (m : VPairs) (ks : List Value) (h : ks ≠ []) :
    mapHasKeyF sw (.map m :: ks) = .ok (.bool (hasPath sw ks (.map m))) := by
  cases ks with
  | nil => exact absurd rfl h
  | cons k ks =>
    simp only [mapHasKeyF, assertMap, tryMap, hasPath]
    cases Grass.Value.get sw.eq m k <;> rfl

theorem length_keys (m : VPairs) : (keys m).toList.length = m.length := by
  induction m using VPairs.ind with
  | nil => rfl
  | cons k v t ih => simp [keys, VList.toList, VPairs.length, ih]

theorem length_values (m : VPairs) : (values m).toList.length = m.length := by
  induction m using VPairs.ind with
  | nil => rfl
  | cons k v t ih => simp [values, VList.toList, VPairs.length, ih]

theorem length_pairsAsList (m : VPairs) : (pairsAsList m).toList.length = m.length := by
  induction m using VPairs.ind with
  | nil => rfl
  | cons k v t ih => simp [pairsAsList, VList.toList, VPairs.length, ih]

theorem isSome_indexOf_keys (e : Grass.Value.Sw) (m : VPairs) (k : Value) :
    (indexOf e (keys m) k).isSome = (Grass.Value.get e m k).isSome := by
  induction m using VPairs.ind with
  | nil => rfl
  | cons k' v' t ih =>
    simp only [keys, indexOf, Grass.Value.get]
    split
    · rfl
    · rw [Option.isSome_map, ih]

end Grass.Builtins
