import Grass.Num
/-
  Lemmas for C07 (GrassProofs/C07.lean), the arithmetic ones also used by C08: `absQ`, the rounding
  functions on `Rat`, modulo, list/digit lemmas for the printing model, `rnd53`.
-/
namespace Grass.Num

/-! ### `absQ` -/

theorem absQ_eq_or (q : Rat) : absQ q = q ∨ absQ q = -q := by
  unfold absQ; split
  · exact Or.inr rfl
  · exact Or.inl rfl

theorem absQ_of_nonneg (q : Rat) (h : 0 ≤ q) : absQ q = q := if_neg (Rat.not_lt.2 h)
theorem absQ_of_neg (q : Rat) (h : q < 0) : absQ q = -q := if_pos h
theorem absQ_of_pos (q : Rat) (h : 0 < q) : absQ q = q := absQ_of_nonneg q (Rat.le_of_lt h)

theorem le_absQ (q : Rat) : q ≤ absQ q := by unfold absQ; split <;> grind
theorem neg_le_absQ (q : Rat) : -q ≤ absQ q := by unfold absQ; split <;> grind

theorem absQ_le_iff (q c : Rat) : absQ q ≤ c ↔ q ≤ c ∧ -q ≤ c := by
  unfold absQ; split <;> grind

theorem absQ_nonneg (q : Rat) : 0 ≤ absQ q := by
  have := le_absQ q; have := neg_le_absQ q; grind

theorem absQ_pos (q : Rat) (hq : q ≠ 0) : 0 < absQ q := by
  rcases absQ_eq_or q with h | h <;> have := absQ_nonneg q <;> grind

theorem absQ_neg (q : Rat) : absQ (-q) = absQ q := by
  unfold absQ; split <;> split <;> grind

theorem absQ_sub_comm (a b : Rat) : absQ (a - b) = absQ (b - a) := by
  rw [← absQ_neg]; congr 1; grind

theorem absQ_add_le (a b : Rat) : absQ (a + b) ≤ absQ a + absQ b := by
  have := le_absQ a; have := neg_le_absQ a; have := le_absQ b; have := neg_le_absQ b
  rw [absQ_le_iff]; constructor <;> grind

theorem absQ_sub_le (a b c : Rat) : absQ (a - c) ≤ absQ (a - b) + absQ (b - c) := by
  have := absQ_add_le (a - b) (b - c)
  have e : a - b + (b - c) = a - c := by grind
  rwa [e] at this

theorem absQ_mul (a b : Rat) : absQ (a * b) = absQ a * absQ b := by
  have nn := Rat.mul_nonneg (absQ_nonneg a) (absQ_nonneg b)
  rcases absQ_eq_or a with ha | ha <;> rcases absQ_eq_or b with hb | hb <;> rw [ha, hb] at nn ⊢
  · exact absQ_of_nonneg _ nn
  · rw [Rat.mul_neg] at nn ⊢; rw [← absQ_neg]; exact absQ_of_nonneg _ nn
  · rw [Rat.neg_mul] at nn ⊢; rw [← absQ_neg]; exact absQ_of_nonneg _ nn
  · rw [Rat.neg_mul, Rat.mul_neg, Rat.neg_neg] at nn ⊢; exact absQ_of_nonneg _ nn

/-! ### `roundHA` -/

theorem floor_add_half_dist (t : Rat) : 2 * absQ (t - ((t + 1/2).floor : Int)) ≤ 1 := by
  have h1 := Rat.floor_le (t + 1/2)
  have h2 := Rat.lt_floor_add_one (t + 1/2)
  rcases absQ_eq_or (t - ((t + 1/2).floor : Rat)) with h | h <;> rw [h] <;> grind

theorem roundHA_dist (q : Rat) : 2 * absQ (q - (roundHA q : Int)) ≤ 1 := by
  unfold roundHA
  split
  · have e : q - ((-(-q + 1/2).floor : Int) : Rat) = -(-q - ((-q + 1/2).floor : Int)) := by
      rw [Rat.intCast_neg]; grind
    rw [e, absQ_neg]; exact floor_add_half_dist (-q)
  · exact floor_add_half_dist q

theorem int_eq_of_absQ_lt_one (a b : Int) (h : absQ ((a : Rat) - (b : Rat)) < 1) : a = b := by
  have h1 := Std.lt_of_le_of_lt (le_absQ _) h
  have h2 := Std.lt_of_le_of_lt (neg_le_absQ _) h
  have h1' : ((a - b : Int) : Rat) < ((1 : Int) : Rat) := by rw [Rat.intCast_sub]; exact h1
  have h2' : ((b - a : Int) : Rat) < ((1 : Int) : Rat) := by rw [Rat.intCast_sub]; grind
  rw [Rat.intCast_lt_intCast] at h1' h2'
  omega

theorem roundHA_eq_of_close (q : Rat) (k : Int) (h : 2 * absQ (q - k) < 1) : roundHA q = k := by
  apply int_eq_of_absQ_lt_one
  have := absQ_sub_le (roundHA q : Rat) q k
  have := roundHA_dist q
  rw [absQ_sub_comm q] at this
  grind

theorem roundHA_intCast (k : Int) : roundHA (k : Rat) = k := by
  apply roundHA_eq_of_close
  rw [Rat.sub_self]; decide +kernel

/-! ### fuzzy comparison -/

theorem absQ_mul_invEps (x : Rat) : absQ (x * invEps) = absQ x * invEps := by
  rw [absQ_mul]; rfl

theorem bucket_close (a b : Rat) (h : bucket a = bucket b) : absQ (a - b) ≤ 1 / invEps := by
  have t := absQ_sub_le (a * invEps) (bucket a : Int) (b * invEps)
  have d1 := roundHA_dist (a * invEps)
  have d2 := roundHA_dist (b * invEps)
  rw [absQ_sub_comm] at d2
  have e : a * invEps - b * invEps = (a - b) * invEps := by grind
  rw [e, absQ_mul_invEps] at t
  unfold bucket invEps at *
  rw [← h] at d2
  grind

theorem fuzzyEqX_eq_bucket (a b : Rat) : fuzzyEqX a b = (bucket a == bucket b) := by
  unfold fuzzyEqX
  by_cases hb : bucket a = bucket b
  · have := bucket_close a b hb
    simp only [bucket] at hb
    simp [this, hb, bucket]
  · have e1 : (a == b) = false := beq_false_of_ne fun e => hb (by rw [e])
    have e2 : (roundHA (a * invEps) == roundHA (b * invEps)) = false := beq_false_of_ne hb
    simp only [bucket, e1, e2, Bool.and_false, Bool.or_false]

theorem absQ_scaled (x : Rat) (n : Int) :
    absQ (x * invEps - ((n * 100000000000 : Int) : Rat)) = absQ (x - n) * invEps := by
  have e : x * invEps - ((n * 100000000000 : Int) : Rat) = (x - n) * invEps := by
    rw [Rat.intCast_mul]; unfold invEps; grind
  rw [e, absQ_mul_invEps]

theorem bucket_intCast (n : Int) : bucket (n : Rat) = n * 100000000000 := by
  have e : (n : Rat) * invEps = ((n * 100000000000 : Int) : Rat) := by rw [Rat.intCast_mul]; rfl
  rw [bucket, e, roundHA_intCast]

theorem fuzzyEqF_bucket (a b : Rat) (h : fuzzyEqF a b = true) :
    roundHA (rnd53 (a * invEps)) = roundHA (rnd53 (b * invEps)) := by
  unfold fuzzyEqF at h
  simp only [Bool.or_eq_true, Bool.and_eq_true, beq_iff_eq, decide_eq_true_eq] at h
  rcases h with h | h
  · rw [h]
  · exact h.2

theorem fuzzyLt_rev (eq : Rat → Rat → Bool) (hr : ∀ a, eq a a = true) (hs : ∀ a b, eq a b = eq b a)
    (a b : Rat) : fuzzyLt eq b a = (!decide (a < b) && !eq a b) := by
  unfold fuzzyLt
  rw [hs b a]
  cases he : eq a b
  · have hne : a ≠ b := fun h => by rw [h, hr] at he; cases he
    by_cases h : a < b
    · simp [h, Rat.not_lt.2 (Rat.le_of_lt h)]
    · simp [h, Rat.lt_of_le_of_ne (Rat.not_lt.1 h) (Ne.symm hne)]
  · simp

theorem fuzzy_trichotomy (eq : Rat → Rat → Bool) (hr : ∀ a, eq a a = true) (hs : ∀ a b, eq a b = eq b a)
    (a b : Rat) :
    (fuzzyLt eq a b = true ∧ eq a b = false ∧ fuzzyLt eq b a = false) ∨
    (fuzzyLt eq a b = false ∧ eq a b = true ∧ fuzzyLt eq b a = false) ∨
    (fuzzyLt eq a b = false ∧ eq a b = false ∧ fuzzyLt eq b a = true) := by
  rw [fuzzyLt_rev eq hr hs a b, fuzzyLt]
  cases decide (a < b) <;> cases eq a b <;> simp

theorem fuzzyLe_eq_not_lt (eq : Rat → Rat → Bool) (hr : ∀ a, eq a a = true) (hs : ∀ a b, eq a b = eq b a)
    (a b : Rat) : fuzzyLe eq a b = !fuzzyLt eq b a := by
  rw [fuzzyLt_rev eq hr hs a b, fuzzyLe]
  cases decide (a < b) <;> cases eq a b <;> rfl

/-! ### Sass `%` -/

theorem truncQ_dist (t : Rat) : absQ (t - (truncQ t : Int)) < 1 := by
  have floor_dist : ∀ s : Rat, absQ (s - (s.floor : Int)) < 1 := fun s => by
    have h1 := Rat.floor_le s
    have h2 := Rat.lt_floor_add_one s
    rw [absQ_of_nonneg _ (by grind)]; grind
  unfold truncQ
  split
  · have e : t - ((-(-t).floor : Int) : Rat) = -(-t - ((-t).floor : Int)) := by rw [Rat.intCast_neg]; grind
    rw [e, absQ_neg]; exact floor_dist (-t)
  · exact floor_dist t

theorem fmodQ_eq (a b : Rat) (hb : b ≠ 0) : fmodQ a b = b * (a / b - (truncQ (a / b) : Rat)) := by
  unfold fmodQ
  have : b * (a / b) = a := by rw [Rat.mul_comm]; exact Rat.div_mul_cancel hb
  grind

theorem fmodQ_abs_lt (a b : Rat) (hb : b ≠ 0) : absQ (fmodQ a b) < absQ b := by
  rw [fmodQ_eq a b hb, absQ_mul]
  have := Rat.mul_lt_mul_of_pos_left (truncQ_dist (a / b)) (absQ_pos b hb)
  rwa [Rat.mul_one] at this

theorem remEuclidX_bounds (a b : Rat) (hb : b ≠ 0) : 0 ≤ remEuclidX a b ∧ remEuclidX a b < absQ b := by
  have h := fmodQ_abs_lt a b hb
  have h1 := le_absQ (fmodQ a b)
  have h2 := neg_le_absQ (fmodQ a b)
  unfold remEuclidX
  simp only
  split <;> constructor <;> grind

theorem remEuclidX_congr (a b : Rat) : ∃ k : Int, a = remEuclidX a b + (k : Rat) * b := by
  unfold remEuclidX fmodQ absQ
  simp only
  split
  · split
    · refine ⟨truncQ (a / b) + 1, ?_⟩; simp only [Rat.intCast_add]; grind
    · refine ⟨truncQ (a / b) - 1, ?_⟩; simp only [Rat.intCast_sub]; grind
  · refine ⟨truncQ (a / b), ?_⟩; grind

theorem modulo_sign (a b r : Rat) (hb : b ≠ 0) (h : moduloX a b = some r) :
    (0 < b → 0 ≤ r) ∧ (b < 0 → r ≤ 0) ∧ absQ r < absQ b ∧ ∃ k : Int, a = r + (k : Rat) * b := by
  obtain ⟨h0, h1⟩ := remEuclidX_bounds a b hb
  obtain ⟨k, hk⟩ := remEuclidX_congr a b
  unfold moduloX at h
  split at h
  · rename_i hpos
    injection h with h; subst h
    rw [absQ_of_nonneg _ h0]
    exact ⟨fun _ => h0, fun _ => by grind, h1, k, hk⟩
  · have hneg : b < 0 := by grind
    rw [absQ_of_neg b hneg] at h1 ⊢
    simp only at h
    split at h
    · rename_i hz
      injection h with h; subst h
      exact ⟨fun _ => Rat.le_refl, fun _ => Rat.le_refl, by rw [absQ_of_nonneg 0 Rat.le_refl]; grind,
        k, by rw [hz] at hk; grind⟩
    · injection h with h; subst h
      rw [absQ_of_neg _ (by grind)]
      exact ⟨fun _ => by grind, fun _ => by grind, by grind, k - 1, by rw [Rat.intCast_sub]; grind⟩
/-! ### trimEnd / trimStart -/

theorem trimEnd_nil (c : Char) : trimEnd c [] = [] := rfl

theorem trimEnd_cons (c x : Char) (xs : List Char) :
    trimEnd c (x :: xs) = if trimEnd c xs = [] then (if x == c then [] else [x]) else x :: trimEnd c xs := by
  unfold trimEnd
  simp only [List.reverse_cons, List.dropWhile_append]
  cases h : List.dropWhile (fun x => x == c) xs.reverse with
  | nil => simp [List.dropWhile]; split <;> simp_all
  | cons y ys => simp

theorem trimEnd_eq_self (c : Char) (l : List Char) (h : ∀ x ∈ l, x ≠ c) : trimEnd c l = l := by
  induction l with
  | nil => rfl
  | cons x xs ih =>
    have hx : x ≠ c := h x (by simp)
    have := ih (fun y hy => h y (by simp [hy]))
    rw [trimEnd_cons, this]
    cases xs with
    | nil => simp [hx]
    | cons y ys => simp

theorem trimEnd_append_barrier (c d : Char) (A B : List Char) (hd : d ≠ c) :
    trimEnd c (A ++ d :: B) = A ++ d :: trimEnd c B := by
  induction A with
  | nil =>
    simp only [List.nil_append]
    rw [trimEnd_cons]
    split <;> simp_all
  | cons a A ih =>
    simp only [List.cons_append]
    rw [trimEnd_cons, ih]
    simp

theorem trimEnd_append_all (c : Char) (A B : List Char) (hB : trimEnd c B = []) :
    trimEnd c (A ++ B) = trimEnd c A := by
  induction A with
  | nil => simp [hB, trimEnd_nil]
  | cons a A ih =>
    simp only [List.cons_append]
    rw [trimEnd_cons, trimEnd_cons, ih]

theorem trimEnd_append_ne (c : Char) (A B : List Char) (hB : trimEnd c B ≠ []) :
    trimEnd c (A ++ B) = A ++ trimEnd c B := by
  induction A with
  | nil => simp
  | cons a A ih =>
    simp only [List.cons_append]
    rw [trimEnd_cons, ih]
    simp [hB]

theorem trimEnd_decomp (c : Char) (l : List Char) :
    ∃ z, l = trimEnd c l ++ List.replicate z c ∧ (trimEnd c l).getLast? ≠ some c := by
  induction l with
  | nil => exact ⟨0, by simp [trimEnd_nil], by simp [trimEnd_nil]⟩
  | cons x xs ih =>
    obtain ⟨z, hz, hl⟩ := ih
    rw [trimEnd_cons]
    by_cases he : trimEnd c xs = []
    · simp only [he, if_true]
      rw [he] at hz
      by_cases hx : (x == c) = true
      · refine ⟨z + 1, ?_, by simp [hx]⟩
        have : x = c := by simpa using hx
        subst this
        simp only [hx, if_true, List.nil_append] at *
        rw [hz]; simp [List.replicate_succ]
      · refine ⟨z, ?_, ?_⟩
        · simp only [hx]; simp at hz; rw [hz]; simp
        · simp only [hx]
          have : x ≠ c := by simpa using hx
          simp [this]
    · simp only [he, if_false]
      refine ⟨z, ?_, ?_⟩
      · conv => lhs; rw [hz]
        simp
      · rw [List.getLast?_cons_of_ne_nil he]; exact hl

/-! ### digits -/

theorem digitChar_props : ∀ d, d < 10 → (isDigit (digitChar d) = true ∧ (digitChar d).toNat - 48 = d ∧
    digitChar d ≠ '.' ∧ digitChar d ≠ '-' ∧ digitChar d ≠ '+' ∧ (digitChar d = '0' ↔ d = 0)) := by decide

theorem valDigits_nil : valDigits [] = 0 := rfl

theorem valDigits_append_single (ds : List Char) (c : Char) :
    valDigits (ds ++ [c]) = 10 * valDigits ds + (c.toNat - 48) := by
  simp [valDigits, List.foldl_append]

theorem foldl_digits_acc (ds : List Char) (a : Nat) :
    ds.foldl (fun a c => 10 * a + (c.toNat - 48)) a = a * 10 ^ ds.length + ds.foldl (fun a c => 10 * a + (c.toNat - 48)) 0 := by
  induction ds generalizing a with
  | nil => simp
  | cons d ds ih =>
    simp only [List.foldl_cons, List.length_cons]
    rw [ih, ih (10 * 0 + (d.toNat - 48))]
    simp only [Nat.pow_succ]
    rw [Nat.add_mul, Nat.add_mul]
    simp only [Nat.mul_zero, Nat.zero_mul, Nat.zero_add]
    rw [Nat.add_assoc]
    congr 1
    ac_rfl

theorem valDigits_append (A B : List Char) :
    valDigits (A ++ B) = valDigits A * 10 ^ B.length + valDigits B := by
  unfold valDigits
  rw [List.foldl_append, foldl_digits_acc]

theorem natDigitsAux_spec (f : Nat) : ∀ n, n < f →
    valDigits (natDigitsAux f n) = n ∧ (∀ c ∈ natDigitsAux f n, isDigit c = true) ∧ natDigitsAux f n ≠ [] ∧
    ((natDigitsAux f n).head? = some '0' ↔ n = 0) := by
  induction f with
  | zero => intro n h; omega
  | succ f ih =>
    intro n hn
    unfold natDigitsAux
    by_cases h : n < 10
    · simp only [h, if_true]
      have := digitChar_props n h
      refine ⟨by simp [valDigits, this.2.1], by simp [this.1], by simp, ?_⟩
      simp [this.2.2.2.2.2]
    · simp only [h, if_false]
      have hd := digitChar_props (n % 10) (Nat.mod_lt _ (by decide))
      obtain ⟨i1, i2, i3, i4⟩ := ih (n / 10) (by omega)
      refine ⟨?_, ?_, by simp, ?_⟩
      · rw [valDigits_append_single, i1, hd.2.1]; omega
      · intro c hc
        simp only [List.mem_append, List.mem_singleton] at hc
        rcases hc with hc | hc
        · exact i2 c hc
        · rw [hc]; exact hd.1
      · cases hh : natDigitsAux f (n / 10) with
        | nil => exact absurd hh i3
        | cons y ys =>
          rw [hh] at i4
          simp only [List.cons_append, List.head?_cons] at *
          constructor
          · intro h0; have := i4.1 h0; omega
          · intro h0; omega

theorem natDigits_spec (n : Nat) :
    valDigits (natDigits n) = n ∧ (∀ c ∈ natDigits n, isDigit c = true) ∧ natDigits n ≠ [] ∧
    ((natDigits n).head? = some '0' ↔ n = 0) :=
  natDigitsAux_spec (n + 1) n (by omega)

theorem fracDigits_spec (k n : Nat) :
    valDigits (fracDigits k n) = n % 10 ^ k ∧ (∀ c ∈ fracDigits k n, isDigit c = true) ∧
    (fracDigits k n).length = k := by
  induction k generalizing n with
  | zero => simp [fracDigits, valDigits, Nat.mod_one]
  | succ k ih =>
    have hd := digitChar_props (n % 10) (Nat.mod_lt _ (by decide))
    obtain ⟨i1, i2, i3⟩ := ih (n / 10)
    refine ⟨?_, ?_, by simp [fracDigits, i3]⟩
    · simp only [fracDigits]
      rw [valDigits_append_single, i1, hd.2.1, Nat.pow_succ, Nat.mul_comm (10 ^ k) 10, Nat.mod_mul]
      omega
    · intro c hc
      simp only [fracDigits, List.mem_append, List.mem_singleton] at hc
      rcases hc with hc | hc
      · exact i2 c hc
      · rw [hc]; exact hd.1

theorem valDigits_replicate_zero (z : Nat) : valDigits (List.replicate z '0') = 0 := by
  induction z with
  | zero => rfl
  | succ z ih =>
    rw [List.replicate_succ']
    rw [valDigits_append_single, ih]; decide

/-! ### printing -/

theorem natDigits_zero : natDigits 0 = ['0'] := by decide

theorem digit_ne_dot (c : Char) (h : isDigit c = true) : c ≠ '.' ∧ c ≠ '-' ∧ c ≠ '+' := by
  refine ⟨?_, ?_, ?_⟩ <;> (intro e; subst e; revert h; decide)

theorem printAbs_char (compressed lt1 : Bool) (s : Nat) :
    printAbs false compressed lt1 s =
      (if (compressed && lt1) = true ∧ s / 10000000000 = 0 then [] else natDigits (s / 10000000000)) ++
      (if trimEnd '0' (fracDigits 10 (s % 10000000000)) = [] then []
       else '.' :: trimEnd '0' (fracDigits 10 (s % 10000000000))) := by
  obtain ⟨_, nI, nne, nh⟩ := natDigits_spec (s / 10000000000)
  obtain ⟨_, fD, _⟩ := fracDigits_spec 10 (s % 10000000000)
  generalize hF : fracDigits 10 (s % 10000000000) = F at *
  generalize hI : natDigits (s / 10000000000) = I at *
  have step1 : (if (compressed && lt1) = true then trimStart '0' (fixed10 s) else fixed10 s) =
      (if (compressed && lt1) = true ∧ s / 10000000000 = 0 then [] else I) ++ '.' :: F := by
    unfold fixed10
    rw [hF, hI]
    by_cases hc : (compressed && lt1) = true
    · simp only [hc, if_true, true_and]
      by_cases h0 : s / 10000000000 = 0
      · simp only [h0, if_true]
        rw [h0, natDigits_zero] at hI
        subst hI
        simp [trimStart, List.dropWhile]
      · simp only [h0, if_false]
        cases I with
        | nil => exact absurd rfl nne
        | cons y ys =>
          have : y ≠ '0' := by
            intro e; subst e
            exact h0 (nh.1 (by simp))
          simp [trimStart, this]
    · simp [hc]
  unfold printAbs
  simp only [Bool.false_eq_true, if_false]
  rw [step1]
  generalize hI0 : (if (compressed && lt1) = true ∧ s / 10000000000 = 0 then [] else I) = I0
  have hI0d : ∀ c ∈ I0, isDigit c = true := by
    intro c hc; rw [← hI0] at hc; split at hc
    · cases hc
    · exact nI c hc
  rw [trimEnd_append_barrier '0' '.' I0 F (by decide)]
  obtain ⟨z, hz, _⟩ := trimEnd_decomp '0' F
  have hF'd : ∀ c ∈ trimEnd '0' F, isDigit c = true := by
    intro c hc; apply fD; rw [hz]; simp [hc]
  generalize trimEnd '0' F = F' at *
  by_cases hF' : F' = []
  · subst hF'
    simp only [if_true, List.append_nil]
    rw [trimEnd_append_all '.' I0 ['.'] (by decide)]
    exact trimEnd_eq_self '.' I0 (fun x hx => (digit_ne_dot x (hI0d x hx)).1)
  · simp only [hF', if_false]
    have e : trimEnd '.' F' = F' := trimEnd_eq_self '.' F' (fun x hx => (digit_ne_dot x (hF'd x hx)).1)
    have e2 : trimEnd '.' ('.' :: F') = '.' :: F' := by rw [trimEnd_cons, e]; simp [hF']
    rw [trimEnd_append_ne '.' I0 ('.' :: F') (by rw [e2]; simp), e2]

theorem takeWhile_digits (A B : List Char) (hA : ∀ c ∈ A, isDigit c = true)
    (hB : B = [] ∨ ∃ r, B = '.' :: r) :
    (A ++ B).takeWhile isDigit = A ∧ (A ++ B).dropWhile isDigit = B := by
  induction A with
  | nil =>
    rcases hB with rfl | ⟨r, rfl⟩
    · simp
    · have : isDigit '.' = false := by decide
      simp [this]
  | cons a A ih =>
    have ha := hA a (by simp)
    have := ih (fun c hc => hA c (by simp [hc]))
    simp [ha, this]

theorem parseBody_digits (neg : Bool) (I F : List Char) (hI : ∀ c ∈ I, isDigit c = true)
    (hF : ∀ c ∈ F, isDigit c = true) (hne : I ≠ [] ∨ F ≠ []) :
    parseBody neg (I ++ (if F = [] then [] else '.' :: F)) = some { neg := neg, int := I, frac := F, exp := 0 } := by
  unfold parseBody
  by_cases hF0 : F = []
  · subst hF0
    have hI0 : I ≠ [] := by simpa using hne
    have ⟨t1, t2⟩ := takeWhile_digits I [] hI (Or.inl rfl)
    simp only [if_true, List.append_nil] at *
    simp only [t1, t2, hI0, false_and, if_false]
    simp [parseExp]
  · have ⟨t1, t2⟩ := takeWhile_digits I ('.' :: F) hI (Or.inr ⟨F, rfl⟩)
    have ⟨u1, u2⟩ := takeWhile_digits F [] hF (Or.inl rfl)
    simp only [List.append_nil] at u1 u2
    simp only [hF0, if_false, t1, t2]
    simp [u1, u2, hF0, parseExp]

/-! ### round half even, `round10` -/

theorem divRoundEven_cases (n d : Nat) :
    (divRoundEven n d = n / d ∧ 2 * (n % d) ≤ d) ∨ (divRoundEven n d = n / d + 1 ∧ d ≤ 2 * (n % d)) := by
  unfold divRoundEven
  simp only
  split
  · exact Or.inl ⟨rfl, by omega⟩
  · split
    · exact Or.inr ⟨rfl, by omega⟩
    · split
      · exact Or.inl ⟨rfl, by omega⟩
      · exact Or.inr ⟨rfl, by omega⟩

theorem divRoundEven_ge (n d : Nat) : n / d ≤ divRoundEven n d := by
  rcases divRoundEven_cases n d with ⟨e, _⟩ | ⟨e, _⟩ <;> omega

theorem divRoundEven_close (n d : Nat) (hd : 0 < d) :
    2 * n ≤ 2 * (divRoundEven n d * d) + d ∧ 2 * (divRoundEven n d * d) ≤ 2 * n + d := by
  have h := Nat.div_add_mod n d
  have := Nat.mod_lt n hd
  rw [Nat.mul_comm] at h
  rcases divRoundEven_cases n d with ⟨e, hr⟩ | ⟨e, hr⟩ <;> rw [e]
  · omega
  · rw [Nat.add_mul, Nat.one_mul]; omega

theorem divRoundEven_dist (N D : Nat) (hD : 0 < D) :
    2 * absQ ((divRoundEven N D : Rat) - (N : Rat) / (D : Rat)) ≤ 1 := by
  obtain ⟨c1, c2⟩ := divRoundEven_close N D hD
  have hDq : (0 : Rat) < (D : Rat) := Rat.natCast_pos.2 hD
  generalize divRoundEven N D = m at *
  have c1' : 2 * (N : Rat) ≤ 2 * ((m : Rat) * (D : Rat)) + (D : Rat) := by exact_mod_cast c1
  have c2' : 2 * ((m : Rat) * (D : Rat)) ≤ 2 * (N : Rat) + (D : Rat) := by exact_mod_cast c2
  rw [← Rat.div_mul_cancel (a := (N : Rat)) (Rat.ne_of_gt hDq)] at c1' c2'
  generalize (N : Rat) / (D : Rat) = X at *
  apply Rat.le_of_mul_le_mul_right _ hDq
  rcases absQ_eq_or ((m : Rat) - X) with h | h <;> rw [h] <;> grind

theorem div_eq_div_of_cross (a b c d : Rat) (hb : b ≠ 0) (hd : d ≠ 0) (h : a * d = c * b) : a / b = c / d := by
  grind

theorem rat_mul_den (x : Rat) : x * (x.den : Rat) = (x.num : Rat) := by
  have h : x = (x.num : Rat) / (x.den : Rat) := by
    rw [← Rat.mkRat_eq_div, Rat.mkRat_self]
  have hd : (x.den : Rat) ≠ 0 := by
    have := x.den_pos
    intro e; rw [Rat.natCast_eq_zero_iff] at e; omega
  conv => lhs; arg 1; rw [h]
  exact Rat.div_mul_cancel hd

theorem absQ_intCast (n : Int) : absQ (n : Rat) = (n.natAbs : Rat) := by
  have nn := Rat.natCast_nonneg (a := n.natAbs)
  rcases Int.natAbs_eq n with h | h <;> generalize n.natAbs = k at * <;> subst h
  · rw [Rat.intCast_natCast, absQ_of_nonneg _ nn]
  · rw [Rat.intCast_neg, Rat.intCast_natCast, absQ_neg, absQ_of_nonneg _ nn]

theorem absQ_mul_den (x : Rat) : absQ x * (x.den : Rat) = (x.num.natAbs : Rat) := by
  rw [← absQ_intCast, ← rat_mul_den x, absQ_mul, absQ_of_nonneg (x.den : Rat) Rat.natCast_nonneg]

theorem absQ_eq_natAbs_div (x : Rat) : absQ x = (x.num.natAbs : Rat) / (x.den : Rat) := by
  rw [← absQ_mul_den, Rat.mul_div_cancel (Rat.ne_of_gt (Rat.natCast_pos.2 x.den_pos))]

theorem round10_sub (x : Rat) :
    absQ (round10 x - x) = absQ ((scaled10 x : Rat) / 10000000000 - absQ x) := by
  unfold round10
  simp only
  split
  · rename_i hx
    rw [absQ_of_neg x hx, ← absQ_neg]; congr 1; grind
  · rename_i hx
    rw [absQ_of_nonneg x (Rat.not_lt.1 hx)]

theorem round10_close (x : Rat) : 2 * absQ (round10 x - x) * 10000000000 ≤ 1 := by
  have d := divRoundEven_dist (x.num.natAbs * 10000000000) x.den x.den_pos
  have e : ((x.num.natAbs * 10000000000 : Nat) : Rat) / (x.den : Rat) = absQ x * 10000000000 := by
    rw [absQ_eq_natAbs_div, Rat.natCast_mul]; grind
  have k : ((scaled10 x : Nat) : Rat) - absQ x * 10000000000 =
      ((scaled10 x : Rat) / 10000000000 - absQ x) * 10000000000 := by grind
  rw [e, ← scaled10, k, absQ_mul] at d
  rw [round10_sub, Rat.mul_assoc]
  exact d

theorem print_digits_value (cl : Bool) (s : Nat) (I0 F' : List Char)
    (hI : I0 = if cl = true ∧ s / 10000000000 = 0 then [] else natDigits (s / 10000000000))
    (hF : F' = trimEnd '0' (fracDigits 10 (s % 10000000000))) :
    (∀ c ∈ I0, isDigit c = true) ∧ (∀ c ∈ F', isDigit c = true) ∧ F'.getLast? ≠ some '0' ∧ F'.length ≤ 10 ∧
    valDigits (I0 ++ F') * 10000000000 = s * 10 ^ F'.length ∧ valDigits I0 = s / 10000000000 ∧
    (I0.head? = some '0' → I0 = ['0']) := by
  obtain ⟨nv, nI, nne, nh⟩ := natDigits_spec (s / 10000000000)
  obtain ⟨fv, fD, fl⟩ := fracDigits_spec 10 (s % 10000000000)
  obtain ⟨z, hz, hlast⟩ := trimEnd_decomp '0' (fracDigits 10 (s % 10000000000))
  rw [← hF] at hz hlast
  have hmod : s % 10000000000 % 10 ^ 10 = s % 10000000000 := Nat.mod_eq_of_lt (Nat.mod_lt _ (by decide))
  rw [hmod] at fv
  have hlen : F'.length + z = 10 := by
    have := congrArg List.length hz
    simp only [List.length_append, List.length_replicate] at this
    omega
  have hvF : valDigits F' * 10 ^ z = s % 10000000000 := by
    rw [← fv, hz, valDigits_append, valDigits_replicate_zero]; simp
  have hvI : valDigits I0 = s / 10000000000 := by
    rw [hI]; split
    · rename_i h; rw [h.2]; rfl
    · exact nv
  have hP : (10000000000 : Nat) = 10 ^ F'.length * 10 ^ z := by
    rw [← Nat.pow_add, hlen]
  refine ⟨?_, ?_, hlast, by omega, ?_, hvI, ?_⟩
  · intro c hc; rw [hI] at hc; split at hc
    · cases hc
    · exact nI c hc
  · intro c hc; apply fD; rw [hz]; simp [hc]
  · rw [valDigits_append, hvI]
    have hs := Nat.div_add_mod s 10000000000
    rw [← hvF] at hs
    generalize s / 10000000000 = ip at *
    generalize valDigits F' = v at *
    rw [← hs]
    rw [hP]
    generalize 10 ^ F'.length = a
    generalize 10 ^ z = b
    grind
  · intro hh; rw [hI] at hh ⊢; split at hh
    · cases hh
    · rename_i hc
      have := nh.1 hh
      simp only [hc, if_false]
      rw [this, natDigits_zero]

/-! ### the printed text read back -/

theorem lit_value_eq (neg : Bool) (I0 F' : List Char) (s : Nat)
    (h : valDigits (I0 ++ F') * 10000000000 = s * 10 ^ F'.length) :
    ({ neg := neg, int := I0, frac := F', exp := 0 } : Lit).value =
      if neg = true then -((s : Rat) / 10000000000) else (s : Rat) / 10000000000 := by
  have hA : ((10 ^ F'.length : Nat) : Rat) ≠ 0 := by
    intro e; rw [Rat.natCast_eq_zero_iff] at e
    have := @Nat.pow_pos 10 F'.length (by decide)
    omega
  have hc : ((valDigits (I0 ++ F') : Nat) : Rat) * (10000000000 : Rat) = (s : Rat) * ((10 ^ F'.length : Nat) : Rat) := by
    have := congrArg (fun n : Nat => (n : Rat)) h
    simp only [Rat.natCast_mul] at this
    simpa using this
  have key := div_eq_div_of_cross _ _ _ _ hA (by decide : (10000000000 : Rat) ≠ 0) hc
  have one : ((1 : Nat) : Rat) = 1 := rfl
  unfold Lit.value
  simp only [Int.toNat_zero, Nat.pow_zero, ge_iff_le, Int.le_refl, if_true, one, Rat.mul_one]
  rw [key]

theorem body_head (I0 F' : List Char) (dI : ∀ c ∈ I0, isDigit c = true) (c : Char) (r : List Char)
    (h : I0 ++ (if F' = [] then [] else '.' :: F') = c :: r) : c ≠ '-' ∧ c ≠ '+' := by
  cases I0 with
  | nil =>
    simp only [List.nil_append] at h
    split at h
    · cases h
    · injection h with h1 _; subst h1; decide
  | cons y ys =>
    simp only [List.cons_append] at h
    injection h with h1 _; subst h1
    have := digit_ne_dot y (dI y (by simp))
    exact ⟨this.2.1, this.2.2⟩

theorem body_trivial (I0 F' : List Char)
    (hb : I0 ++ (if F' = [] then [] else '.' :: F') = [] ∨ I0 ++ (if F' = [] then [] else '.' :: F') = ['0']) :
    F' = [] ∧ (I0 = [] ∨ I0 = ['0']) := by
  by_cases hF : F' = []
  · subst hF
    simp only [if_true, List.append_nil] at hb
    exact ⟨rfl, hb⟩
  · simp only [hF, if_false] at hb
    rcases hb with hb | hb
    · have := (List.append_eq_nil_iff.1 hb).2; cases this
    · cases I0 with
      | nil => simp only [List.nil_append] at hb; injection hb with h1 _; exact absurd h1 (by decide)
      | cons y ys =>
        simp only [List.cons_append] at hb
        injection hb with _ h2
        have := (List.append_eq_nil_iff.1 h2).2; cases this

abbrev special (buf : List Char) : Prop := buf = [] ∨ buf = ['-'] ∨ buf = ['-', '0']

theorem printFinite_unfold (compressed : Bool) (x : Rat) :
    printFinite false compressed x =
      if special ((if x < 0 then ['-'] else []) ++ printAbs false compressed (decide (absQ x < 1)) (scaled10 x))
      then ['0'] else (if x < 0 then ['-'] else []) ++ printAbs false compressed (decide (absQ x < 1)) (scaled10 x) := by
  rfl

theorem special_body (neg : Prop) [Decidable neg] (body : List Char)
    (hhead : ∀ (c : Char) (r : List Char), body = c :: r → c ≠ '-' ∧ c ≠ '+')
    (hsp : ((if neg then ['-'] else []) ++ body = [] ∨ (if neg then ['-'] else []) ++ body = ['-'] ∨
            (if neg then ['-'] else []) ++ body = ['-', '0'])) : body = [] ∨ body = ['0'] := by
  by_cases hx : neg
  · rw [if_pos hx] at hsp
    rcases hsp with h | h | h
    · exact absurd h (List.cons_ne_nil _ _)
    · exact Or.inl (List.cons.inj h).2
    · exact Or.inr (List.cons.inj h).2
  · rw [if_neg hx] at hsp
    rcases hsp with h | h | h
    · exact Or.inl h
    · exact absurd rfl (hhead '-' [] h).1
    · exact absurd rfl (hhead '-' ['0'] h).1

theorem parse_signed_body (neg : Prop) [Decidable neg] (body : List Char)
    (hhead : ∀ (c : Char) (r : List Char), body = c :: r → c ≠ '-' ∧ c ≠ '+')
    (l : Bool → Lit) (hp : ∀ b, parseBody b body = some (l b)) :
    parseLit ((if neg then ['-'] else []) ++ body) = some (l (decide neg)) := by
  by_cases hx : neg
  · rw [if_pos hx, decide_eq_true hx]
    exact hp true
  · rw [if_neg hx, decide_eq_false hx]
    show parseLit body = some (l false)
    unfold parseLit
    split
    · rename_i r; exact absurd rfl (hhead '-' r rfl).1
    · rename_i r; exact absurd rfl (hhead '+' r rfl).2
    · exact hp false

/-! ### shape of the printed text -/

def stripMinus (s : List Char) : List Char := match s with
  | '-' :: r => r
  | _ => s
def fracOKb (body : List Char) : Bool :=
  match body.dropWhile isDigit with
  | [] => body.takeWhile isDigit ≠ []
  | '.' :: f => f ≠ [] && f.all isDigit && f.length ≤ 10 && f.getLast? ≠ some '0'
  | _ => false
def allZeroB (body : List Char) : Bool :=
  (body.takeWhile isDigit ++ body.dropWhile isDigit).all (fun c => c == '0' || c == '.')

theorem shapeOK_eq (s : List Char) :
    shapeOK s = (fracOKb (stripMinus s) && !(s.head? == some '-' && allZeroB (stripMinus s))) := rfl

theorem stripMinus_other (body : List Char) (h : ∀ r, body ≠ '-' :: r) : stripMinus body = body := by
  unfold stripMinus
  split
  · rename_i r; exact absurd rfl (h r)
  · rfl

theorem stripMinus_sign (neg : Prop) [Decidable neg] (body : List Char)
    (hhead : ∀ (c : Char) (r : List Char), body = c :: r → c ≠ '-' ∧ c ≠ '+') :
    stripMinus ((if neg then ['-'] else []) ++ body) = body := by
  split
  · rfl
  · exact stripMinus_other body (fun r h => (hhead '-' r h).1 rfl)

theorem fracOKb_body (I0 F' : List Char)
    (dI : ∀ c ∈ I0, isDigit c = true) (dF : ∀ c ∈ F', isDigit c = true)
    (hne : I0 ≠ [] ∨ F' ≠ []) (hlen : F'.length ≤ 10) (hlast : F'.getLast? ≠ some '0') :
    fracOKb (I0 ++ (if F' = [] then [] else '.' :: F')) = true := by
  unfold fracOKb
  by_cases hF : F' = []
  · have hI : I0 ≠ [] := by
      rcases hne with h | h
      · exact h
      · exact absurd hF h
    have ⟨t1, t2⟩ := takeWhile_digits I0 [] dI (Or.inl rfl)
    simp only [hF, if_true, t1, t2]
    simp [hI]
  · have ⟨t1, t2⟩ := takeWhile_digits I0 ('.' :: F') dI (Or.inr ⟨F', rfl⟩)
    have ha : F'.all isDigit = true := List.all_eq_true.2 dF
    simp only [hF, if_false, t2]
    simp [hF, ha, hlen, hlast]

theorem allZeroB_false (body : List Char) (c : Char) (hc : c ∈ body) (h0 : c ≠ '0') (hd : c ≠ '.') :
    allZeroB body = false := by
  unfold allZeroB
  rw [List.takeWhile_append_dropWhile]
  apply Bool.eq_false_iff.2
  intro h
  have := List.all_eq_true.1 h c hc
  simp [h0, hd] at this

theorem shapeOK_body (neg : Prop) [Decidable neg] (I0 F' : List Char)
    (dI : ∀ c ∈ I0, isDigit c = true) (dF : ∀ c ∈ F', isDigit c = true)
    (hne : I0 ≠ [] ∨ F' ≠ []) (hlen : F'.length ≤ 10) (hlast : F'.getLast? ≠ some '0')
    (hh0 : I0.head? = some '0' → I0 = ['0']) (hnz : neg → ¬(I0 = ['0'] ∧ F' = [])) :
    shapeOK ((if neg then ['-'] else []) ++ (I0 ++ (if F' = [] then [] else '.' :: F'))) = true := by
  have hhead := body_head I0 F' dI
  have hfr := fracOKb_body I0 F' dI dF hne hlen hlast
  rw [shapeOK_eq, stripMinus_sign neg _ hhead, hfr]
  by_cases hn : neg
  · -- some character is neither `0` nor `.`: the last fraction digit, or else the first integer digit
    have hz : allZeroB (I0 ++ (if F' = [] then [] else '.' :: F')) = false := by
      by_cases hF0 : F' = []
      · cases hI0 : I0 with
        | nil => exact absurd hF0 (hne.resolve_left (fun h => h hI0))
        | cons c r =>
          refine allZeroB_false _ c (by simp) (fun hc0 => hnz hn ⟨?_, hF0⟩) (digit_ne_dot c (dI c (by simp [hI0]))).1
          exact hh0 (by rw [hI0, hc0]; rfl)
      · refine allZeroB_false _ (F'.getLast hF0) ?_ (fun e => hlast (by rw [List.getLast?_eq_some_getLast hF0, e]))
          (digit_ne_dot _ (dF _ (List.getLast_mem hF0))).1
        simp only [hF0, if_false, List.mem_append, List.mem_cons]
        exact Or.inr (Or.inr (List.getLast_mem hF0))
    rw [hz]; simp
  · have hh : (((if neg then ['-'] else []) ++ (I0 ++ (if F' = [] then [] else '.' :: F'))).head? == some '-') = false := by
      rw [if_neg hn, List.nil_append]
      cases hb' : I0 ++ (if F' = [] then [] else '.' :: F') with
      | nil => rfl
      | cons c r => simp [(hhead c r hb').1]
    rw [hh]; rfl

/-! ### no superfluous leading zero -/

def leadB (compressed : Bool) (body : List Char) : Bool :=
  match body with
  | '0' :: c :: _ => if compressed then false else c == '.'
  | _ => true

theorem leadOK_eq (compressed : Bool) (s : List Char) : leadOK compressed s = leadB compressed (stripMinus s) := rfl

theorem scaled10_ge (x : Rat) (h : ¬ absQ x < 1) : 10000000000 ≤ scaled10 x := by
  have hd : 0 < x.den := x.den_pos
  have hX := absQ_mul_den x
  have h1 : (1 : Rat) ≤ absQ x := by grind
  have h2 := Rat.mul_le_mul_of_nonneg_right h1 (Rat.natCast_nonneg (a := x.den))
  rw [hX, Rat.one_mul] at h2
  have h3 : x.den ≤ x.num.natAbs := Rat.natCast_le_natCast.1 h2
  unfold scaled10
  refine Nat.le_trans ?_ (divRoundEven_ge _ _)
  rw [Nat.le_div_iff_mul_le hd]
  rw [Nat.mul_comm]
  exact Nat.mul_le_mul_right _ h3

theorem leadB_body (compressed : Bool) (I0 F' : List Char)
    (hh0 : I0.head? = some '0' → I0 = ['0'])
    (hc : compressed = true → ¬(I0 = ['0'] ∧ F' ≠ [])) :
    leadB compressed (I0 ++ (if F' = [] then [] else '.' :: F')) = true := by
  cases hI : I0 with
  | nil =>
    by_cases hF : F' = []
    · simp [hF, leadB]
    · simp only [hF, if_false, List.nil_append]
      unfold leadB
      split
      · rename_i c r heq; injection heq with h1 _; exact absurd h1 (by decide)
      · rfl
  | cons a r =>
    by_cases ha : a = '0'
    · have h1 : I0 = ['0'] := hh0 (by rw [hI, ha]; rfl)
      rw [hI] at h1
      injection h1 with _ hr
      subst ha; subst hr
      by_cases hF : F' = []
      · simp [hF, leadB]
      · cases compressed with
        | true => exact absurd ⟨hI, hF⟩ (hc rfl)
        | false => simp [hF, leadB]
    · unfold leadB
      split
      · rename_i c r' heq
        simp only [List.cons_append] at heq
        injection heq with h1 _
        exact absurd h1 ha
      · rfl

theorem lead_special (compressed : Bool) : leadOK compressed ['0'] = true := by
  cases compressed <;> rfl

/-- The text `write_float` produces for the finite `x`, in terms of its integer digits `I0` (none in
    compressed style below 1) and its fraction digits `F'` (no trailing zeros): `0` when ten digits round to
    nothing, otherwise sign, `I0` and, after a dot, `F'`; never `-0`. -/
structure PrintedAs (compressed : Bool) (x : Rat) (I0 F' : List Char) : Prop where
  intDigits : ∀ c ∈ I0, isDigit c = true
  fracDigits : ∀ c ∈ F', isDigit c = true
  fracLast : F'.getLast? ≠ some '0'
  fracLen : F'.length ≤ 10
  value : valDigits (I0 ++ F') * 10000000000 = scaled10 x * 10 ^ F'.length
  leadZero : I0.head? = some '0' → I0 = ['0']
  noZeroCompressed : compressed = true → I0 ≠ ['0']
  text : (printFinite false compressed x = ['0'] ∧ scaled10 x = 0) ∨
    (printFinite false compressed x =
        (if x < 0 then ['-'] else []) ++ (I0 ++ (if F' = [] then [] else '.' :: F')) ∧
      (I0 ≠ [] ∨ F' ≠ []) ∧ (x < 0 → ¬(I0 = ['0'] ∧ F' = [])))

theorem printFinite_form (compressed : Bool) (x : Rat) : ∃ I0 F', PrintedAs compressed x I0 F' := by
  have key := printFinite_unfold compressed x
  rw [printAbs_char] at key
  generalize hI : (if (compressed && decide (absQ x < 1)) = true ∧ scaled10 x / 10000000000 = 0 then []
      else natDigits (scaled10 x / 10000000000)) = I0 at key
  generalize hF : trimEnd '0' (fracDigits 10 (scaled10 x % 10000000000)) = F' at key
  obtain ⟨dI, dF, hlast, hlen, hval, hvI, hh0⟩ :=
    print_digits_value (compressed && decide (absQ x < 1)) (scaled10 x) I0 F' hI.symm hF.symm
  refine ⟨I0, F', {
    intDigits := dI, fracDigits := dF, fracLast := hlast, fracLen := hlen, value := hval, leadZero := hh0,
    noZeroCompressed := ?_, text := ?_ }⟩
  · intro hcomp h1
    have hip : scaled10 x / 10000000000 = 0 := by rw [← hvI, h1]; rfl
    by_cases hlt : absQ x < 1
    · rw [← hI, if_pos ⟨by rw [hcomp, decide_eq_true hlt]; rfl, hip⟩] at h1
      cases h1
    · have h3 := Nat.div_pos (scaled10_ge x hlt) (by decide : 0 < 10000000000)
      omega
  · rw [key]
    by_cases hsp : special ((if x < 0 then ['-'] else []) ++ (I0 ++ if F' = [] then [] else '.' :: F'))
    · rw [if_pos hsp]
      refine Or.inl ⟨rfl, ?_⟩
      obtain ⟨hF0, hI0⟩ := body_trivial I0 F' (special_body (x < 0) _ (body_head I0 F' dI) hsp)
      have hv : valDigits I0 = 0 := by rcases hI0 with h | h <;> rw [h] <;> rfl
      rw [hF0, List.append_nil, hv] at hval
      simpa using hval.symm
    · rw [if_neg hsp]
      refine Or.inr ⟨rfl, ?_, fun hx h => hsp ?_⟩
      · by_cases h1 : I0 = []
        · refine Or.inr fun h2 => hsp ?_
          rw [h1, h2]
          by_cases hx : x < 0
          · rw [if_pos hx]; exact Or.inr (Or.inl rfl)
          · rw [if_neg hx]; exact Or.inl rfl
        · exact Or.inl h1
      · rw [h.1, h.2, if_pos hx]; exact Or.inr (Or.inr rfl)

/-! ### `pow2` is the integer power of two -/

theorem pow2_eq_zpow (e : Int) : pow2 e = (2 : Rat) ^ e := by
  unfold pow2
  by_cases h : e ≥ 0
  · simp only [h, if_true]
    have : e = (e.toNat : Int) := by omega
    conv => rhs; rw [this]
    rw [Rat.zpow_natCast, Rat.natCast_pow]; rfl
  · simp only [h, if_false]
    have : e = -((-e).toNat : Int) := by omega
    conv => rhs; rw [this]
    rw [Rat.zpow_neg, Rat.zpow_natCast, Rat.natCast_pow, Rat.div_def, Rat.one_mul]; rfl

theorem pow2_pos (e : Int) : 0 < pow2 e := by
  rw [pow2_eq_zpow]; exact Rat.zpow_pos (by decide)

theorem pow2_add (a b : Int) : pow2 (a + b) = pow2 a * pow2 b := by
  simp only [pow2_eq_zpow]; exact Rat.zpow_add (by decide) a b

theorem pow2_natCast (n : Nat) : pow2 (n : Int) = ((2 ^ n : Nat) : Rat) := by
  unfold pow2; simp

theorem pow2_succ (e : Int) : pow2 (e + 1) = 2 * pow2 e := by
  rw [pow2_add, Rat.mul_comm]; congr 1

theorem pow2_neg_mul (a : Int) : pow2 (-a) * pow2 a = 1 := by
  rw [← pow2_add]; have : -a + a = 0 := by omega
  rw [this]; rfl

theorem le_div_iff' (a b c : Rat) (hc : 0 < c) : a ≤ b / c ↔ a * c ≤ b := by
  rw [← Rat.not_lt, ← Rat.not_lt, Rat.div_lt_iff hc]

theorem div_le_iff' (a b c : Rat) (hc : 0 < c) : a / c ≤ b ↔ a ≤ b * c := by
  rw [← Rat.not_lt, ← Rat.not_lt, Rat.lt_div_iff hc]

theorem natCast_pos' (n : Nat) (h : 0 < n) : (0 : Rat) < (n : Rat) := Rat.natCast_pos.2 h

theorem geP2_iff (num den : Nat) (hd : 0 < den) (d : Int) :
    geP2 num den d = true ↔ pow2 d ≤ (num : Rat) / (den : Rat) := by
  rw [le_div_iff' _ _ _ (natCast_pos' den hd)]
  unfold geP2 pow2
  split
  · rw [decide_eq_true_eq, ← Rat.natCast_mul, Rat.natCast_le_natCast, Nat.mul_comm]
  · have hp : (0 : Rat) < ((2 ^ (-d).toNat : Nat) : Rat) := natCast_pos' _ (Nat.pow_pos (by decide))
    have e : 1 / ((2 ^ (-d).toNat : Nat) : Rat) * (den : Rat) = (den : Rat) / ((2 ^ (-d).toNat : Nat) : Rat) := by grind
    rw [decide_eq_true_eq, e, div_le_iff' _ _ _ hp, ← Rat.natCast_mul, Rat.natCast_le_natCast]

theorem binExp_spec (num den : Nat) (hn : 0 < num) (hd : 0 < den) :
    pow2 (binExp num den) ≤ (num : Rat) / (den : Rat) ∧ (num : Rat) / (den : Rat) < pow2 (binExp num den + 1) := by
  have hdq := natCast_pos' den hd
  have l1 : ((2 ^ num.log2 : Nat) : Rat) ≤ (num : Rat) := Rat.natCast_le_natCast.2 (Nat.log2_self_le (by omega))
  have l2 : (num : Rat) < ((2 ^ (num.log2 + 1) : Nat) : Rat) := Rat.natCast_lt_natCast.2 Nat.lt_log2_self
  have l3 : ((2 ^ den.log2 : Nat) : Rat) ≤ (den : Rat) := Rat.natCast_le_natCast.2 (Nat.log2_self_le (by omega))
  have l4 : (den : Rat) < ((2 ^ (den.log2 + 1) : Nat) : Rat) := Rat.natCast_lt_natCast.2 Nat.lt_log2_self
  rw [← pow2_natCast] at l1 l2 l3 l4
  generalize hdd : (num.log2 : Int) - (den.log2 : Int) = d
  have up : (num : Rat) / (den : Rat) < pow2 (d + 1) := by
    apply (Rat.div_lt_iff hdq).2
    have e : pow2 (d + 1) * pow2 (den.log2 : Int) = pow2 ((num.log2 + 1 : Nat) : Int) := by
      rw [← pow2_add]; congr 1; push_cast; omega
    have := Rat.mul_le_mul_of_nonneg_left l3 (Rat.le_of_lt (pow2_pos (d + 1)))
    rw [e] at this
    grind
  have lo : pow2 (d - 1) ≤ (num : Rat) / (den : Rat) := by
    rw [le_div_iff' _ _ _ hdq]
    have e : pow2 (d - 1) * pow2 ((den.log2 + 1 : Nat) : Int) = pow2 (num.log2 : Int) := by
      rw [← pow2_add]; congr 1; push_cast; omega
    have := Rat.mul_le_mul_of_nonneg_left (Rat.le_of_lt l4) (Rat.le_of_lt (pow2_pos (d - 1)))
    rw [e] at this
    exact Rat.le_trans this l1
  unfold binExp
  simp only [hdd]
  by_cases hg : geP2 num den d = true
  · simp only [hg, if_true]
    exact ⟨(geP2_iff num den hd d).1 hg, up⟩
  · have hg' : geP2 num den d = false := by simpa using hg
    simp only [hg', Bool.false_eq_true, if_false]
    refine ⟨lo, ?_⟩
    have : d - 1 + 1 = d := by omega
    rw [this]
    apply Rat.not_le.1
    intro h; exact hg ((geP2_iff num den hd d).2 h)

/-! ### `rnd53` is round-to-nearest -/

/-- rounding the quotient `N/D`, seen at scale `p`: when `N/D` has 53 bits before the point so has the
    result, and it is within half a unit of the quotient -/
theorem round_core (N D : Nat) (hD : 0 < D) (p Q : Rat) (hp : 0 < p) (hX : (N : Rat) / (D : Rat) * p = Q)
    (hlo : p * 4503599627370496 ≤ Q) (hhi : Q < p * 9007199254740992) :
    4503599627370496 ≤ divRoundEven N D ∧ divRoundEven N D ≤ 9007199254740992 ∧
    2 * absQ ((divRoundEven N D : Rat) * p - Q) ≤ p := by
  have d := divRoundEven_dist N D hD
  generalize divRoundEven N D = m at *
  generalize (N : Rat) / (D : Rat) = X at *
  subst hX
  have x1 : (4503599627370496 : Rat) ≤ X := by
    apply Rat.le_of_mul_le_mul_right _ hp
    grind
  have x2 : X < 9007199254740992 := by
    apply Rat.lt_of_mul_lt_mul_right _ (Rat.le_of_lt hp)
    grind
  have d1 := le_absQ ((m : Rat) - X)
  have d2 := neg_le_absQ ((m : Rat) - X)
  refine ⟨?_, ?_, ?_⟩
  · have h : (9007199254740992 : Rat) ≤ 2 * (m : Rat) + 1 := by grind
    have : 9007199254740992 ≤ 2 * m + 1 := by exact_mod_cast h
    omega
  · have h : 2 * (m : Rat) < 18014398509481985 := by grind
    have : 2 * m < 18014398509481985 := by exact_mod_cast h
    omega
  · have e : (m : Rat) * p - X * p = ((m : Rat) - X) * p := by grind
    rw [e, absQ_mul, absQ_of_pos p hp, ← Rat.mul_assoc]
    have := Rat.mul_le_mul_of_nonneg_right d (Rat.le_of_lt hp)
    rwa [Rat.one_mul] at this

theorem nearest_of_half (p q : Rat) (m j : Int) (hp : 0 < p) (h : 2 * absQ ((m : Rat) * p - q) ≤ p) :
    absQ ((m : Rat) * p - q) ≤ absQ ((j : Rat) * p - q) := by
  by_cases hj : j = m
  · rw [hj]; exact Rat.le_refl
  · have t := absQ_sub_le ((j : Rat) * p) q ((m : Rat) * p)
    have e : (j : Rat) * p - (m : Rat) * p = ((j - m : Int) : Rat) * p := by rw [Rat.intCast_sub]; grind
    rw [e, absQ_mul, absQ_intCast, absQ_of_pos p hp, absQ_sub_comm q] at t
    have : (1 : Rat) ≤ ((j - m).natAbs : Rat) := by exact_mod_cast (by omega : 1 ≤ (j - m).natAbs)
    have := Rat.mul_le_mul_of_nonneg_right this (Rat.le_of_lt hp)
    grind

theorem pow2_52 : pow2 52 = 4503599627370496 := by decide +kernel
theorem pow2_53 : pow2 53 = 9007199254740992 := by decide +kernel

theorem rndPosME_spec (num den : Nat) (hn : 0 < num) (hd : 0 < den) :
    4503599627370496 ≤ (rndPosME num den).1 ∧ (rndPosME num den).1 ≤ 9007199254740992 ∧
    pow2 ((rndPosME num den).2 + 52) ≤ (num : Rat) / (den : Rat) ∧
    (num : Rat) / (den : Rat) < pow2 ((rndPosME num den).2 + 53) ∧
    2 * absQ (((rndPosME num den).1 : Rat) * pow2 (rndPosME num den).2 - (num : Rat) / (den : Rat))
      ≤ pow2 (rndPosME num den).2 := by
  obtain ⟨b1, b2⟩ := binExp_spec num den hn hd
  have hdq := natCast_pos' den hd
  unfold rndPosME
  simp only
  generalize hb : binExp num den = b at *
  generalize he : b - 52 = e
  have e1 : e + 52 = b := by omega
  have e2 : e + 53 = b + 1 := by omega
  rw [e1, e2]
  have hp := pow2_pos e
  have hlo : pow2 e * 4503599627370496 ≤ (num : Rat) / (den : Rat) := by
    rw [← pow2_52, ← pow2_add, e1]; exact b1
  have hhi : (num : Rat) / (den : Rat) < pow2 e * 9007199254740992 := by
    rw [← pow2_53, ← pow2_add, e2]; exact b2
  by_cases hge : e ≥ 0
  · simp only [hge, if_true]
    have hk : (0 : Rat) < ((2 ^ e.toNat : Nat) : Rat) := natCast_pos' _ (Nat.pow_pos (by decide))
    have hpe : pow2 e = ((2 ^ e.toNat : Nat) : Rat) := by unfold pow2; simp [hge]
    have hX : ((num : Nat) : Rat) / ((den * 2 ^ e.toNat : Nat) : Rat) * pow2 e = (num : Rat) / (den : Rat) := by
      rw [hpe, Rat.natCast_mul]
      generalize ((2 ^ e.toNat : Nat) : Rat) = P at *
      grind
    have := round_core num (den * 2 ^ e.toNat) (Nat.mul_pos hd (Nat.pow_pos (by decide))) (pow2 e) _ hp hX hlo hhi
    exact ⟨this.1, this.2.1, b1, b2, this.2.2⟩
  · simp only [hge, if_false]
    have hk : (0 : Rat) < ((2 ^ (-e).toNat : Nat) : Rat) := natCast_pos' _ (Nat.pow_pos (by decide))
    have hpe : pow2 e = 1 / ((2 ^ (-e).toNat : Nat) : Rat) := by unfold pow2; simp [hge]
    have hX : ((num * 2 ^ (-e).toNat : Nat) : Rat) / (den : Rat) * pow2 e = (num : Rat) / (den : Rat) := by
      rw [hpe, Rat.natCast_mul]
      generalize ((2 ^ (-e).toNat : Nat) : Rat) = P at *
      grind
    have := round_core (num * 2 ^ (-e).toNat) den hd (pow2 e) _ hp hX hlo hhi
    exact ⟨this.1, this.2.1, b1, b2, this.2.2⟩

theorem pos_eq_natAbs_div (q : Rat) (hq : 0 < q) : q = (q.num.natAbs : Rat) / (q.den : Rat) ∧ 0 < q.num.natAbs := by
  have h := absQ_mul_den q
  rw [absQ_of_pos q hq] at h
  have hd : (0 : Rat) < (q.den : Rat) := Rat.natCast_pos.2 q.den_pos
  exact ⟨by rw [← h, Rat.mul_div_cancel (Rat.ne_of_gt hd)], Rat.natCast_pos.1 (by rw [← h]; exact Rat.mul_pos hq hd)⟩

/-- `rndPos q` (q > 0) is `m·2^e` with a 53-bit mantissa in the binade of `q`, within half a unit in
    the last place of `q`, and no multiple of `2^e` is nearer. -/
theorem rndPos_spec (q : Rat) (hq : 0 < q) :
    ∃ (m : Nat) (e : Int), rndPos q = (m : Rat) * pow2 e ∧ 4503599627370496 ≤ m ∧ m ≤ 9007199254740992 ∧
      pow2 (e + 52) ≤ q ∧ q < pow2 (e + 53) ∧ 2 * absQ (rndPos q - q) ≤ pow2 e ∧
      ∀ j : Int, absQ (rndPos q - q) ≤ absQ ((j : Rat) * pow2 e - q) := by
  obtain ⟨hq', hn⟩ := pos_eq_natAbs_div q hq
  obtain ⟨s1, s2, s3, s4, s5⟩ := rndPosME_spec q.num.natAbs q.den hn q.den_pos
  rw [← hq'] at s3 s4 s5
  refine ⟨_, _, rfl, s1, s2, s3, s4, s5, fun j => ?_⟩
  exact nearest_of_half _ q ((rndPosME q.num.natAbs q.den).1 : Int) j (pow2_pos _) s5

theorem rndPos_pos (q : Rat) (hq : 0 < q) : 0 < rndPos q := by
  obtain ⟨m, e, h1, h2, _⟩ := rndPos_spec q hq
  rw [h1]
  exact Rat.mul_pos (natCast_pos' m (by omega)) (pow2_pos e)

theorem rnd53_abs (q : Rat) (hq : q ≠ 0) :
    absQ (rnd53 q) = rndPos (absQ q) ∧ absQ (rnd53 q - q) = absQ (rndPos (absQ q) - absQ q) := by
  have hp := rndPos_pos (absQ q) (absQ_pos q hq)
  unfold rnd53
  simp only [hq, if_false]
  split
  · rename_i hn
    rw [absQ_of_neg q hn] at hp ⊢
    have e : -rndPos (-q) - q = -(rndPos (-q) - -q) := by grind
    rw [absQ_neg, absQ_of_pos _ hp, e, absQ_neg]
    exact ⟨rfl, rfl⟩
  · rename_i hn
    rw [absQ_of_nonneg q (Rat.not_lt.1 hn)] at hp ⊢
    exact ⟨absQ_of_pos _ hp, rfl⟩

theorem rnd53_nearest (q : Rat) (hq : q ≠ 0) :
    ∃ (m : Nat) (e : Int), absQ (rnd53 q) = (m : Rat) * pow2 e ∧ 4503599627370496 ≤ m ∧ m ≤ 9007199254740992 ∧
      pow2 (e + 52) ≤ absQ q ∧ absQ q < pow2 (e + 53) ∧ 2 * absQ (rnd53 q - q) ≤ pow2 e ∧
      ∀ j : Int, absQ (rnd53 q - q) ≤ absQ ((j : Rat) * pow2 e - absQ q) := by
  obtain ⟨e1, e2⟩ := rnd53_abs q hq
  rw [e1, e2]
  exact rndPos_spec (absQ q) (absQ_pos q hq)

theorem rnd53_zero : rnd53 0 = 0 := by decide +kernel

theorem rnd53_relative (q : Rat) : absQ (rnd53 q - q) * 9007199254740992 ≤ absQ q := by
  by_cases hq : q = 0
  · subst hq; decide +kernel
  obtain ⟨m, e, _, _, _, h4, _, h6, _⟩ := rnd53_nearest q hq
  rw [pow2_add, pow2_52] at h4
  generalize absQ (rnd53 q - q) = err at *
  generalize pow2 e = p at *
  grind

end Grass.Num
