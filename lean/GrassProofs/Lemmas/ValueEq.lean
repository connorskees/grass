import Grass.Value
import GrassProofs.Lemmas.ValueNum
/-
  Helper lemmas for C09: membership-style characterisations of the recursive helpers on
  `VPairs`/`VList`, the pigeonhole argument behind the symmetry of `SassMap::eq`, and `ok`, the
  structural form of the scope of the equivalence theorems (Lemmas/ValueEquiv.lean).
-/
namespace Grass.Value

/-! ## lists of pairs -/

theorem any_toList (f : Value → Value → Bool) : ∀ (ps : VPairs),
    ps.any f = ps.toList.any (fun e => f e.1 e.2)
  | .nil => rfl
  | .cons k v t => by simp only [VPairs.any, VPairs.toList, List.any_cons, any_toList f t]

theorem any_iff (f : Value → Value → Bool) (ps : VPairs) :
    ps.any f = true ↔ ∃ e ∈ ps.toList, f e.1 e.2 = true := by
  rw [any_toList, List.any_eq_true]

theorem any_false_iff (f : Value → Value → Bool) (ps : VPairs) :
    ps.any f = false ↔ ∀ e ∈ ps.toList, f e.1 e.2 = false := by
  rw [any_toList, List.any_eq_false]; simp

theorem subP_iff (sw : Sw) : ∀ (p q : VPairs),
    subP sw p q = true ↔
      ∀ e ∈ p.toList, q.any (fun k2 v2 => veq sw e.1 k2 && veq sw e.2 v2) = true
  | .nil, q => by simp [subP, VPairs.toList]
  | .cons k v t, q => by have ih := subP_iff sw t q; simp [subP, VPairs.toList, ih]

theorem length_toList : ∀ (p : VPairs), p.toList.length = p.length
  | .nil => rfl
  | .cons k v t => by simp [VPairs.toList, VPairs.length, length_toList t]

theorem vlength_toList : ∀ (l : VList), l.toList.length = l.length
  | .nil => rfl
  | .cons v t => by simp [VList.toList, VList.length, vlength_toList t]

theorem veqL_length (sw : Sw) : ∀ (l1 l2 : VList), veqL sw l1 l2 = true → l1.length = l2.length
  | .nil, l2, h => by cases l2 <;> simp_all [veqL, VList.length]
  | .cons a t, l2, h => by
    cases l2 <;> simp only [veqL, Bool.false_eq_true, Bool.and_eq_true] at h
    rename_i b u
    simp [VList.length, veqL_length sw t u h.2]

theorem toList_ofList (l : List (Value × Value)) : (VPairs.ofList l).toList = l := by
  induction l with
  | nil => rfl
  | cons e t ih => obtain ⟨k, v⟩ := e; simp [VPairs.ofList, VPairs.toList, ih]

theorem ofList_toList : ∀ (p : VPairs), VPairs.ofList p.toList = p
  | .nil => rfl
  | .cons k v t => by simp [VPairs.ofList, VPairs.toList, ofList_toList t]

theorem toList_inj (p q : VPairs) (h : p.toList = q.toList) : p = q := by
  rw [← ofList_toList p, ← ofList_toList q, h]

theorem allP_mem {g : Value → Bool} {gP : VPairs → Bool}
    (hc : ∀ k v t, gP (.cons k v t) = (g k && g v && gP t)) :
    ∀ (p : VPairs), gP p = true → ∀ e ∈ p.toList, g e.1 = true ∧ g e.2 = true
  | .nil, _, e, he => by simp [VPairs.toList] at he
  | .cons k v t, h, e, he => by
    simp only [hc, Bool.and_eq_true] at h
    simp only [VPairs.toList, List.mem_cons] at he
    rcases he with rfl | he
    · exact h.1
    · exact allP_mem hc t h.2 e he

def eraseFirst (f : Value → Value → Bool) : VPairs → VPairs
  | .nil => .nil
  | .cons k v t => if f k v then t else .cons k v (eraseFirst f t)

theorem eraseFirst_toList (f : Value → Value → Bool) : ∀ (q : VPairs),
    (eraseFirst f q).toList = q.toList.eraseP (fun e => f e.1 e.2)
  | .nil => rfl
  | .cons k v t => by
    simp only [eraseFirst, VPairs.toList, List.eraseP_cons]
    cases f k v <;> simp [VPairs.toList, eraseFirst_toList f t]

theorem eraseFirst_length (f : Value → Value → Bool) (q : VPairs) (h : q.any f = true) :
    (eraseFirst f q).length + 1 = q.length := by
  rw [any_toList] at h
  have hpos : 0 < q.toList.length := by cases hq : q.toList <;> simp [hq] at h ⊢
  rw [← length_toList, ← length_toList, eraseFirst_toList, List.length_eraseP, if_pos h]
  omega

theorem mem_eraseFirst_of (f : Value → Value → Bool) (x : Value × Value)
    (hf : f x.1 x.2 = false) (q : VPairs) (hx : x ∈ q.toList) : x ∈ (eraseFirst f q).toList := by
  rw [eraseFirst_toList]
  exact (List.mem_eraseP_of_neg (by simp [hf])).2 hx

theorem mem_of_mem_eraseFirst (f : Value → Value → Bool) (x : Value × Value) (q : VPairs)
    (hx : x ∈ (eraseFirst f q).toList) : x ∈ q.toList := by
  rw [eraseFirst_toList] at hx
  exact List.mem_of_mem_eraseP hx

theorem distinctKeys_iff_cons (sw : Sw) (k v : Value) (t : VPairs) :
    distinctKeys sw (.cons k v t) = true ↔
      (∀ e ∈ t.toList, veq sw k e.1 = false) ∧ distinctKeys sw t = true := by
  simp [distinctKeys, any_false_iff]

/-- Pigeonhole.  The last two hypotheses: symmetry of `veq` between entries of `p` and `q`, and the
    instance of transitivity that turns two `p`-keys equal to one `q`-key into equal `p`-keys. -/
theorem subP_symm_of (sw : Sw) : ∀ (p q : VPairs),
    p.length = q.length → subP sw p q = true → distinctKeys sw p = true →
    (∀ e ∈ p.toList, ∀ x ∈ q.toList,
        (veq sw e.1 x.1 = true → veq sw x.1 e.1 = true) ∧ (veq sw e.2 x.2 = true → veq sw x.2 e.2 = true)) →
    (∀ e ∈ p.toList, ∀ e' ∈ p.toList, ∀ x ∈ q.toList,
        veq sw e.1 x.1 = true → veq sw x.1 e'.1 = true → veq sw e.1 e'.1 = true) →
    subP sw q p = true
  | .nil, q => by
    intro hlen _ _ _ _
    cases q with
    | nil => simp [subP]
    | cons k v t => simp [VPairs.length] at hlen
  | .cons k v t, q => by
    have ih := subP_symm_of sw t
    intro hlen hsub hd hsymm htr
    simp only [subP, Bool.and_eq_true] at hsub
    obtain ⟨hany, hsubt⟩ := hsub
    rw [distinctKeys_iff_cons] at hd
    obtain ⟨hdk, hdt⟩ := hd
    let f : Value → Value → Bool := fun k2 v2 => veq sw k k2 && veq sw v v2
    have hl : (eraseFirst f q).length + 1 = q.length := eraseFirst_length f q hany
    -- every entry of `t` still has its partner after the erasure
    have hsubt' : subP sw t (eraseFirst f q) = true := by
      rw [subP_iff] at hsubt ⊢
      intro e he
      have := hsubt e he
      rw [any_iff] at this ⊢
      obtain ⟨x, hx, hfx⟩ := this
      simp only [Bool.and_eq_true] at hfx
      refine ⟨x, ?_, by simp [hfx]⟩
      refine mem_eraseFirst_of f x ?_ q hx
      -- `x` is not a partner of the head, else `k == e.1`
      cases hkx : veq sw k x.1
      · simp [f, hkx]
      · exfalso
        have hxe : veq sw x.1 e.1 = true :=
          (hsymm e (by simp [VPairs.toList, he]) x hx).1 hfx.1
        have : veq sw k e.1 = true :=
          htr (k, v) (by simp [VPairs.toList]) e (by simp [VPairs.toList, he]) x hx hkx hxe
        rw [hdk e he] at this
        exact Bool.noConfusion this
    have hrec : subP sw (eraseFirst f q) t = true := by
      apply ih (eraseFirst f q) (by simp [VPairs.length] at hlen; omega) hsubt' hdt
      · intro e he x hx
        exact hsymm e (by simp [VPairs.toList, he]) x (mem_of_mem_eraseFirst f x q hx)
      · intro e he e' he' x hx
        exact htr e (by simp [VPairs.toList, he]) e' (by simp [VPairs.toList, he']) x
          (mem_of_mem_eraseFirst f x q hx)
    rw [subP_iff] at hrec ⊢
    intro x hx
    rw [any_iff]
    cases hfx : f x.1 x.2
    · have := hrec x (mem_eraseFirst_of f x hfx q hx)
      rw [any_iff] at this
      obtain ⟨e, he, hfe⟩ := this
      exact ⟨e, by simp [VPairs.toList, he], hfe⟩
    · simp only [f, Bool.and_eq_true] at hfx
      have hs := hsymm (k, v) (by simp [VPairs.toList]) x hx
      exact ⟨(k, v), by simp [VPairs.toList], by simp [hs.1 hfx.1, hs.2 hfx.2]⟩

/-! ## the values on which `veq` is an equivalence -/

mutual
  /-- The structural form of `inScope sw v ∧ inRange v`. -/
  def ok (sw : Sw) : Value → Bool
    | .num _ u => sw.canonSame || u.isCanon
    | .color r g b a => decide (r ≤ 255) && decide (g ≤ 255) && decide (b ≤ 255) && decide (a ≤ 1)
    | .list es _ _ => okL sw es
    | .map ps => okP sw ps
    | .arglist es kw _ => sw.argAsList && okL sw es && okP sw kw
    | _ => true
  def okL (sw : Sw) : VList → Bool
    | .nil => true
    | .cons v t => ok sw v && okL sw t
  def okP (sw : Sw) : VPairs → Bool
    | .nil => true
    | .cons k v t => ok sw k && ok sw v && okP sw t
end

mutual
  theorem ok_of' (sw : Sw) : ∀ (v : Value), (sw.argAsList = true ∨ noArgList v = true) →
      (sw.canonSame = true ∨ unitsCanon v = true) → inRange v = true → ok sw v = true
    | .null, _, _, _ | .bool _, _, _, _ | .str _ _, _, _, _ => rfl
    | .num _ _, _, h, _ => by simpa [ok, unitsCanon] using h
    | .color .., _, _, h => h
    | .list es _ _, h1, h2, h3 => okL_of sw es h1 h2 h3
    | .map ps, h1, h2, h3 => okP_of sw ps h1 h2 h3
    | .arglist es kw _, h1, h2, h3 => by
      simp only [noArgList, Bool.false_eq_true, or_false, unitsCanon, inRange, Bool.and_eq_true] at h1 h2 h3
      simp only [ok, Bool.and_eq_true]
      exact ⟨⟨h1, okL_of sw es (.inl h1) (h2.imp_right (·.1)) h3.1⟩,
        okP_of sw kw (.inl h1) (h2.imp_right (·.2)) h3.2⟩
  theorem okL_of (sw : Sw) : ∀ (l : VList), (sw.argAsList = true ∨ noArgListL l = true) →
      (sw.canonSame = true ∨ unitsCanonL l = true) → inRangeL l = true → okL sw l = true
    | .nil, _, _, _ => rfl
    | .cons v t, h1, h2, h3 => by
      simp only [noArgListL, unitsCanonL, inRangeL, Bool.and_eq_true] at h1 h2 h3
      simp only [okL, Bool.and_eq_true]
      exact ⟨ok_of' sw v (h1.imp_right (·.1)) (h2.imp_right (·.1)) h3.1,
        okL_of sw t (h1.imp_right (·.2)) (h2.imp_right (·.2)) h3.2⟩
  theorem okP_of (sw : Sw) : ∀ (p : VPairs), (sw.argAsList = true ∨ noArgListP p = true) →
      (sw.canonSame = true ∨ unitsCanonP p = true) → inRangeP p = true → okP sw p = true
    | .nil, _, _, _ => rfl
    | .cons k v t, h1, h2, h3 => by
      simp only [noArgListP, unitsCanonP, inRangeP, Bool.and_eq_true] at h1 h2 h3
      simp only [okP, Bool.and_eq_true]
      exact ⟨⟨ok_of' sw k (h1.imp_right (·.1.1)) (h2.imp_right (·.1.1)) h3.1.1,
        ok_of' sw v (h1.imp_right (·.1.2)) (h2.imp_right (·.1.2)) h3.1.2⟩,
        okP_of sw t (h1.imp_right (·.2)) (h2.imp_right (·.2)) h3.2⟩
end

theorem ok_of (sw : Sw) (v : Value) (h : inScope sw v = true) (hr : inRange v = true) : ok sw v = true := by
  simp only [inScope, Bool.and_eq_true, Bool.or_eq_true] at h
  exact ok_of' sw v h.1 h.2 hr

theorem okP_mem (sw : Sw) : ∀ (p : VPairs), okP sw p = true → ∀ e ∈ p.toList, ok sw e.1 = true ∧ ok sw e.2 = true :=
  allP_mem (fun _ _ _ => rfl)

end Grass.Value
