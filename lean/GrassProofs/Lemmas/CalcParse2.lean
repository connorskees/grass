import GrassProofs.Lemmas.CalcParse
/-
  Printing then reading preserves the value, not the tree: the reader nests to the left, the printer
  leaves a right operand of `+`/`*` of the same level bare (`a * (b / c)` is printed `a * b / c`).
  The claim is made for the tokens of a tree inside a longer row, once per way the reader meets them.
-/
namespace Grass.Calc

def Eqv (a b : CalcArg) : Prop := ∀ ρ, evalCalc ρ a = evalCalc ρ b
def EqvArgs (a b : CalcArgs) : Prop := ∀ ρ, evalArgs ρ a = evalArgs ρ b

theorem Eqv.refl (a : CalcArg) : Eqv a a := fun _ => rfl
theorem Eqv.trans {a b c : CalcArg} (h1 : Eqv a b) (h2 : Eqv b c) : Eqv a c := fun ρ => (h1 ρ).trans (h2 ρ)

theorem Eqv.op {l l' r r' : CalcArg} (o : Op) (hl : Eqv l' l) (hr : Eqv r' r) :
    Eqv (.operation l' o r') (.operation l o r) := by
  intro ρ; simp only [evalCalc, hl ρ, hr ρ]

theorem Eqv.calc {as as' : CalcArgs} (nm : CName) (h : EqvArgs as' as) :
    Eqv (.calculation nm as') (.calculation nm as) := by
  intro ρ; simp only [evalCalc, h ρ]

theorem EqvArgs.cons {a a' : CalcArg} {as as' : CalcArgs} (h1 : Eqv a' a) (h2 : EqvArgs as' as) :
    EqvArgs (.cons a' as') (.cons a as) := by
  intro ρ; simp only [evalArgs, h1 ρ, h2 ρ]

/-- what the reader re-associates; a zero divisor makes both sides undefined -/
theorem applyOp_reassoc {o1 o2 : Op}
    (ho : o1 = .mul ∧ isMulDiv o2 = true ∨ o1 = .plus ∧ isPlusMinus o2 = true) (x y z : Rat) :
    (applyOp o1 x y).bind (applyOp o2 · z) = (applyOp o2 y z).bind (applyOp o1 x ·) := by
  rcases ho with ⟨rfl, ho⟩ | ⟨rfl, ho⟩ <;> cases o2 <;> cases ho <;>
    simp only [applyOp, Option.bind_some, Option.some.injEq]
  · exact Rat.mul_assoc x y z
  · split
    · rfl
    · simp only [Option.bind_some, Option.some.injEq, Rat.div_def, Rat.mul_assoc]
  · exact Rat.add_assoc x y z
  · rw [Rat.sub_eq_add_neg, Rat.sub_eq_add_neg, Rat.add_assoc]

theorem evalCalc_operation (ρ : Env) (a b : CalcArg) (o : Op) :
    evalCalc ρ (.operation a o b) = (evalCalc ρ a).bind fun x => (evalCalc ρ b).bind (applyOp o x) := by
  simp only [evalCalc]
  cases evalCalc ρ a <;> cases evalCalc ρ b <;> rfl

theorem Eqv.reassoc {acc acc1 acc2 l r : CalcArg} {o1 o2 : Op}
    (ho : o1 = .mul ∧ isMulDiv o2 = true ∨ o1 = .plus ∧ isPlusMinus o2 = true)
    (h1 : Eqv acc1 (.operation acc o1 l)) (h2 : Eqv acc2 (.operation acc1 o2 r)) :
    Eqv acc2 (.operation acc o1 (.operation l o2 r)) := by
  intro ρ
  rw [h2 ρ, evalCalc_operation, h1 ρ]
  simp only [evalCalc_operation]
  cases evalCalc ρ acc <;> cases evalCalc ρ l <;> cases evalCalc ρ r <;>
    simp only [Option.bind_none, Option.bind_some]
  · rcases ho with ⟨rfl, -⟩ | ⟨rfl, -⟩ <;> rfl
  · exact applyOp_reassoc ho _ _ _

def isOperation : CalcArg → Bool
  | .operation _ _ _ => true
  | _ => false

def productLevel : CalcArg → Bool
  | .operation _ o _ => isMulDiv o
  | _ => true

/- `T` stands for `a`.  `AtomP`: `pAtom` reads `T` and stops.  `ProdW`, `SumW`: `T` heads a product / sum
   whose loop goes on in `rest`.  `SumL`, `ProdL`: the loop holding `acc` reads `o T` and goes on with
   something worth `acc o a`.  After a sum, `rest` must not begin with `*` or `/`. -/
def AtomP (T : List Tok) (a : CalcArg) : Prop :=
  ∀ rest, ∃ a', Eqv a' a ∧ PAtom (T ++ rest) (a', rest)
def ProdW (T : List Tok) (a : CalcArg) : Prop :=
  ∀ rest, ∃ a', Eqv a' a ∧ ∀ res, PProdLoop a' rest res → PProd (T ++ rest) res
def SumW (T : List Tok) (a : CalcArg) : Prop :=
  ∀ rest, notMulDiv rest = true → ∃ a', Eqv a' a ∧ ∀ res, PSumLoop a' rest res → PSum (T ++ rest) res
def Sum0 (a : CalcArg) : Prop :=
  ∀ rest, notMulDiv rest = true → notPlusMinus rest = true → ∃ a', Eqv a' a ∧ PSum (pr a ++ rest) (a', rest)
def SumL (o : Op) (T : List Tok) (a : CalcArg) : Prop :=
  ∀ acc rest, notMulDiv rest = true →
    ∃ acc', Eqv acc' (.operation acc o a) ∧ ∀ res, PSumLoop acc' rest res → PSumLoop acc (.op o :: (T ++ rest)) res
def ProdL (o : Op) (T : List Tok) (a : CalcArg) : Prop :=
  ∀ acc rest,
    ∃ acc', Eqv acc' (.operation acc o a) ∧ ∀ res, PProdLoop acc' rest res → PProdLoop acc (.op o :: (T ++ rest)) res

theorem AtomP.toProdW {T : List Tok} {a : CalcArg} (h : AtomP T a) : ProdW T a := by
  intro rest
  obtain ⟨a', he, hp⟩ := h rest
  exact ⟨a', he, fun res hres => PProd.intro hp hres⟩

theorem ProdW.toSumW {T : List Tok} {a : CalcArg} (h : ProdW T a) : SumW T a := by
  intro rest hmd
  obtain ⟨a', he, hp⟩ := h rest
  exact ⟨a', he, fun res hres => PSum.intro (hp _ (PProdLoop.stop a' rest hmd)) hres⟩

theorem SumW.toSum0 {a : CalcArg} (h : SumW (pr a) a) : Sum0 a := by
  intro rest hmd hpm
  obtain ⟨a', he, hp⟩ := h rest hmd
  exact ⟨a', he, hp _ (PSumLoop.stop a' rest hpm)⟩

theorem Sum0.toParen {a : CalcArg} (h : Sum0 a) : AtomP (wrap true (pr a)) a := by
  intro rest
  obtain ⟨a', he, hp⟩ := h (.rp :: rest) rfl rfl
  refine ⟨a', he, ?_⟩
  have : wrap true (pr a) ++ rest = .lp :: (pr a ++ .rp :: rest) := by simp [wrap]
  rw [this]
  exact PAtom.paren hp

theorem AtomP.toProdL {T : List Tok} {a : CalcArg} {o : Op} (ho : isMulDiv o = true) (h : AtomP T a) :
    ProdL o T a := by
  intro acc rest
  obtain ⟨a', he, hp⟩ := h rest
  exact ⟨.operation acc o a', Eqv.op o (Eqv.refl acc) he, fun res hres => PProdLoop.step ho hp hres⟩

theorem ProdW.toSumL {T : List Tok} {a : CalcArg} {o : Op} (ho : isPlusMinus o = true) (h : ProdW T a) :
    SumL o T a := by
  intro acc rest hmd
  obtain ⟨a', he, hp⟩ := h rest
  exact ⟨.operation acc o a', Eqv.op o (Eqv.refl acc) he,
    fun res hres => PSumLoop.step ho (hp _ (PProdLoop.stop a' rest hmd)) hres⟩

structure Good (a : CalcArg) : Prop where
  sumW : SumW (pr a) a
  prodW : productLevel a = true → ProdW (pr a) a
  atomP : isOperation a = false → AtomP (pr a) a
  sumL : ∀ o, isPlusMinus o = true → SumL o (wrap (parenRight o a) (pr a)) a
  prodL : ∀ o, isMulDiv o = true → ProdL o (wrap (parenRight o a) (pr a)) a

theorem Good.sum0 {a : CalcArg} (g : Good a) : Sum0 a := g.sumW.toSum0

theorem productLevel_of_parenLeft {a : CalcArg} {o : Op} (ho : isMulDiv o = true)
    (h : parenLeft a o = false) : productLevel a = true := by
  cases a <;> simp [productLevel]
  rename_i l o2 r
  cases o <;> simp [isMulDiv] at ho <;> cases o2 <;> simp_all [parenLeft, Op.prec, isMulDiv]

theorem Good.prodHead {a : CalcArg} (g : Good a) {o : Op} (ho : isMulDiv o = true) :
    ProdW (wrap (parenLeft a o) (pr a)) a := by
  cases h : parenLeft a o with
  | true => exact g.sum0.toParen.toProdW
  | false => simpa [wrap] using g.prodW (productLevel_of_parenLeft ho h)

theorem Good.sumHead {a : CalcArg} (g : Good a) (o : Op) :
    SumW (wrap (parenLeft a o) (pr a)) a := by
  cases h : parenLeft a o with
  | true => exact g.sum0.toParen.toProdW.toSumW
  | false => simpa [wrap] using g.sumW

theorem sumL_of {a : CalcArg} {o : Op} (ho : isPlusMinus o = true) (s0 : Sum0 a)
    (raw : parenRight o a = false → SumL o (pr a) a) : SumL o (wrap (parenRight o a) (pr a)) a := by
  cases h : parenRight o a with
  | true => exact s0.toParen.toProdW.toSumL ho
  | false => simpa [wrap] using raw h

theorem prodL_of {a : CalcArg} {o : Op} (ho : isMulDiv o = true) (s0 : Sum0 a)
    (raw : parenRight o a = false → ProdL o (pr a) a) : ProdL o (wrap (parenRight o a) (pr a)) a := by
  cases h : parenRight o a with
  | true => exact s0.toParen.toProdL ho
  | false => simpa [wrap] using raw h

theorem Good.ofAtom {a : CalcArg} (hop : isOperation a = false) (ap : AtomP (pr a) a) : Good a := by
  have pl : productLevel a = true := by cases a <;> simp_all [productLevel, isOperation]
  have sw := ap.toProdW.toSumW
  exact
    { sumW := sw, prodW := fun _ => ap.toProdW, atomP := fun _ => ap,
      sumL := fun o ho => sumL_of ho sw.toSum0 (fun _ => ap.toProdW.toSumL ho),
      prodL := fun o ho => prodL_of ho sw.toSum0 (fun _ => ap.toProdL ho) }

theorem pr_operation (l r : CalcArg) (o : Op) :
    pr (.operation l o r) = wrap (parenLeft l o) (pr l) ++ (.op o :: wrap (parenRight o r) (pr r)) := by
  rw [pr]

theorem parenRight_mul_eq {l : CalcArg} {o2 : Op} (ho : isMulDiv o2 = true) :
    parenRight .mul l = parenLeft l o2 := by
  cases l <;> simp [parenRight, parenLeft]
  rename_i a o3 b
  cases o2 <;> simp [isMulDiv] at ho <;> cases o3 <;> simp [parenRhsOp, Op.prec]

theorem parenRight_plus_eq {l : CalcArg} {o2 : Op} (ho : isPlusMinus o2 = true) :
    parenRight .plus l = parenLeft l o2 := by
  cases l <;> simp [parenRight, parenLeft]
  rename_i a o3 b
  cases o2 <;> simp [isPlusMinus] at ho <;> cases o3 <;> simp [parenRhsOp, Op.prec]

theorem Good.ofProduct {l r : CalcArg} {o2 : Op} (ho2 : isMulDiv o2 = true) (gl : Good l) (gr : Good r) :
    Good (.operation l o2 r) := by
  have pw : ProdW (pr (.operation l o2 r)) (.operation l o2 r) := by
    intro rest
    obtain ⟨l', hl, hpl⟩ := gl.prodHead ho2 (.op o2 :: (wrap (parenRight o2 r) (pr r) ++ rest))
    obtain ⟨acc', hacc, hpr⟩ := gr.prodL o2 ho2 l' rest
    refine ⟨acc', Eqv.trans hacc (Eqv.op o2 hl (Eqv.refl r)), fun res hres => ?_⟩
    rw [pr_operation]
    simp only [List.append_assoc, List.cons_append]
    exact hpl _ (hpr _ hres)
  have sw := pw.toSumW
  refine { sumW := sw, prodW := fun _ => pw, atomP := fun h => by simp [isOperation] at h,
           sumL := fun o ho => sumL_of ho sw.toSum0 (fun _ => pw.toSumL ho),
           prodL := fun o ho => prodL_of ho sw.toSum0 (fun hraw => ?_) }
  -- raw product under `*`: `acc * l ⊙ r`
  have ho' : o = .mul := by
    cases o <;> simp [isMulDiv] at ho <;> simp [parenRight, parenRhsOp] at hraw ⊢
  subst ho'
  intro acc rest
  obtain ⟨acc1, h1, hp1⟩ := gl.prodL .mul rfl acc (.op o2 :: (wrap (parenRight o2 r) (pr r) ++ rest))
  obtain ⟨acc2, h2, hp2⟩ := gr.prodL o2 ho2 acc1 rest
  refine ⟨acc2, Eqv.reassoc (.inl ⟨rfl, ho2⟩) h1 h2, fun res hres => ?_⟩
  rw [pr_operation, ← parenRight_mul_eq ho2]
  simp only [List.append_assoc, List.cons_append]
  exact hp1 _ (hp2 _ hres)

theorem Good.ofSum {l r : CalcArg} {o2 : Op} (ho2 : isPlusMinus o2 = true) (gl : Good l) (gr : Good r) :
    Good (.operation l o2 r) := by
  have sw : SumW (pr (.operation l o2 r)) (.operation l o2 r) := by
    intro rest hmd
    have hmd1 : notMulDiv (.op o2 :: (wrap (parenRight o2 r) (pr r) ++ rest)) = true := by
      cases o2 <;> simp [isPlusMinus] at ho2 <;> rfl
    obtain ⟨l', hl, hpl⟩ := gl.sumHead o2 _ hmd1
    obtain ⟨acc', hacc, hpr⟩ := gr.sumL o2 ho2 l' rest hmd
    refine ⟨acc', Eqv.trans hacc (Eqv.op o2 hl (Eqv.refl r)), fun res hres => ?_⟩
    rw [pr_operation]
    simp only [List.append_assoc, List.cons_append]
    exact hpl _ (hpr _ hres)
  have npl : productLevel (.operation l o2 r) = false := by
    cases o2 <;> simp [isPlusMinus] at ho2 <;> rfl
  refine { sumW := sw, prodW := fun h => by simp [npl] at h,
           atomP := fun h => by simp [isOperation] at h,
           sumL := fun o ho => sumL_of ho sw.toSum0 (fun hraw => ?_),
           prodL := fun o ho => prodL_of ho sw.toSum0 (fun hraw => ?_) }
  · -- raw sum under `+`: `acc + l ± r`
    have ho' : o = .plus := by
      cases o <;> simp [isPlusMinus] at ho <;> cases o2 <;> simp [isPlusMinus] at ho2 <;>
        simp [parenRight, parenRhsOp] at hraw ⊢
    subst ho'
    intro acc rest hmd
    have hmd1 : notMulDiv (.op o2 :: (wrap (parenRight o2 r) (pr r) ++ rest)) = true := by
      cases o2 <;> simp [isPlusMinus] at ho2 <;> rfl
    obtain ⟨acc1, h1, hp1⟩ := gl.sumL .plus rfl acc _ hmd1
    obtain ⟨acc2, h2, hp2⟩ := gr.sumL o2 ho2 acc1 rest hmd
    refine ⟨acc2, Eqv.reassoc (.inr ⟨rfl, ho2⟩) h1 h2, fun res hres => ?_⟩
    rw [pr_operation, ← parenRight_plus_eq ho2]
    simp only [List.append_assoc, List.cons_append]
    exact hp1 _ (hp2 _ hres)
  · -- a sum is always parenthesised under `*` and `/`
    exfalso
    cases o <;> simp [isMulDiv] at ho <;> cases o2 <;> simp [isPlusMinus] at ho2 <;>
      simp [parenRight, parenRhsOp] at hraw

def GoodArgs (as : CalcArgs) : Prop :=
  as.nonEmpty = true → ∀ rest, ∃ as', EqvArgs as' as ∧ PArgs (prArgs as ++ .rp :: rest) (as', .rp :: rest)

mutual
theorem good_arg : ∀ (a : CalcArg), a.wf = true → Good a
  | .number n u, _ =>
    Good.ofAtom rfl (fun rest => ⟨_, Eqv.refl _, by simpa [pr] using PAtom.num n u rest⟩)
  | .str id p, _ => by
    refine Good.ofAtom rfl (fun rest => ⟨.str id false, fun ρ => by simp [evalCalc], ?_⟩)
    cases p
    · simpa [pr] using PAtom.atom id rest
    · have h1 : PSum (.atom id :: .rp :: rest) (.str id false, .rp :: rest) :=
        PSum.intro (PProd.intro (PAtom.atom id _) (PProdLoop.stop _ _ rfl)) (PSumLoop.stop _ _ rfl)
      simpa [pr] using PAtom.paren h1
  | .interp id, _ =>
    Good.ofAtom rfl (fun rest => ⟨.str id false, fun ρ => by simp [evalCalc], by simpa [pr] using PAtom.atom id rest⟩)
  | .calculation nm as, h => by
    simp only [CalcArg.wf, Bool.and_eq_true] at h
    refine Good.ofAtom rfl (fun rest => ?_)
    obtain ⟨as', he, hp⟩ := good_args as h.2 h.1 rest
    refine ⟨.calculation nm as', Eqv.calc nm he, ?_⟩
    have : pr (.calculation nm as) ++ rest = .fn nm :: (prArgs as ++ .rp :: rest) := by
      rw [pr]; simp
    rw [this]
    exact PAtom.call hp
  | .operation l o r, h => by
    simp only [CalcArg.wf, Bool.and_eq_true] at h
    have gl := good_arg l h.1
    have gr := good_arg r h.2
    cases o
    · exact Good.ofSum rfl gl gr
    · exact Good.ofSum rfl gl gr
    · exact Good.ofProduct rfl gl gr
    · exact Good.ofProduct rfl gl gr
theorem good_args : ∀ (as : CalcArgs), as.wf = true → GoodArgs as
  | .nil, _ => by intro h; simp [CalcArgs.nonEmpty] at h
  | .cons a .nil, h => by
    intro _ rest
    simp only [CalcArgs.wf, Bool.and_eq_true] at h
    obtain ⟨a', he, hp⟩ := (good_arg a h.1).sum0 (.rp :: rest) rfl rfl
    refine ⟨.cons a' .nil, EqvArgs.cons he (fun _ => rfl), ?_⟩
    rw [prArgs]
    exact PArgs.one hp rfl
  | .cons a (.cons b bs), h => by
    intro _ rest
    simp only [CalcArgs.wf, Bool.and_eq_true] at h
    obtain ⟨as', hes, hps⟩ := good_args (.cons b bs) (by simp [CalcArgs.wf, h.2]) rfl rest
    obtain ⟨a', he, hp⟩ := (good_arg a h.1).sum0 (.comma :: (prArgs (.cons b bs) ++ .rp :: rest)) rfl rfl
    refine ⟨.cons a' as', EqvArgs.cons he hes, ?_⟩
    rw [prArgs]
    simp only [List.append_assoc, List.cons_append]
    exact PArgs.more hp hps
end

theorem print_parse_exists (a : CalcArg) (h : a.wf = true) :
    ∃ a' f, Eqv a' a ∧ ∀ g, f ≤ g → pSum g (pr a) = some (a', []) := by
  obtain ⟨a', he, f, hf⟩ := (good_arg a h).sum0 [] rfl rfl
  refine ⟨a', f, he, fun g hg => ?_⟩
  have := (mono_le hg).2.2.2.2.1 _ _ hf
  simpa using this

end Grass.Calc
