import Grass.Builtins
import GrassProofs.Lemmas.Builtins

/-!
Position arithmetic of `str-slice`, `str-insert`, `str-index`.  `sliceCore` and `insertCore` get one
`take`/`drop` form each (`sliceCore_eq`, `insertCore_eq`); everything else rewrites with those.
-/

namespace Grass.Builtins

/-! ## `sliceCore` -/

/-- 1-based; `len + 1` when the slice is empty -/
def sliceStart (len : Nat) (a : Int) : Int :=
  if a = 0 then 1 else if 0 < a then min a (len + 1) else max (a + len + 1) 1

def sliceEnd (len : Nat) (b : Int) : Int :=
  min (max (if b < 0 then b + len + 1 else b) 0) (len + 1)

theorem sliceStart_of_pos (len : Nat) (a : Int) (h1 : 1 ≤ a) (h2 : a ≤ len + 1) : sliceStart len a = a := by
  unfold sliceStart
  rw [if_neg (by omega), if_pos (by omega), Int.min_eq_left h2]

theorem sliceStart_neg (len : Nat) (k : Int) (h1 : 1 ≤ k) (h2 : k ≤ len) : sliceStart len (-k) = len - k + 1 := by
  unfold sliceStart
  rw [if_neg (by omega), if_neg (by omega), Int.max_eq_left (by omega)]
  omega

theorem sliceEnd_of_nonneg (len : Nat) (b : Int) (h1 : 0 ≤ b) (h2 : b ≤ len + 1) : sliceEnd len b = b := by
  unfold sliceEnd
  rw [if_neg (by omega), Int.max_eq_left h1, Int.min_eq_left h2]

theorem sliceEnd_neg (len : Nat) (k : Int) (h1 : 1 ≤ k) (h2 : k ≤ len + 1) : sliceEnd len (-k) = len - k + 1 := by
  unfold sliceEnd
  rw [if_pos (by omega), Int.max_eq_left (by omega), Int.min_eq_left (by omega)]
  omega

theorem sliceEnd_ge (len : Nat) (e : Int) (h : len ≤ e) : (len : Int) ≤ sliceEnd len e := by
  unfold sliceEnd
  rw [if_neg (by omega), Int.max_eq_left (by omega)]
  omega

/-- the guard of `sliceCore` is subsumed by `take`/`drop` running off the end -/
theorem sliceCore_eq (s : List Char) (a b : Int) :
    sliceCore s a b =
      (s.drop ((sliceStart s.length a).toNat - 1)).take (sliceEnd s.length b - sliceStart s.length a + 1).toNat := by
  show (if sliceEnd s.length b < sliceStart s.length a ∨ (s.length : Int) < sliceStart s.length a then [] else _) = _
  split
  · next h =>
    rcases h with h | h
    · rw [Int.toNat_of_nonpos (by omega), List.take_zero]
    · rw [List.drop_eq_nil_of_le (by omega), List.take_nil]
  · rfl

theorem take_drop_eq_drop (s : List Char) (st en : Int) (h : (s.length : Int) ≤ en) :
    (s.drop (st.toNat - 1)).take (en - st + 1).toNat = s.drop (st.toNat - 1) := by
  apply List.take_of_length_le
  rw [List.length_drop]
  omega

theorem slice_eq_take_drop (s : List Char) (a b : Int) (ha : 1 ≤ a) (hab : a ≤ b + 1) (hb : b ≤ (s.length : Int)) :
    sliceCore s a b = (s.drop (a.toNat - 1)).take (b - a + 1).toNat := by
  rw [sliceCore_eq, sliceStart_of_pos _ a ha (by omega), sliceEnd_of_nonneg _ b (by omega) (by omega)]

theorem length_slice (s : List Char) (a b : Int) (ha : 1 ≤ a) (hab : a ≤ b + 1) (hb : b ≤ (s.length : Int)) :
    (sliceCore s a b).length = (b - a + 1).toNat := by
  rw [slice_eq_take_drop s a b ha hab hb, List.length_take, List.length_drop]
  omega

theorem slice_natCast (s : List Char) (i n : Nat) (h : i + n ≤ s.length) :
    sliceCore s ((i : Int) + 1) ((i : Int) + n) = (s.drop i).take n := by
  rw [slice_eq_take_drop s _ _ (by omega) (by omega) (by omega), Int.toNat_natCast_add_one, Nat.add_sub_cancel]
  congr 1
  omega

theorem slice_to_end (s : List Char) (a : Int) (ha : 1 ≤ a) (ha' : a ≤ s.length + 1) :
    sliceCore s a (-1) = s.drop (a.toNat - 1) := by
  rw [sliceCore_eq, sliceStart_of_pos _ a ha ha', sliceEnd_neg _ 1 (Int.le_refl 1) (by omega),
    take_drop_eq_drop s a _ (by omega)]

theorem slice_concat (s : List Char) (k : Nat) (hk : k ≤ s.length) :
    sliceCore s 1 (k : Int) ++ sliceCore s ((k : Int) + 1) (-1) = s := by
  rw [slice_eq_take_drop s 1 k (Int.le_refl 1) (by omega) (by omega), slice_to_end s _ (by omega) (by omega)]
  rw [Int.sub_add_cancel, Int.toNat_natCast, Int.toNat_natCast_add_one, Nat.add_sub_cancel]
  exact List.take_append_drop k s

theorem slice_neg_start (s : List Char) (k : Int) (e : Int) (hk1 : 1 ≤ k) (hk2 : k ≤ (s.length : Int)) :
    sliceCore s (-k) e = sliceCore s ((s.length : Int) - k + 1) e := by
  rw [sliceCore_eq, sliceCore_eq, sliceStart_neg _ k hk1 hk2, sliceStart_of_pos _ _ (by omega) (by omega)]

theorem slice_neg_end (s : List Char) (a : Int) (k : Int) (hk1 : 1 ≤ k) (hk2 : k ≤ (s.length : Int)) :
    sliceCore s a (-k) = sliceCore s a ((s.length : Int) - k + 1) := by
  rw [sliceCore_eq, sliceCore_eq, sliceEnd_neg _ k hk1 (by omega), sliceEnd_of_nonneg _ _ (by omega) (by omega)]

theorem slice_start_zero (s : List Char) (e : Int) : sliceCore s 0 e = sliceCore s 1 e := by
  rw [sliceCore_eq, sliceCore_eq, sliceStart_of_pos _ 1 (Int.le_refl 1) (by omega)]
  rfl

theorem slice_clamp_end (s : List Char) (a e : Int) (he : (s.length : Int) ≤ e) :
    sliceCore s a e = sliceCore s a (s.length : Int) := by
  rw [sliceCore_eq, sliceCore_eq, take_drop_eq_drop s _ _ (sliceEnd_ge _ e he),
    take_drop_eq_drop s _ _ (sliceEnd_ge _ _ (Int.le_refl _))]

/-! ## `insertCore` -/

/-- the number of code points of `s` that `str-insert` leaves in front of the inserted text -/
def insertIdx (len : Nat) (i : Int) : Nat :=
  if 0 < i then (min (i - 1) len).toNat else if i = 0 then 0 else (max (len + i + 1) 0).toNat

theorem insertIdx_le (len : Nat) (i : Int) : insertIdx len i ≤ len := by
  unfold insertIdx
  split
  · exact Int.toNat_le.mpr (Int.min_le_right _ _)
  · split
    · exact Nat.zero_le _
    · exact Int.toNat_le.mpr (Int.max_le.mpr ⟨by omega, by omega⟩)

theorem insertIdx_pos (len : Nat) (i : Int) (h1 : 1 ≤ i) (h2 : i ≤ len + 1) : insertIdx len i = i.toNat - 1 := by
  unfold insertIdx
  rw [if_pos (by omega), Int.min_eq_left (by omega)]
  exact Int.toNat_sub' i 1

theorem insertIdx_succ (len k : Nat) (h : k ≤ len) : insertIdx len ((k : Int) + 1) = k := by
  rw [insertIdx_pos len _ (by omega) (by omega), Int.toNat_natCast_add_one, Nat.add_sub_cancel]

theorem insertIdx_clamp_hi (len : Nat) (i : Int) (h : len + 1 ≤ i) : insertIdx len i = len := by
  unfold insertIdx
  rw [if_pos (by omega), Int.min_eq_right (by omega), Int.toNat_natCast]

theorem insertIdx_neg (len : Nat) (k : Int) (h1 : 1 ≤ k) (h2 : k ≤ len + 1) :
    insertIdx len (-k) = ((len : Int) - k + 1).toNat := by
  unfold insertIdx
  rw [if_neg (by omega), if_neg (by omega), Int.max_eq_left (by omega), Int.sub_eq_add_neg]

theorem insertIdx_clamp_lo (len : Nat) (i : Int) (h : i ≤ -((len : Int) + 1)) : insertIdx len i = 0 := by
  unfold insertIdx
  rw [if_neg (by omega), if_neg (by omega), Int.max_eq_right (by omega)]
  rfl

theorem insertAfter_le (s ins : List Char) (n : Nat) (h : n ≤ s.length) :
    insertAfter s ins n = s.take n ++ ins ++ s.drop n :=
  if_neg (Nat.not_lt.mpr h)

theorem insertCore_eq (s ins : List Char) (i : Int) :
    insertCore s ins i = s.take (insertIdx s.length i) ++ ins ++ s.drop (insertIdx s.length i) := by
  by_cases hs : s = []
  · subst hs
    simp [insertCore]
  · rw [← insertAfter_le s ins _ (insertIdx_le _ i)]
    unfold insertCore insertIdx
    rw [if_neg hs, apply_ite (insertAfter s ins), apply_ite (insertAfter s ins)]

theorem length_insert (s ins : List Char) (i : Int) :
    (insertCore s ins i).length = s.length + ins.length := by
  have h := congrArg List.length (List.take_append_drop (insertIdx s.length i) s)
  rw [List.length_append] at h
  rw [insertCore_eq, List.length_append, List.length_append]
  omega

theorem insert_pos (s ins : List Char) (i : Int) (h1 : 1 ≤ i) (h2 : i ≤ (s.length : Int) + 1) :
    insertCore s ins i = s.take (i.toNat - 1) ++ ins ++ s.drop (i.toNat - 1) := by
  rw [insertCore_eq, insertIdx_pos _ i h1 h2]

theorem insert_neg (s ins : List Char) (k : Int) (h1 : 1 ≤ k) (h2 : k ≤ (s.length : Int) + 1) :
    insertCore s ins (-k) = s.take ((s.length : Int) - k + 1).toNat ++ ins ++ s.drop ((s.length : Int) - k + 1).toNat := by
  rw [insertCore_eq, insertIdx_neg _ k h1 h2]

theorem insert_clamp_hi (s ins : List Char) (i : Int) (h : (s.length : Int) + 1 ≤ i) : insertCore s ins i = s ++ ins := by
  rw [insertCore_eq, insertIdx_clamp_hi _ i h, List.take_length, List.drop_length, List.append_nil]

theorem insert_clamp_lo (s ins : List Char) (i : Int) (h : i ≤ -((s.length : Int) + 1)) : insertCore s ins i = ins ++ s := by
  rw [insertCore_eq, insertIdx_clamp_lo _ i h, List.take_zero, List.drop_zero, List.nil_append]

/-! ## `findSub` / `occursAt` -/

theorem occursAt_zero (sub s : List Char) : occursAt sub s 0 = sub.isPrefixOf s := rfl

theorem occursAt_succ (sub : List Char) (c : Char) (t : List Char) (j : Nat) :
    occursAt sub (c :: t) (j + 1) = occursAt sub t j := rfl

theorem occursAt_take (sub s : List Char) (j : Nat) (h : occursAt sub s j = true) :
    (s.drop j).take sub.length = sub := by
  unfold occursAt at h
  rw [List.isPrefixOf_iff_prefix, List.prefix_iff_eq_take] at h
  exact h.symm

theorem occursAt_le (sub s : List Char) (j : Nat) (h : occursAt sub s j = true) (hne : sub ≠ []) :
    j + sub.length ≤ s.length := by
  have h2 := congrArg List.length (occursAt_take sub s j h)
  rw [List.length_take, List.length_drop] at h2
  have : 0 < sub.length := List.length_pos_iff.mpr hne
  omega

theorem findSub_spec (sub s : List Char) :
    match findSub sub s with
    | some i => i ≤ s.length ∧ occursAt sub s i = true ∧ ∀ j, j < i → occursAt sub s j = false
    | none => ∀ j, j ≤ s.length → occursAt sub s j = false := by
  fun_induction findSub sub s with
  | case1 h => exact ⟨Nat.le_refl _, by subst h; rfl, fun j hj => absurd hj (Nat.not_lt_zero j)⟩
  | case2 h =>
    intro j hj
    obtain rfl := Nat.le_zero.mp hj
    cases sub with
    | nil => exact absurd rfl h
    | cons a l => rfl
  | case3 c t hp => exact ⟨Nat.zero_le _, hp, fun j hj => absurd hj (Nat.not_lt_zero j)⟩
  | case4 c t hp ih =>
    have h0 : occursAt sub (c :: t) 0 = false := Bool.eq_false_iff.mpr hp
    cases hf : findSub sub t with
    | none =>
      rw [hf] at ih
      intro j hj
      cases j with
      | zero => exact h0
      | succ j => exact ih j (Nat.le_of_succ_le_succ hj)
    | some i =>
      rw [hf] at ih
      refine ⟨Nat.succ_le_succ ih.1, ih.2.1, fun j hj => ?_⟩
      cases j with
      | zero => exact h0
      | succ j => exact ih.2.2 j (Nat.lt_of_succ_lt_succ hj)

theorem findSub_some (sub s : List Char) (i : Nat) (h : findSub sub s = some i) :
    occursAt sub s i = true ∧ ∀ j, j < i → occursAt sub s j = false := by
  have := findSub_spec sub s
  rw [h] at this
  exact this.2

theorem findSub_none (sub s : List Char) :
    findSub sub s = none ↔ ∀ j, j ≤ s.length → occursAt sub s j = false := by
  have := findSub_spec sub s
  constructor
  · intro h
    rw [h] at this
    exact this
  · intro h
    cases hf : findSub sub s with
    | none => rfl
    | some i =>
      rw [hf] at this
      exact absurd ((h i this.1).symm.trans this.2.1) Bool.false_ne_true

/-! ## composite facts -/

theorem slice_insert (s ins : List Char) (k : Nat) (hk : k ≤ s.length) :
    sliceCore (insertCore s ins ((k : Int) + 1)) ((k : Int) + 1) ((k : Int) + ins.length) = ins := by
  rw [slice_natCast _ k ins.length (by rw [length_insert]; omega), insertCore_eq, insertIdx_succ _ k hk,
    List.append_assoc, List.drop_append_of_le_length (by rw [List.length_take_of_le hk]; exact Nat.le_refl k),
    List.drop_of_length_le (by rw [List.length_take_of_le hk]; exact Nat.le_refl k), List.nil_append, List.take_left]

theorem insert_slice (s ins : List Char) (i : Int) (h1 : 1 ≤ i) (h2 : i ≤ (s.length : Int) + 1) (hne : ins ≠ []) :
    sliceCore (insertCore s ins i) i (i + (ins.length : Int) - 1) = ins := by
  obtain ⟨k, rfl⟩ : ∃ k : Nat, i = k + 1 := ⟨(i - 1).toNat, by omega⟩
  rw [Int.add_right_comm, Int.add_sub_cancel]
  exact slice_insert s ins k (by omega)

theorem findSub_slice (sub s : List Char) (i : Nat) (h : findSub sub s = some i) (hne : sub ≠ []) :
    sliceCore s ((i : Int) + 1) ((i : Int) + (sub.length : Int)) = sub := by
  have ho := (findSub_some sub s i h).1
  rw [slice_natCast s i sub.length (occursAt_le sub s i ho hne)]
  exact occursAt_take sub s i ho

/-! ## the built-ins -/

theorem intArg_int (n : Int) : intArg (numI n .none) = .ok n := by
  simp [intArg, numI, asInt_intCast]

theorem strSliceF_int (s : List Char) (q : Bool) (a b : Int) :
    strSliceF [.str s q, numI a .none, numI b .none] = .ok (.str (sliceCore s a b) q) := by
  simp [strSliceF, assertString, intArg_int]

theorem strSliceF_int1 (s : List Char) (q : Bool) (a : Int) :
    strSliceF [.str s q, numI a .none] = .ok (.str (sliceCore s a (-1)) q) := by
  simp [strSliceF, assertString, intArg_int]

theorem strInsertF_int (s ins : List Char) (q q' : Bool) (i : Int) :
    strInsertF [.str s q, .str ins q', numI i .none] = .ok (.str (insertCore s ins i) q) := by
  simp [strInsertF, assertString, intArg_int]

theorem strIndexF_str (s sub : List Char) (q q' : Bool) :
    strIndexF [.str s q, .str sub q'] =
      match findSub sub s with
      | some i => .ok (natV (i + 1))
      | none => .ok .null := by
  simp only [strIndexF, assertString]
  cases findSub sub s <;> rfl

end Grass.Builtins
