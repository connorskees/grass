import Grass.Value
import GrassProofs.Lemmas.ValueEq
/-
  Helper lemmas for C09: the association-list operations of `SassMap` seen through `toList`.
-/
namespace Grass.Value

theorem keys_toList : ∀ (m : VPairs), (keys m).toList = m.toList.map (·.1)
  | .nil => rfl
  | .cons k v t => by simp [keys, VList.toList, VPairs.toList, keys_toList t]

theorem values_toList : ∀ (m : VPairs), (values m).toList = m.toList.map (·.2)
  | .nil => rfl
  | .cons k v t => by simp [values, VList.toList, VPairs.toList, values_toList t]

theorem pairsAsList_toList : ∀ (m : VPairs),
    (pairsAsList m).toList = m.toList.map (fun e => Value.list (.cons e.1 (.cons e.2 .nil)) .space false)
  | .nil => rfl
  | .cons k v t => by simp [pairsAsList, VList.toList, VPairs.toList, pairsAsList_toList t]

theorem get_eq_find (sw : Sw) (key : Value) : ∀ (m : VPairs),
    get sw m key = (m.toList.find? (fun e => veq sw e.1 key)).map (·.2)
  | .nil => rfl
  | .cons k v t => by
    simp only [get, VPairs.toList, List.find?_cons]
    cases h : veq sw k key <;> simp [get_eq_find sw key t]

theorem contains_eq_any (sw : Sw) (key : Value) (m : VPairs) :
    contains sw m key = m.toList.any (fun e => veq sw e.1 key) := any_toList _ m

theorem get_isSome_eq_contains (sw : Sw) (key : Value) (m : VPairs) :
    (get sw m key).isSome = contains sw m key := by
  rw [get_eq_find, contains_eq_any, Option.isSome_map, List.isSome_find?]

theorem insert_absent (sw : Sw) (key val : Value) : ∀ (m : VPairs), contains sw m key = false →
    (insert sw m key val).toList = m.toList ++ [(key, val)]
  | .nil, _ => by simp [insert, VPairs.toList]
  | .cons k v t, h => by
    simp only [contains, VPairs.any, Bool.or_eq_false_iff] at h
    simp only [insert, h.1, Bool.false_eq_true, if_false, VPairs.toList, List.cons_append]
    rw [insert_absent sw key val t (by simpa [contains] using h.2)]

theorem insert_keys_present (sw : Sw) (key val : Value) : ∀ (m : VPairs),
    contains sw m key = true → (keys (insert sw m key val)) = keys m
  | .nil, h => by simp [contains, VPairs.any] at h
  | .cons k v t, h => by
    simp only [contains, VPairs.any, Bool.or_eq_true] at h
    simp only [insert]
    cases hk : veq sw k key
    · simp only [Bool.false_eq_true, if_false, keys]
      rw [insert_keys_present sw key val t (by simpa [contains, hk] using h)]
    · simp [keys]

theorem remove_toList (sw : Sw) (key : Value) : ∀ (m : VPairs),
    (remove sw m key).toList = m.toList.filter (fun e => keeps sw e.1 key)
  | .nil => rfl
  | .cons k v t => by
    simp only [remove, VPairs.toList, List.filter_cons]
    cases h : keeps sw k key <;> simp [VPairs.toList, remove_toList sw key t]

theorem contains_remove (sw : Sw) (m : VPairs) (key : Value)
    (h : ∀ e ∈ m.toList, keeps sw e.1 key = !(veq sw e.1 key)) :
    contains sw (remove sw m key) key = false := by
  rw [contains_eq_any, remove_toList, List.any_eq_false]
  intro e he
  obtain ⟨hm, hk⟩ := List.mem_filter.1 he
  rw [h e hm] at hk
  simpa using hk

theorem distinctKeys_iff (sw : Sw) : ∀ (m : VPairs),
    distinctKeys sw m = true ↔ (m.toList.map (·.1)).Pairwise (fun a b => veq sw a b = false)
  | .nil => by simp [distinctKeys, VPairs.toList]
  | .cons k v t => by
    rw [distinctKeys_iff_cons, distinctKeys_iff sw t]
    simp [VPairs.toList, List.pairwise_cons]

theorem contains_eq_keys (sw : Sw) (key : Value) (m : VPairs) :
    contains sw m key = (keys m).toList.any (fun k => veq sw k key) := by
  rw [contains_eq_any, keys_toList, List.any_map]; rfl

theorem contains_congr_keys (sw : Sw) (key : Value) (m m' : VPairs) (h : keys m = keys m') :
    contains sw m key = contains sw m' key := by
  rw [contains_eq_keys, contains_eq_keys, h]

theorem insert_keys_absent (sw : Sw) (key val : Value) (m : VPairs) (h : contains sw m key = false) :
    (keys (insert sw m key val)).toList = (keys m).toList ++ [key] := by
  rw [keys_toList, insert_absent sw key val m h, keys_toList]; simp

theorem contains_insert_absent (sw : Sw) (key val k' : Value) (m : VPairs)
    (h : contains sw m key = false) :
    contains sw (insert sw m key val) k' = (contains sw m k' || veq sw key k') := by
  rw [contains_eq_keys, insert_keys_absent sw key val m h, contains_eq_keys]
  simp [List.any_append]

theorem distinct_insert (sw : Sw) (key val : Value) (m : VPairs) (h : distinctKeys sw m = true) :
    distinctKeys sw (insert sw m key val) = true := by
  cases hc : contains sw m key
  · rw [distinctKeys_iff] at h ⊢
    rw [← keys_toList, insert_keys_absent sw key val m hc, List.pairwise_append]
    rw [← keys_toList] at h
    refine ⟨h, by simp, ?_⟩
    intro a ha b hb
    simp only [List.mem_singleton] at hb
    subst hb
    rw [contains_eq_keys, List.any_eq_false] at hc
    simpa using hc a ha
  · rw [distinctKeys_iff] at h ⊢
    rw [← keys_toList] at h ⊢
    rw [insert_keys_present sw key val m hc]; exact h

theorem distinct_merge (sw : Sw) : ∀ (b a : VPairs), distinctKeys sw a = true →
    distinctKeys sw (merge sw a b) = true
  | .nil, a, h => by simpa [merge] using h
  | .cons k v t, a, h => by
    simp only [merge]
    exact distinct_merge sw t _ (distinct_insert sw k v a h)

theorem distinct_remove (sw : Sw) (key : Value) (m : VPairs) (h : distinctKeys sw m = true) :
    distinctKeys sw (remove sw m key) = true := by
  rw [distinctKeys_iff] at h ⊢
  rw [remove_toList]
  exact List.Pairwise.sublist (List.Sublist.map _ List.filter_sublist) h

theorem keys_merge (sw : Sw) : ∀ (b a : VPairs), distinctKeys sw b = true →
    (keys (merge sw a b)).toList =
      (keys a).toList ++ (keys b).toList.filter (fun k => !contains sw a k)
  | .nil, a, _ => by simp [merge, keys, VList.toList]
  | .cons k v t, a, h => by
    rw [distinctKeys_iff_cons] at h
    simp only [merge]
    rw [keys_merge sw t (insert sw a k v) h.2]
    simp only [keys, VList.toList, List.filter_cons]
    cases hc : contains sw a k
    · rw [insert_keys_absent sw k v a hc]
      simp only [Bool.not_false, if_true, List.append_assoc, List.singleton_append]
      congr 2
      apply List.filter_congr
      intro k' hk'
      rw [contains_insert_absent sw k v k' a hc]
      rw [keys_toList] at hk'
      obtain ⟨e, he, rfl⟩ := List.mem_map.1 hk'
      rw [h.1 e he]; simp
    · rw [insert_keys_present sw k v a hc]
      simp only [Bool.not_true, Bool.false_eq_true, if_false]
      congr 1
      apply List.filter_congr
      intro k' _
      rw [contains_congr_keys sw k' _ a (insert_keys_present sw k v a hc)]

/-- `visit_map`: with pairwise unequal keys already collected, the literal is rejected exactly
    when some later key equals an earlier one, and otherwise the entries are kept in order. -/
theorem literalFrom_spec (sw : Sw) : ∀ (rest : List (Value × Value)) (acc : VPairs),
    distinctKeys sw acc = true →
    (literalFrom sw acc rest = none ↔
      ¬ ((acc.toList ++ rest).map (·.1)).Pairwise (fun a b => veq sw a b = false)) ∧
    (∀ m, literalFrom sw acc rest = some m → m.toList = acc.toList ++ rest)
  | [], acc, h => by
    rw [distinctKeys_iff] at h
    simp [literalFrom, h]
  | (k, v) :: rest, acc, h => by
    simp only [literalFrom]
    cases hg : get sw acc k with
    | some x =>
      have hc : contains sw acc k = true := by rw [← get_isSome_eq_contains, hg]; rfl
      rw [contains_eq_any, List.any_eq_true] at hc
      obtain ⟨e, he, hek⟩ := hc
      refine ⟨⟨fun _ => ?_, fun _ => rfl⟩, by simp⟩
      intro hp
      rw [List.map_append, List.pairwise_append] at hp
      have := hp.2.2 e.1 (List.mem_map.2 ⟨e, he, rfl⟩) k (by simp)
      rw [hek] at this; exact Bool.noConfusion this
    | none =>
      have hc : contains sw acc k = false := by rw [← get_isSome_eq_contains, hg]; rfl
      have ih := literalFrom_spec sw rest (insert sw acc k v) (distinct_insert sw k v acc h)
      rw [insert_absent sw k v acc hc] at ih
      simpa [List.append_assoc] using ih

end Grass.Value
