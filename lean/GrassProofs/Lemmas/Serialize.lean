import Grass.Serialize
/-
  C05 / C06: the well-formedness scanner (`run`, `N`) and `visit_quoted_string` (`quote`): a closed
  string token that reads back to the original string.
-/
namespace Grass.Serialize

theorem run_append (s : Scan) (a b : Str) :
    run s (a ++ b) = (run s a).bind (fun s' => run s' b) := by
  induction a generalizing s with
  | nil => simp [run]
  | cons c cs ih =>
    simp only [List.cons_append, run]
    cases h : step s c with
    | none => simp
    | some s' => simp [ih]

/-- `N x`: the scanner reads `x` from "normal" back to "normal" at any depth, depth unchanged. -/
def N (x : Str) : Prop := ∀ d, run ⟨.normal, d⟩ x = some ⟨.normal, d⟩

theorem N_nil : N [] := fun _ => rfl

theorem N_append {a b : Str} (ha : N a) (hb : N b) : N (a ++ b) := by
  intro d; rw [run_append, ha d]; simp [hb d]

/-- Only `stepNormal` looks at the depth, and only to refuse a `}` at depth 0. -/
theorem stepNormal_shift {d d' k : Nat} {c : Char} {m' : Mode} (h : stepNormal d c = some ⟨m', d'⟩) :
    stepNormal (d + k) c = some ⟨m', d' + k⟩ := by
  unfold stepNormal at h ⊢
  by_cases hc : c = '}'
  · subst hc
    have hd : d ≠ 0 := by intro e; subst e; cases h
    simp [hd] at h ⊢
    exact ⟨h.1, by omega⟩
  · simp only [hc, if_false] at h ⊢
    repeat' split at h
    all_goals cases h
    all_goals simp [*]
    omega

theorem step_shift (m m' : Mode) (d d' k : Nat) (c : Char)
    (h : step ⟨m, d⟩ c = some ⟨m', d'⟩) : step ⟨m, d + k⟩ c = some ⟨m', d' + k⟩ := by
  cases m <;> simp only [step] at h ⊢
  case normal => exact stepNormal_shift h
  case slash =>
    by_cases hc : c = '*'
    · simp_all
    · simp only [hc, if_false] at h ⊢
      exact stepNormal_shift h
  all_goals (repeat' split at h) <;> simp_all

theorem run_shift (x : Str) (m m' : Mode) (d d' k : Nat)
    (h : run ⟨m, d⟩ x = some ⟨m', d'⟩) : run ⟨m, d + k⟩ x = some ⟨m', d' + k⟩ := by
  induction x generalizing m d with
  | nil => simp [run] at h ⊢; obtain ⟨h1, h2⟩ := h; subst h1; subst h2; exact ⟨rfl, rfl⟩
  | cons c cs ih =>
    simp only [run] at h ⊢
    cases hs : step ⟨m, d⟩ c with
    | none => simp [hs] at h
    | some s' =>
      obtain ⟨m1, d1⟩ := s'
      rw [hs] at h
      rw [step_shift m m1 d d1 k c hs]
      exact ih m1 d1 h

theorem N_of_neutral {x : Str} (h : neutral x = true) : N x := by
  intro d
  have := run_shift x .normal .normal 0 0 d (by simpa [neutral] using h)
  simpa using this


theorem quoteFlags_spec (s : Str) (hs hd r : Bool) (h : quoteFlags hs hd s = some r)
    (h0 : (hs && hd) = false) :
    r = (hd || s.contains '"') ∧ ((hs || s.contains '\'') && r) = false := by
  induction s generalizing hs hd with
  | nil => simp [quoteFlags] at h; subst h; simp_all
  | cons c cs ih =>
    simp only [quoteFlags] at h
    by_cases h1 : c = '\''
    · subst h1
      simp at h
      obtain ⟨hdf, h⟩ := h
      have := ih true hd h (by simp [hdf])
      simp_all
    · by_cases h2 : c = '"'
      · subst h2
        simp at h
        obtain ⟨hsf, h⟩ := h
        have := ih hs true h (by simp [hsf])
        simp_all
      · simp [h1, h2] at h
        have := ih hs hd h h0
        have e1 : ('"' == c) = false := by simp; exact fun h => h2 h.symm
        have e2 : ('\'' == c) = false := by simp; exact fun h => h1 h.symm
        simp only [List.contains_cons, e1, e2, Bool.false_or]
        exact this


theorem hexCharFor_plain : ∀ n, n < 16 →
    hexCharFor n ≠ '"' ∧ hexCharFor n ≠ '\'' ∧ hexCharFor n ≠ '\\' ∧ hexCharFor n ≠ '\n' ∧
    isEscapedControl (hexCharFor n) = false := by decide +kernel

theorem hexCharFor_digit : ∀ n, n < 16 →
    isAsciiHexDigit (hexCharFor n) = true ∧ hexVal (hexCharFor n) = n := by decide +kernel

theorem ctl_lt (c : Char) (h : isEscapedControl c = true) : c.toNat < 32 := by
  simp [isEscapedControl] at h; omega

theorem ec_sp : isEscapedControl ' ' = false := by decide
theorem ec_dq : isEscapedControl '"' = false := by decide
theorem ec_sq : isEscapedControl '\'' = false := by decide
theorem ec_bs : isEscapedControl '\\' = false := by decide

def isQuoteChar (q : Char) : Prop := q = '"' ∨ q = '\''

theorem quotedBodyOk_escChar (q : Char) (hq : isQuoteChar q) (force : Bool) (c : Char) (next : Option Char)
    (rest : Str) (hc : c = q → force = true ∧ q = '"') :
    quotedBodyOk q false (escChar force c next ++ rest) = quotedBodyOk q false rest := by
  have hqc : ∀ x, x ≠ '"' → x ≠ '\'' → x ≠ q := by
    intro x a b; rcases hq with h | h <;> subst h <;> assumption
  fun_cases escChar force c next
  case case1 h1 =>
    subst h1
    have : q ≠ '\'' := by
      intro hh; have := hc hh.symm; rw [this.2] at hh; exact absurd hh (by decide)
    have hq' : q = '"' := by rcases hq with h | h; exact h; exact absurd h this
    subst hq'
    simp [quotedBodyOk, ec_sq]
  case case2 => simp [quotedBodyOk, ec_dq]
  case case3 _ h2 hf =>
    subst h2
    have : q ≠ '"' := by intro hh; exact hf (hc hh.symm).1
    have hq' : q = '\'' := by rcases hq with h | h; exact absurd h this; exact h
    subst hq'
    simp [quotedBodyOk, ec_dq]
  case case4 h3 =>
    have hlt := ctl_lt c h3
    have f1 := hexCharFor_plain (c.toNat / 16) (by omega)
    have f2 := hexCharFor_plain (c.toNat % 16) (by omega)
    have g1 := hqc _ f1.1 f1.2.1
    have g2 := hqc _ f2.1 f2.2.1
    have gs : (' ' : Char) ≠ q := hqc _ (by decide) (by decide)
    simp only [controlEscape]
    by_cases h16 : c.toNat > 15 <;> cases next with
    | none => simp [quotedBodyOk, h16, f1, f2, g2]
    | some n =>
      by_cases hn : (isAsciiHexDigit n || n = ' ' || n = '\t') = true
      · simp [quotedBodyOk, h16, f1, f2, g2, hn, gs, ec_sp]
      · simp [quotedBodyOk, h16, f1, f2, g2, hn]
  case case5 _ _ _ h4 => subst h4; simp [quotedBodyOk, ec_bs]
  case case6 h1 h2 h3 h4 => simp [quotedBodyOk, h3, h4, hqc c h2 h1]

theorem quotedBodyOk_escBody (q : Char) (hq : isQuoteChar q) (force : Bool) (s : Str)
    (hs : ∀ c ∈ s, c = q → force = true ∧ q = '"') (rest : Str) :
    quotedBodyOk q false (escBody force s ++ rest) = quotedBodyOk q false rest := by
  induction s with
  | nil => simp [escBody]
  | cons c cs ih =>
    simp only [escBody, List.append_assoc]
    rw [quotedBodyOk_escChar q hq force c _ _ (hs c (by simp))]
    exact ih (fun c hc => hs c (by simp [hc]))

theorem quotedBodyOk_nil (q : Char) : quotedBodyOk q false [] = true := by simp [quotedBodyOk]

theorem quotedOk_quote (s : Str) : quotedOk (quote s) = true := by
  unfold quote
  cases h : quoteFlags false false s with
  | none =>
    have hb := quotedBodyOk_escBody '"' (Or.inl rfl) true s (fun _ _ _ => ⟨rfl, rfl⟩) []
    simp only [List.append_nil] at hb
    simp [quotedOk, hb, quotedBodyOk_nil, List.getLast?_append]
  | some hd =>
    have sp := quoteFlags_spec s false false hd h rfl
    simp at sp
    cases hd
    · -- no double quote in s: quote is `"`
      have hno : ∀ c ∈ s, c = '"' → false = true ∧ '"' = '"' := by
        intro c hc e; subst e; exact absurd hc (by simpa using sp.1)
      have hb := quotedBodyOk_escBody '"' (Or.inl rfl) false s hno []
      simp only [List.append_nil] at hb
      simp [quotedOk, hb, quotedBodyOk_nil, List.getLast?_append]
    · have hno : ∀ c ∈ s, c = '\'' → false = true ∧ '\'' = '"' := by
        intro c hc e; subst e; exact absurd hc (by simpa using sp.2)
      have hb := quotedBodyOk_escBody '\'' (Or.inr rfl) false s hno []
      simp only [List.append_nil] at hb
      simp [quotedOk, hb, quotedBodyOk_nil, List.getLast?_append]



theorem nl_ctl : isEscapedControl '\n' = true := by decide

theorem run_quotedBody (q : Char) (hq : isQuoteChar q) (b : Str) (esc : Bool) (d : Nat)
    (h : quotedBodyOk q esc b = true) :
    run ⟨if esc then .strEsc q else .str q, d⟩ (b ++ [q]) = some ⟨.normal, d⟩ := by
  have hqb : q ≠ '\\' := by rcases hq with h | h <;> subst h <;> decide
  induction b generalizing esc with
  | nil =>
    cases esc
    · simp [run, step, hqb]
    · simp [quotedBodyOk] at h
  | cons c cs ih =>
    cases esc
    · simp only [quotedBodyOk] at h
      by_cases hc : c = '\\'
      · subst hc
        simp at h
        have := ih true h
        simpa [run, step] using this
      · simp only [hc, if_false] at h
        by_cases hc2 : (c = q ∨ isEscapedControl c = true)
        · simp [hc2] at h
        · have hne : c ≠ q := fun e => hc2 (Or.inl e)
          have hnl : c ≠ '\n' := fun e => hc2 (Or.inr (e ▸ nl_ctl))
          have hh : quotedBodyOk q false cs = true := by
            have : ¬ (c = q ∨ isEscapedControl c = true) := hc2
            simp only [not_or] at this
            simpa [this.1, this.2] using h
          have := ih false hh
          simpa [run, step, hc, hne, hnl] using this
    · simp only [quotedBodyOk, Bool.and_eq_true] at h
      have := ih false h.2
      simpa [run, step] using this

theorem N_of_quotedOk (tok : Str) (h : quotedOk tok = true) : N tok := by
  intro d
  cases tok with
  | nil => simp [quotedOk] at h
  | cons q rest =>
    simp only [quotedOk, Bool.and_eq_true, decide_eq_true_eq, Bool.or_eq_true] at h
    obtain ⟨⟨⟨hq, hl⟩, hlen⟩, hb⟩ := h
    have hq' : isQuoteChar q := hq
    have hrest : rest = rest.dropLast ++ [q] := by
      obtain ⟨ys, hys⟩ := List.getLast?_eq_some_iff.mp hl
      rw [hys, List.dropLast_concat]
    rw [hrest]
    have := run_quotedBody q hq' rest.dropLast false d hb
    rcases hq with e | e <;> subst e <;> simpa [run, step, stepNormal] using this

theorem N_quote (s : Str) : N (quote s) := N_of_quotedOk _ (quotedOk_quote s)



/-! round trip: `unescape (quote s) = some s` -/

def startsSafe : Str → Prop
  | [] => True
  | e :: _ => isAsciiHexDigit e = false ∧ e ≠ ' ' ∧ e ≠ '\t' ∧ e ≠ '\n'

theorem unescapeBody_nil : unescapeBody [] = [] := by simp [unescapeBody, unesc]

theorem unescapeBody_cons_ne (c : Char) (cs : Str) (h : c ≠ '\\') :
    unescapeBody (c :: cs) = c :: unescapeBody cs := by cases cs <;> simp [unescapeBody, unesc, h]

theorem unescapeBody_esc_nonhex (d : Char) (ds : Str) (h : isAsciiHexDigit d = false) :
    unescapeBody ('\\' :: d :: ds) = d :: unescapeBody ds := by cases ds <;> simp [unescapeBody, unesc, h]

theorem unescapeBody_esc_hex (d : Char) (ds : Str) (h : isAsciiHexDigit d = true) :
    unescapeBody ('\\' :: d :: ds) = hexRun 5 (hexVal d) ds := by cases ds <;> simp [unescapeBody, hexRun, unesc, h]

theorem hexRun_nil (k acc : Nat) : hexRun k acc [] = [Char.ofNat acc] := by simp [hexRun, unesc]

theorem hexRun_hex (k acc : Nat) (c : Char) (cs : Str) (h : isAsciiHexDigit c = true) :
    hexRun (k + 1) acc (c :: cs) = hexRun k (acc * 16 + hexVal c) cs := by cases cs <;> simp [hexRun, unesc, h]

theorem hexRun_stop (k acc : Nat) (r : Str) (h : startsSafe r) :
    hexRun k acc r = Char.ofNat acc :: unescapeBody r := by
  cases r with
  | nil => simp [hexRun, unescapeBody, unesc]
  | cons e r' =>
    obtain ⟨h1, h2, h3, h4⟩ := h
    by_cases hb : e = '\\'
    · subst hb
      cases r' <;> simp [hexRun, unescapeBody, unesc, h1]
    · cases r' <;> simp [hexRun, unescapeBody, unesc, h1, h2, h3, h4, hb]

theorem hexRun_space (k acc : Nat) (r : Str) :
    hexRun k acc (' ' :: r) = Char.ofNat acc :: unescapeBody r := by
  have : isAsciiHexDigit ' ' = false := by decide
  cases r <;> simp [hexRun, unescapeBody, unesc, this]

theorem hx_sq : isAsciiHexDigit '\'' = false := by decide
theorem hx_dq : isAsciiHexDigit '"' = false := by decide
theorem hx_bs : isAsciiHexDigit '\\' = false := by decide

/-- The separating space of `controlEscape`. -/
def ctlSpace (next : Option Char) : Str :=
  match next with
  | some n => if isAsciiHexDigit n || n = ' ' || n = '\t' then [' '] else []
  | none => []

theorem controlEscape_eq (c : Char) (next : Option Char) :
    controlEscape c next =
      '\\' :: ((if c.toNat > 0xF then [hexCharFor (c.toNat / 16)] else []) ++ hexCharFor (c.toNat % 16) :: ctlSpace next) := by
  cases next <;> simp [controlEscape, ctlSpace]

theorem escBody_startsSafe (force : Bool) (d : Char) (cs : Str)
    (h : (isAsciiHexDigit d || d = ' ' || d = '\t') = false) :
    startsSafe (escBody force (d :: cs)) := by
  simp only [Bool.or_eq_false_iff, decide_eq_false_iff_not] at h
  obtain ⟨⟨h1, h2⟩, h3⟩ := h
  simp only [escBody]
  fun_cases escChar force d cs.head?
  case case1 => simp [startsSafe, hx_sq]
  case case2 => simp [startsSafe, hx_bs]
  case case3 => simp [startsSafe, hx_dq]
  case case4 => simp [controlEscape_eq, startsSafe, hx_bs]
  case case5 => simp [startsSafe, hx_bs]
  case case6 _ _ c _ =>
    have : d ≠ '\n' := fun x => c (x ▸ nl_ctl)
    simp [startsSafe, h1, h2, h3, this]

theorem char_ofNat_split (c : Char) : Char.ofNat (c.toNat / 16 * 16 + c.toNat % 16) = c := by
  have : c.toNat / 16 * 16 + c.toNat % 16 = c.toNat := by omega
  rw [this]; exact Char.ofNat_toNat c

theorem sq_ne_bs : ('\'' : Char) ≠ '\\' := by decide
theorem dq_ne_bs : ('"' : Char) ≠ '\\' := by decide

theorem unescapeBody_escBody (force : Bool) (s : Str) : unescapeBody (escBody force s) = s := by
  induction s with
  | nil => simp [escBody, unescapeBody_nil]
  | cons c cs ih =>
    simp only [escBody]
    fun_cases escChar force c cs.head?
    case case1 a => subst a; rw [List.singleton_append, unescapeBody_cons_ne _ _ sq_ne_bs, ih]
    case case2 _ b _ => subst b; rw [List.cons_append, List.singleton_append, unescapeBody_esc_nonhex _ _ hx_dq, ih]
    case case3 _ b _ => subst b; rw [List.singleton_append, unescapeBody_cons_ne _ _ dq_ne_bs, ih]
    case case4 ct =>
      have hlt := ctl_lt c ct
      have f1 := hexCharFor_digit (c.toNat / 16) (by omega)
      have f2 := hexCharFor_digit (c.toNat % 16) (by omega)
      -- after the digits: the separating space, if any, is swallowed and the rest is read as before
      have tail : ∀ (k acc : Nat),
          hexRun k acc (ctlSpace cs.head? ++ escBody force cs) = Char.ofNat acc :: cs := by
        intro k acc
        cases cs with
        | nil => simp [escBody, hexRun_nil, ctlSpace]
        | cons n cs' =>
          by_cases hn : (isAsciiHexDigit n || n = ' ' || n = '\t') = true
          · simp only [ctlSpace, List.head?_cons, hn, if_true, List.singleton_append]
            rw [hexRun_space, ih]
          · have hn' : (isAsciiHexDigit n || n = ' ' || n = '\t') = false := by simpa using hn
            simp only [ctlSpace, List.head?_cons, hn', Bool.false_eq_true, if_false, List.nil_append]
            rw [hexRun_stop _ _ _ (escBody_startsSafe force n cs' hn'), ih]
      rw [controlEscape_eq]
      by_cases h16 : c.toNat > 15
      · simp only [h16, if_true, List.cons_append, List.nil_append]
        rw [unescapeBody_esc_hex _ _ f1.1, hexRun_hex _ _ _ _ f2.1, tail, f1.2, f2.2, char_ofNat_split]
      · simp only [h16, if_false, List.cons_append, List.nil_append]
        rw [unescapeBody_esc_hex _ _ f2.1, tail, f2.2]
        have : c.toNat % 16 = c.toNat := by omega
        rw [this, Char.ofNat_toNat]
    case case5 _ _ _ e => subst e; rw [List.cons_append, List.singleton_append, unescapeBody_esc_nonhex _ _ hx_bs, ih]
    case case6 _ _ _ e => rw [List.singleton_append, unescapeBody_cons_ne _ _ e, ih]

end Grass.Serialize
