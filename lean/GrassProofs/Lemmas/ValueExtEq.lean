import Grass.Value
import GrassProofs.Lemmas.ValueExt
/-
  Helper lemmas for C09, extended universe: `xeq sw a b = veq sw (enc a) (enc b)` (`enc_eq`) and
  the transfer of the guards along `enc` (`guards_enc`).
-/
namespace Grass.Value

theorem veq_leaf_atom (sw : Sw) (t : List Char) (r : VList) {v : Value} (h : lview v = none) :
    veq sw (leaf t r) v = false ∧ veq sw v (leaf t r) = false := by
  cases v <;> simp [leaf, veq, lview] at h ⊢

theorem veq_encNum_leaf (sw : Sw) (n : Num) (u : XU) (t : List Char) (r : VList) (h : t ≠ ['u']) :
    veq sw (encNum n u) (leaf t r) = false ∧ veq sw (leaf t r) (encNum n u) = false := by
  rcases encNum_shape n u with ⟨a, e⟩ | ⟨r', e⟩
  · rw [e]; exact (veq_leaf_atom sw t r rfl).symm
  · rw [e]; exact ⟨veq_leaf_leaf_ne sw _ _ _ _ (fun e => h e.symm), veq_leaf_leaf_ne sw _ _ _ _ h⟩

theorem veq_encNum_atom (sw : Sw) (n : Num) (u : XU) {v : Value} (h : lview v = none)
    (hn : ∀ m a, v ≠ .num m a) :
    veq sw (encNum n u) v = false ∧ veq sw v (encNum n u) = false := by
  rcases encNum_shape n u with ⟨a, e⟩ | ⟨r, e⟩
  · rw [e]; cases v <;> simp [veq] at hn ⊢
  · rw [e]; exact veq_leaf_atom sw _ r h

theorem veq_encNum_list (sw : Sw) (n : Num) (u : XU) (es : XVList) (sp : Sep) (br : Bool) :
    veq sw (encNum n u) (.list (encL es) sp br) = false ∧ veq sw (.list (encL es) sp br) (encNum n u) = false := by
  rcases encNum_shape n u with ⟨a, e⟩ | ⟨r', e⟩
  · rw [e]; simp [veq]
  · rw [e]; exact veq_leaf_list sw _ isTag_u _ _ _ _

theorem veq_encNum_arglist (sw : Sw) (n : Num) (u : XU) (es : VList) (kw : VPairs) (sp : Sep) :
    veq sw (encNum n u) (.arglist es kw sp) = false ∧ veq sw (.arglist es kw sp) (encNum n u) = false := by
  rcases encNum_shape n u with ⟨a, e⟩ | ⟨r', e⟩
  · rw [e]; simp [veq]
  · rw [e]; exact veq_leaf_arglist sw _ _ _ _ _

/- In each row the columns are: null, bool, num, str, color, calc, fn, list, map, arglist; a
   calculation and a function reference are both leaves once `enc` is unfolded. -/
mutual
  theorem enc_eq (sw : Sw) : ∀ (a b : XV), veq sw (enc a) (enc b) = xeq sw a b
    | .null, b | .bool _, b | .str _ _, b | .color .., b => by
      cases b <;> simp only [enc, encFn_eq_leaf, xeq, veq, List.cons.injEq, true_and]
      · exact (veq_encNum_atom sw _ _ rfl (by simp)).2
      · exact (veq_leaf_atom sw _ _ rfl).2
      · exact (veq_leaf_atom sw _ _ rfl).2
    | .num n u, b => by
      cases b <;> simp only [enc, encFn_eq_leaf, xeq]
      · exact (veq_encNum_atom sw _ _ rfl (by simp)).1
      · exact (veq_encNum_atom sw _ _ rfl (by simp)).1
      · exact encNum_eq sw _ _ _ _
      · exact (veq_encNum_atom sw _ _ rfl (by simp)).1
      · exact (veq_encNum_atom sw _ _ rfl (by simp)).1
      · exact (veq_encNum_leaf sw _ _ _ _ (by simp)).1
      · exact (veq_encNum_leaf sw _ _ _ _ (fnTag_ne_u _)).1
      · exact (veq_encNum_list sw _ _ _ _ _).1
      · exact (veq_encNum_atom sw _ _ rfl (by simp)).1
      · exact (veq_encNum_arglist sw _ _ _ _ _).1
    | .calc nm as, b => by
      cases b <;> simp only [enc, encFn_eq_leaf, xeq]
      · exact (veq_leaf_atom sw _ _ rfl).1
      · exact (veq_leaf_atom sw _ _ rfl).1
      · exact (veq_encNum_leaf sw _ _ _ _ (by simp)).2
      · exact (veq_leaf_atom sw _ _ rfl).1
      · exact (veq_leaf_atom sw _ _ rfl).1
      · simp [leaf, veq, veqL, nameTag_eq_iff, encCs_eq]
      · exact veq_leaf_leaf_ne sw _ _ _ _ (fnTag_ne_c _).symm
      · exact (veq_leaf_list sw _ isTag_c _ _ _ _).1
      · exact (veq_leaf_atom sw _ _ rfl).1
      · exact (veq_leaf_arglist sw _ _ _ _ _).1
    | .fn f, b => by
      cases b <;> simp only [enc, xeq]
      case fn g => exact encFn_eq sw f g
      all_goals rw [encFn_eq_leaf]
      · exact (veq_leaf_atom sw _ _ rfl).1
      · exact (veq_leaf_atom sw _ _ rfl).1
      · exact (veq_encNum_leaf sw _ _ _ _ (fnTag_ne_u _)).2
      · exact (veq_leaf_atom sw _ _ rfl).1
      · exact (veq_leaf_atom sw _ _ rfl).1
      · exact veq_leaf_leaf_ne sw _ _ _ _ (fnTag_ne_c _)
      · exact (veq_leaf_list sw _ (isTag_fnTag _) _ _ _ _).1
      · exact (veq_leaf_atom sw _ _ rfl).1
      · exact (veq_leaf_arglist sw _ _ _ _ _).1
    | .list l1 _ _, b => by
      cases b <;> simp only [enc, encFn_eq_leaf, xeq, veq, encL_eq sw l1]
      · exact (veq_encNum_list sw _ _ _ _ _).2
      · exact (veq_leaf_list sw _ isTag_c _ _ _ _).2
      · exact (veq_leaf_list sw _ (isTag_fnTag _) _ _ _ _).2
    | .map p1, b => by
      cases b <;> simp only [enc, encFn_eq_leaf, xeq, veq, encP_length, encSub_eq sw p1]
      · exact (veq_encNum_atom sw _ _ rfl (by simp)).2
      · exact (veq_leaf_atom sw _ _ rfl).2
      · exact (veq_leaf_atom sw _ _ rfl).2
    | .arglist l1 k1 _, b => by
      cases b <;> simp only [enc, encFn_eq_leaf, xeq, veq, encL_eq sw l1, encKw_eq sw k1]
      · exact (veq_encNum_arglist sw _ _ _ _ _).2
      · exact (veq_leaf_arglist sw _ _ _ _ _).2
      · exact (veq_leaf_arglist sw _ _ _ _ _).2
  termination_by structural a => a
  theorem encL_eq (sw : Sw) : ∀ (l1 l2 : XVList), veqL sw (encL l1) (encL l2) = xeqL sw l1 l2
    | .nil, l2 => by cases l2 <;> simp [encL, veqL, xeqL]
    | .cons a t, l2 => by
      cases l2
      · simp [encL, veqL, xeqL]
      · rename_i b u; simp only [encL, veqL, xeqL, enc_eq sw a b, encL_eq sw t u]
  termination_by structural l1 => l1
  theorem encKw_eq (sw : Sw) : ∀ (k1 k2 : XVPairs), veqKw sw (encP k1) (encP k2) = xeqKw sw k1 k2
    | .nil, k2 => by cases k2 <;> simp [encP, veqKw, xeqKw]
    | .cons k v t, k2 => by
      cases k2
      · simp [encP, veqKw, xeqKw]
      · rename_i k' v' u
        simp only [encP, veqKw, xeqKw, enc_eq sw k k', enc_eq sw v v', encKw_eq sw t u]
  termination_by structural k1 => k1
  theorem encSub_eq (sw : Sw) : ∀ (p q : XVPairs), subP sw (encP p) (encP q) = xsubP sw p q
    | .nil, q => by simp [encP, subP, xsubP]
    | .cons k v t, q => by
      simp only [encP, subP, xsubP, encSub_eq sw t q]
      rw [any_enc _ (fun k2 v2 => xeq sw k k2 && xeq sw v v2)
        (fun k2 v2 => by rw [enc_eq sw k k2, enc_eq sw v v2]) q]
  termination_by structural p => p
end

/-! ### the guards along `enc`: it adds only strings, NaN-free numbers and lists of those -/

theorem guards_encUs (sw : Sw) : ∀ (l : List U),
    noNaNL (encUs l) = true ∧ inRangeL (encUs l) = true ∧ mapWfL sw (encUs l) = true
  | [] => ⟨rfl, rfl, rfl⟩
  | _ :: t => by simp [encUs, encU, noNaNL, noNaN, inRangeL, inRange, mapWfL, mapWf, guards_encUs sw t]

theorem guards_encNum (sw : Sw) (n : Num) (u : XU) :
    noNaN (encNum n u) = !n.isNaN ∧ inRange (encNum n u) = true ∧ mapWf sw (encNum n u) = true := by
  cases u <;> simp [encNum, leaf, noNaN, noNaNL, inRange, inRangeL, mapWf, mapWfL, guards_encUs sw]

theorem guards_encFn (sw : Sw) (f : FnRef) :
    noNaN (encFn f) = true ∧ inRange (encFn f) = true ∧ mapWf sw (encFn f) = true := by
  cases f <;> simp [encFn, leaf, noNaN, noNaNL, inRange, inRangeL, mapWf, mapWfL]

mutual
  theorem guards_encC (sw : Sw) : ∀ (a : CArg),
      noNaN (encC a) = cargNoNaN a ∧ inRange (encC a) = true ∧ mapWf sw (encC a) = true
    | .number n u => by simp only [encC, cargNoNaN]; exact guards_encNum sw n u
    | .calc _ as => by
      simp [encC, cargNoNaN, noNaN, noNaNL, inRange, inRangeL, mapWf, mapWfL, guards_encCs sw as]
    | .str _ | .interp _ => by simp [encC, cargNoNaN, noNaN, inRange, mapWf]
    | .op l _ r => by
      simp [encC, cargNoNaN, noNaN, noNaNL, inRange, inRangeL, mapWf, mapWfL, guards_encC sw l,
        guards_encC sw r]
  theorem guards_encCs (sw : Sw) : ∀ (as : CArgs),
      noNaNL (encCs as) = cargsNoNaN as ∧ inRangeL (encCs as) = true ∧ mapWfL sw (encCs as) = true
    | .nil => by simp [encCs, cargsNoNaN, noNaNL, inRangeL, mapWfL]
    | .cons a t => by
      simp [encCs, cargsNoNaN, noNaNL, inRangeL, mapWfL, guards_encC sw a, guards_encCs sw t]
end

theorem noNaN_encC : ∀ (a : CArg), noNaN (encC a) = cargNoNaN a := fun a => (guards_encC .now a).1

theorem inRange_encC : ∀ (a : CArg), inRange (encC a) = true := fun a => (guards_encC .now a).2.1

theorem mapWf_encC (sw : Sw) : ∀ (a : CArg), mapWf sw (encC a) = true := fun a => (guards_encC sw a).2.2

theorem inRange_leaf_strs (t : List Char) (r : VList) (h : inRangeL r = true) : inRange (leaf t r) = true := by
  simp [leaf, inRange, inRangeL, h]

theorem distinctKeys_encP (sw : Sw) : ∀ (p : XVPairs), distinctKeys sw (encP p) = xdistinctKeys sw p
  | .nil => by simp [encP, distinctKeys, xdistinctKeys]
  | .cons k v t => by
    simp only [encP, distinctKeys, xdistinctKeys, distinctKeys_encP sw t]
    rw [any_enc (fun k2 _ => veq sw (enc k) k2) (fun k2 _ => xeq sw k k2) (fun k2 _ => enc_eq sw k k2) t]

mutual
  theorem guards_enc (sw : Sw) : ∀ (a : XV),
      noNaN (enc a) = xnoNaN a ∧ inRange (enc a) = xinRange a ∧ mapWf sw (enc a) = xmapWf sw a
    | .null | .bool _ | .str _ _ | .color .. => by
      simp [enc, noNaN, xnoNaN, inRange, xinRange, mapWf, xmapWf]
    | .num n u => by simp only [enc, xnoNaN, xinRange, xmapWf]; exact guards_encNum sw n u
    | .calc _ as => by
      simp [enc, leaf, noNaN, noNaNL, xnoNaN, inRange, inRangeL, xinRange, mapWf, mapWfL, xmapWf,
        guards_encCs sw as]
    | .fn f => by simp only [enc, xnoNaN, xinRange, xmapWf]; exact guards_encFn sw f
    | .list es _ _ => by
      simp only [enc, noNaN, xnoNaN, inRange, xinRange, mapWf, xmapWf]; exact guards_encL sw es
    | .map ps => by
      simp only [enc, noNaN, xnoNaN, inRange, xinRange, mapWf, xmapWf, distinctKeys_encP,
        guards_encP sw ps, and_self]
    | .arglist es kw _ => by
      simp only [enc, noNaN, xnoNaN, inRange, xinRange, mapWf, xmapWf, guards_encL sw es,
        guards_encP sw kw, and_self]
  theorem guards_encL (sw : Sw) : ∀ (l : XVList),
      noNaNL (encL l) = xnoNaNL l ∧ inRangeL (encL l) = xinRangeL l ∧ mapWfL sw (encL l) = xmapWfL sw l
    | .nil => by simp [encL, noNaNL, xnoNaNL, inRangeL, xinRangeL, mapWfL, xmapWfL]
    | .cons v t => by
      simp only [encL, noNaNL, xnoNaNL, inRangeL, xinRangeL, mapWfL, xmapWfL, guards_enc sw v,
        guards_encL sw t, and_self]
  theorem guards_encP (sw : Sw) : ∀ (p : XVPairs),
      noNaNP (encP p) = xnoNaNP p ∧ inRangeP (encP p) = xinRangeP p ∧ mapWfP sw (encP p) = xmapWfP sw p
    | .nil => by simp [encP, noNaNP, xnoNaNP, inRangeP, xinRangeP, mapWfP, xmapWfP]
    | .cons k v t => by
      simp only [encP, noNaNP, xnoNaNP, inRangeP, xinRangeP, mapWfP, xmapWfP, guards_enc sw k,
        guards_enc sw v, guards_encP sw t, and_self]
end

theorem noNaN_enc (a : XV) : noNaN (enc a) = xnoNaN a := (guards_enc .now a).1

theorem inRange_enc (a : XV) : inRange (enc a) = xinRange a := (guards_enc .now a).2.1

theorem mapWf_enc (sw : Sw) (a : XV) : mapWf sw (enc a) = xmapWf sw a := (guards_enc sw a).2.2

theorem noNaN_encL : ∀ (l : XVList), noNaNL (encL l) = xnoNaNL l := fun l => (guards_encL .now l).1

theorem noNaN_encP : ∀ (p : XVPairs), noNaNP (encP p) = xnoNaNP p := fun p => (guards_encP .now p).1

theorem inRange_encL : ∀ (l : XVList), inRangeL (encL l) = xinRangeL l := fun l => (guards_encL .now l).2.1

theorem inRange_encP : ∀ (p : XVPairs), inRangeP (encP p) = xinRangeP p := fun p => (guards_encP .now p).2.1

theorem mapWf_encL (sw : Sw) : ∀ (l : XVList), mapWfL sw (encL l) = xmapWfL sw l := fun l => (guards_encL sw l).2.2

theorem mapWf_encP (sw : Sw) : ∀ (p : XVPairs), mapWfP sw (encP p) = xmapWfP sw p := fun p => (guards_encP sw p).2.2

end Grass.Value
