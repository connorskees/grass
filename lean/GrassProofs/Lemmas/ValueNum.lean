import Grass.Value
/-
  Numbers for C09.  The fuzzy comparison is equality of buckets; the two tests `SassNumber::eq`
  makes on the units pass exactly for units of one class (`cls`), and then the values are compared
  after scaling into the canonical unit — so `numEq` is equality of a function of each operand,
  hence symmetric and transitive.
-/
namespace Grass.Value

/-! ### the fuzzy comparison -/

theorem round_near (x : Rat) : x - 1/2 ≤ roundHalfAway x ∧ (roundHalfAway x : Rat) ≤ x + 1/2 := by
  unfold roundHalfAway
  split
  · have h1 := Rat.floor_le (x + 1/2)
    have h2 := Rat.lt_floor_add_one (x + 1/2)
    grind
  · have h1 := Rat.floor_le (-x + 1/2)
    have h2 := Rat.lt_floor_add_one (-x + 1/2)
    rw [Rat.intCast_neg]
    grind

theorem abs_le_of (x e : Rat) (h1 : x ≤ e) (h2 : -x ≤ e) : x.abs ≤ e := by
  unfold Rat.abs; split <;> grind

/-- The bucket of a finite value: `(a * inverse_epsilon()).round()`. -/
def bucket (a : Rat) : Int := roundHalfAway (a * inverseEpsilon)

/-- the `|a-b| <= eps` conjunct of `fuzzy_equals` is implied: two values in one bucket are each
    within half a bucket of its centre -/
theorem fuzzyEq_iff (a b : Rat) : fuzzyEq a b = true ↔ bucket a = bucket b := by
  unfold fuzzyEq bucket
  simp only [Bool.or_eq_true, Bool.and_eq_true, decide_eq_true_eq]
  constructor
  · rintro (h | h)
    · rw [h]
    · exact h.2
  · intro h
    have ha := round_near (a * inverseEpsilon)
    have hb := round_near (b * inverseEpsilon)
    rw [h] at ha
    unfold inverseEpsilon at ha hb
    refine .inr ⟨?_, h⟩
    unfold epsilon
    apply abs_le_of <;> grind

theorem fuzzyEq_refl (a : Rat) : fuzzyEq a a = true := by simp [fuzzyEq]

theorem fuzzyEq_symm (a b : Rat) (h : fuzzyEq a b = true) : fuzzyEq b a = true := by
  rw [fuzzyEq_iff] at *; exact h.symm

theorem fuzzyEq_trans (a b c : Rat) (h1 : fuzzyEq a b = true) (h2 : fuzzyEq b c = true) :
    fuzzyEq a c = true := by
  rw [fuzzyEq_iff] at *; exact h1.trans h2

theorem fuzzyN_refl (n : Num) (h : n.isNaN = false) : fuzzyN n n = true := by
  cases n <;> simp_all [fuzzyN, Num.isNaN, fuzzyEq_refl]

theorem fuzzyN_symm (a b : Num) (h : fuzzyN a b = true) : fuzzyN b a = true := by
  cases a <;> cases b <;> simp_all [fuzzyN]
  exact fuzzyEq_symm _ _ h

theorem fuzzyN_trans (a b c : Num) (h1 : fuzzyN a b = true) (h2 : fuzzyN b c = true) :
    fuzzyN a c = true := by
  cases a <;> cases b <;> cases c <;> simp_all [fuzzyN]
  exact fuzzyEq_trans _ _ _ h1 h2

theorem fuzzyN_of_isNaN {a b : Num} (h : a.isNaN = true ∨ b.isNaN = true) : fuzzyN a b = false := by
  cases a <;> cases b <;> simp [Num.isNaN] at h <;> rfl

theorem scale_isNaN (n : Num) (f : Rat) : (n.scale f).isNaN = n.isNaN := by
  cases n <;> simp [Num.scale, Num.isNaN]

theorem scale_one (n : Num) : n.scale 1 = n := by cases n <;> simp [Num.scale]

theorem conv_self (n : Num) (u : U) : conv n u u = n := by simp [conv]

theorem conv_isNaN (n : Num) (a b : U) : (conv n a b).isNaN = n.isNaN := by
  unfold conv
  split
  · rfl
  · exact scale_isNaN n _

/-! ### units -/

/-- The class of a unit for `==`: the canonical unit of its kind, or the unit itself. -/
def cls (u : U) : U := (u.canonical).getD u

theorem U.kind_eq_none_iff (u : U) : u.kind = .none ↔ u = .none := by
  cases u <;> simp [U.kind]

theorem U.canonical_congr {u v : U} (h : u.kind = v.kind) : u.canonical = v.canonical := by
  unfold U.canonical; rw [h]

theorem U.canonical_some {u c : U} (h : u.canonical = some c) : c.kind = u.kind ∧ c.canonical = some c := by
  unfold U.canonical at h
  cases hk : u.kind <;> simp only [hk, Option.some.injEq, reduceCtorEq] at h <;> subst h <;> exact ⟨rfl, rfl⟩

theorem U.isCanon_iff (u : U) : u.isCanon = true ↔ cls u = u := by
  unfold U.isCanon cls
  cases u.canonical <;> simp [eq_comm]

theorem U.toCanon_of_isCanon {u : U} (h : u.isCanon = true) : u.toCanon = 1 := by
  cases u <;> simp [U.isCanon, U.canonical, U.kind, U.toCanon] at h ⊢

theorem cls_canonical (u : U) : (cls u).canonical = u.canonical := by
  unfold cls
  cases h : u.canonical with
  | none => exact h
  | some c => exact (U.canonical_some h).2

theorem canonical_eq_of_cls_eq {u1 u2 : U} (h : cls u1 = cls u2) : u1.canonical = u2.canonical := by
  rw [← cls_canonical u1, h, cls_canonical]

theorem conv_canonical (n : Num) {u c : U} (h : u.canonical = some c) : conv n u c = n.scale u.toCanon := by
  have hc : c.toCanon = 1 := U.toCanon_of_isCanon (by simp [U.isCanon, (U.canonical_some h).2])
  unfold conv factor
  split
  · rename_i hu
    have : u = c := by
      rcases hu with rfl | rfl | hu
      · cases h
      · cases (U.canonical_some h).2
      · exact hu
    rw [this, hc, scale_one]
  · rw [hc, show u.toCanon / 1 = u.toCanon by grind]

theorem comparable_eq (u1 u2 : U) : comparable u1 u2 =
    (decide (u2 = .none) || decide (u1 = .none) ||
      match u1.canonical with
      | some _ => decide (u2.kind = u1.kind)
      | none => decide (u1 = u2)) := by
  unfold comparable U.canonical
  by_cases h2 : u2 = .none
  · simp [h2]
  · cases hk : u1.kind <;> simp [h2, ← U.kind_eq_none_iff u1, hk]

theorem comparable_refl (u : U) : comparable u u = true := by
  rw [comparable_eq]; cases u.canonical <;> simp

theorem sameClass_iff (u1 u2 : U) :
    (comparable u1 u2 = true ∧ ¬ ((u2 = .none ∨ u1 = .none) ∧ u1 ≠ u2)) ↔ cls u1 = cls u2 := by
  constructor
  · rintro ⟨h1, h2⟩
    by_cases he : u1 = u2
    · rw [he]
    · have hn2 : u2 ≠ .none := fun e => h2 ⟨Or.inl e, he⟩
      have hn1 : u1 ≠ .none := fun e => h2 ⟨Or.inr e, he⟩
      rw [comparable_eq] at h1
      unfold cls
      cases hk : u1.canonical with
      | none => simp [hk, hn1, hn2, he] at h1
      | some c =>
        simp only [hk, hn1, hn2, decide_false, Bool.false_or, decide_eq_true_eq] at h1
        rw [U.canonical_congr h1, hk]; rfl
  · intro h
    have hc := canonical_eq_of_cls_eq h
    unfold cls at h
    cases hk : u1.canonical with
    | none =>
      rw [← hc, hk] at h
      subst h
      exact ⟨comparable_refl _, fun h => h.2 rfl⟩
    | some c =>
      have hn : ∀ u : U, u.canonical = some c → u ≠ .none := by
        rintro _ h rfl; cases h
      refine ⟨?_, fun h => (h.1.elim (hn u2 (hc ▸ hk)) (hn u1 hk)).elim⟩
      rw [comparable_eq, hk]
      simp [← (U.canonical_some hk).1, (U.canonical_some (hc ▸ hk)).1]

/-! ### `SassNumber::eq` -/

theorem numEq_false_or (sw : Sw) (n1 n2 : Num) (u1 u2 : U) : numEq sw n1 u1 n2 u2 = false ∨
    ∃ a b, numEq sw n1 u1 n2 u2 = fuzzyN (conv n1 u1 a) (conv n2 u2 b) := by
  unfold numEq
  split
  · exact .inl rfl
  split
  · exact .inl rfl
  split
  · split
    · exact .inr ⟨_, _, rfl⟩
    · exact .inr ⟨u1, _, by rw [conv_self]⟩
  · exact .inr ⟨u1, _, by rw [conv_self]⟩

theorem numEq_of_isNaN (sw : Sw) {n1 n2 : Num} (u1 u2 : U) (h : n1.isNaN = true ∨ n2.isNaN = true) :
    numEq sw n1 u1 n2 u2 = false := by
  rcases numEq_false_or sw n1 n2 u1 u2 with e | ⟨a, b, e⟩
  · exact e
  · rw [e]; exact fuzzyN_of_isNaN (by rwa [conv_isNaN, conv_isNaN])

theorem numEq_refl (sw : Sw) (n : Num) (u : U) (h : n.isNaN = false) : numEq sw n u n u = true := by
  unfold numEq
  rw [if_neg (by simp [comparable_refl]), if_neg (by simp)]
  split
  · split
    · exact fuzzyN_refl _ (by rw [conv_isNaN, h])
    · rw [conv_self]; exact fuzzyN_refl n h
  · rw [conv_self]; exact fuzzyN_refl n h

theorem numEq_of_cls_ne (sw : Sw) (n1 n2 : Num) {u1 u2 : U} (h : cls u1 ≠ cls u2) :
    numEq sw n1 u1 n2 u2 = false := by
  have := mt (sameClass_iff u1 u2).1 h
  unfold numEq
  split
  · rfl
  · split
    · rfl
    · rename_i h1 h2
      exact absurd ⟨by simpa using h1, h2⟩ this

/-- Numbers whose units are of one class are compared in the canonical unit — provided
    cross-unit comparisons are made there (`canon`) and same-unit comparisons either are too
    (`canonSame`) or occur only at canonical units. -/
theorem numEq_of_cls_eq (sw : Sw) (n1 n2 : Num) {u1 u2 : U} (hc : sw.canon = true)
    (h1 : (sw.canonSame || u1.isCanon) = true) (h2 : (sw.canonSame || u2.isCanon) = true)
    (h : cls u1 = cls u2) :
    numEq sw n1 u1 n2 u2 = fuzzyN (n1.scale u1.toCanon) (n2.scale u2.toCanon) := by
  obtain ⟨g1, g2⟩ := (sameClass_iff u1 u2).2 h
  have hk := canonical_eq_of_cls_eq h
  have same : u1 = u2 → u1.isCanon = true →
      fuzzyN n1 (conv n2 u2 u1) = fuzzyN (n1.scale u1.toCanon) (n2.scale u2.toCanon) := by
    rintro rfl c1
    rw [conv_self, U.toCanon_of_isCanon c1, scale_one, scale_one]
  unfold numEq
  rw [if_neg (by simp [g1]), if_neg g2, hc, if_pos rfl]
  split
  · rename_i c hk1
    split
    · rw [conv_canonical n1 hk1, conv_canonical n2 (hk ▸ hk1)]
    · rename_i hne
      simp only [not_or, Decidable.not_not] at hne
      exact same hne.1 (by simpa [hne.2] using h1)
  · rename_i hk1
    have c1 : u1.isCanon = true := by simp [U.isCanon, hk1]
    have c2 : u2.isCanon = true := by simp [U.isCanon, ← hk, hk1]
    rw [(U.isCanon_iff u1).1 c1, (U.isCanon_iff u2).1 c2] at h
    exact same h c1

theorem numEq_char (sw : Sw) (n1 n2 : Num) (u1 u2 : U) (hc : sw.canon = true)
    (h1 : (sw.canonSame || u1.isCanon) = true) (h2 : (sw.canonSame || u2.isCanon) = true) :
    numEq sw n1 u1 n2 u2 =
      (decide (cls u1 = cls u2) && fuzzyN (n1.scale u1.toCanon) (n2.scale u2.toCanon)) := by
  by_cases h : cls u1 = cls u2
  · simp [h, numEq_of_cls_eq sw n1 n2 hc h1 h2 h]
  · simp [h, numEq_of_cls_ne sw n1 n2 h]

theorem numEq_symm (sw : Sw) (hc : sw.canon = true) (n1 n2 : Num) (u1 u2 : U)
    (h1 : (sw.canonSame || u1.isCanon) = true) (h2 : (sw.canonSame || u2.isCanon) = true)
    (hab : numEq sw n1 u1 n2 u2 = true) : numEq sw n2 u2 n1 u1 = true := by
  rw [numEq_char sw _ _ _ _ hc h1 h2] at hab
  rw [numEq_char sw _ _ _ _ hc h2 h1]
  simp only [Bool.and_eq_true, decide_eq_true_eq] at *
  exact ⟨hab.1.symm, fuzzyN_symm _ _ hab.2⟩

theorem numEq_trans (sw : Sw) (hc : sw.canon = true) (n1 n2 n3 : Num) (u1 u2 u3 : U)
    (h1 : (sw.canonSame || u1.isCanon) = true) (h2 : (sw.canonSame || u2.isCanon) = true)
    (h3 : (sw.canonSame || u3.isCanon) = true)
    (hab : numEq sw n1 u1 n2 u2 = true) (hbc : numEq sw n2 u2 n3 u3 = true) :
    numEq sw n1 u1 n3 u3 = true := by
  rw [numEq_char sw _ _ _ _ hc h1 h2] at hab
  rw [numEq_char sw _ _ _ _ hc h2 h3] at hbc
  rw [numEq_char sw _ _ _ _ hc h1 h3]
  simp only [Bool.and_eq_true, decide_eq_true_eq] at *
  exact ⟨hab.1.trans hbc.1, fuzzyN_trans _ _ _ hab.2 hbc.2⟩

theorem numEq_of_isCanon (sw : Sw) (hc : sw.canon = true) (n1 n2 : Num) {u1 u2 : U}
    (h1 : u1.isCanon = true) (h2 : u2.isCanon = true) :
    numEq sw n1 u1 n2 u2 = (decide (u1 = u2) && fuzzyN n1 n2) := by
  rw [numEq_char sw n1 n2 u1 u2 hc (by simp [h1]) (by simp [h2]), (U.isCanon_iff u1).1 h1,
    (U.isCanon_iff u2).1 h2, U.toCanon_of_isCanon h1, U.toCanon_of_isCanon h2, scale_one, scale_one]

theorem numNotEquals_eq (sw : Sw) (hc : sw.canon = true) (n1 n2 : Num) (u1 u2 : U)
    (h1 : u1.isCanon = true) (h2 : u2.isCanon = true) :
    numNotEquals sw n1 u1 n2 u2 = !(numEq sw n1 u1 n2 u2) := by
  unfold numNotEquals
  split
  · rfl
  rw [numEq_of_isCanon sw hc n1 n2 h1 h2]
  by_cases he : u1 = u2
  · subst he; simp [comparable_refl]
  · -- two distinct such units fail one of the tests `==` makes on the units
    have := mt (sameClass_iff u1 u2).1 (by rwa [(U.isCanon_iff u1).1 h1, (U.isCanon_iff u2).1 h2])
    simp only [he, decide_false, Bool.false_and, Bool.not_false, if_false]
    split
    · rfl
    split
    · rfl
    · rename_i hcmp hn
      exact absurd ⟨by simpa using hcmp, fun h => hn h.1.symm⟩ this

end Grass.Value
