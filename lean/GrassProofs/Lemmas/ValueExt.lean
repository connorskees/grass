import Grass.Value
import GrassProofs.Lemmas.ValueNum
import GrassProofs.Lemmas.ValueEq
import GrassProofs.Lemmas.ValueEquiv
/-
  Helper lemmas for C09: the extended universe `XV` (compound units, calculations, function
  references).

  `enc : XV → Value` embeds it into `Value` in such a way that `xeq sw a b = veq sw (enc a) (enc b)`
  (`enc_eq`, Lemmas/ValueExtEq.lean).  `enc` exists only for the proofs: it lets reflexivity /
  symmetry / transitivity of `xeq` be inherited from the theorems about `veq`.  The leaves `Value`
  lacks become bracketed `undecided` lists headed by a tag string; strings of the universe are
  prefixed with `s`, so a tag (`u`, `c`, `fb`, `fu`, `fp`) never equals the encoding of any value.
-/
namespace Grass.Value

/-! ### an injective rendering of simple units -/

def U.code : U → Nat
  | .px => 1 | .mm => 2 | .inch => 3 | .cm => 4 | .q => 5 | .pt => 6 | .pc => 7
  | .em => 8 | .rem => 9 | .lh => 10 | .ex => 11 | .ch => 12 | .cap => 13 | .ic => 14 | .rlh => 15
  | .vw => 16 | .vh => 17 | .vmin => 18 | .vmax => 19 | .vi => 20 | .vb => 21
  | .deg => 22 | .grad => 23 | .rad => 24 | .turn => 25 | .s => 26 | .ms => 27 | .hz => 28 | .khz => 29
  | .dpi => 30 | .dpcm => 31 | .dppx => 32 | .fr => 33 | .percent => 34 | .none => 35
  | .unknown _ => 0

def U.decode : Nat → U
  | 1 => .px | 2 => .mm | 3 => .inch | 4 => .cm | 5 => .q | 6 => .pt | 7 => .pc
  | 8 => .em | 9 => .rem | 10 => .lh | 11 => .ex | 12 => .ch | 13 => .cap | 14 => .ic | 15 => .rlh
  | 16 => .vw | 17 => .vh | 18 => .vmin | 19 => .vmax | 20 => .vi | 21 => .vb
  | 22 => .deg | 23 => .grad | 24 => .rad | 25 => .turn | 26 => .s | 27 => .ms | 28 => .hz | 29 => .khz
  | 30 => .dpi | 31 => .dpcm | 32 => .dppx | 33 => .fr | 34 => .percent | _ => .none

def U.unk? : U → Option (List Char)
  | .unknown n => some n
  | _ => Option.none

def U.tag (u : U) : List Char :=
  match u.unk? with
  | some n => 'u' :: n
  | Option.none => 'k' :: List.replicate u.code 'x'

theorem U.unk_some (u : U) (n : List Char) (h : u.unk? = some n) : u = .unknown n := by
  cases u <;> simp [U.unk?] at h ⊢; exact h

theorem U.decode_code (u : U) (h : u.unk? = Option.none) : U.decode u.code = u := by
  cases u <;> simp [U.unk?] at h <;> rfl

theorem replicate_inj (n m : Nat) (c : Char) (h : List.replicate n c = List.replicate m c) : n = m := by
  have := congrArg List.length h
  simpa using this

theorem U.tag_inj (a b : U) (h : a.tag = b.tag) : a = b := by
  unfold U.tag at h
  cases ha : a.unk? <;> cases hb : b.unk? <;> simp only [ha, hb] at h
  · have h' := replicate_inj _ _ _ (List.cons.inj h).2
    rw [← U.decode_code a ha, ← U.decode_code b hb, h']
  · simp at h
  · simp at h
  · rename_i n m
    have : n = m := (List.cons.inj h).2
    rw [U.unk_some a n ha, U.unk_some b m hb, this]

theorem U.tag_eq_iff (a b : U) : decide (a.tag = b.tag) = decide (a = b) := by
  by_cases h : a = b
  · simp [h]
  · have : a.tag ≠ b.tag := fun e => h (U.tag_inj a b e)
    simp [h, this]

def natTag (n : Nat) : List Char := List.replicate n 'i'

theorem natTag_eq_iff (n m : Nat) : decide (natTag n = natTag m) = decide (n = m) := by
  by_cases h : n = m
  · simp [h]
  · have : natTag n ≠ natTag m := fun e => h (replicate_inj _ _ _ e)
    simp [h, this]

/-! ### the encoding -/

def encU (u : U) : Value := .str u.tag false

def encUs : List U → VList
  | [] => .nil
  | u :: t => .cons (encU u) (encUs t)

/-- a leaf `Value` lacks: a bracketed `undecided` list headed by a tag string -/
def leaf (t : List Char) (r : VList) : Value := .list (.cons (.str t false) r) .undecided true

def encNum (n : Num) : XU → Value
  | .simple a => .num n a
  | .complex nu de =>
    leaf ['u'] (.cons (.num n .none) (.cons (.list (encUs nu) .comma false)
      (.cons (.list (encUs de) .comma false) .nil)))

def nameTag : CName → List Char
  | .calc => ['c'] | .min => ['m'] | .max => ['M'] | .clamp => ['C']

def opTag : COp → List Char
  | .plus => ['p'] | .minus => ['m'] | .times => ['t'] | .div => ['d']

mutual
  def encC : CArg → Value
    | .number n u => encNum n u
    | .calc nm as => .list (.cons (.str (nameTag nm) false) (encCs as)) .comma true
    | .str s => .str ('S' :: s) false
    | .op l o r => .list (.cons (.str (opTag o) false) (.cons (encC l) (.cons (encC r) .nil))) .space true
    | .interp s => .str ('I' :: s) false
  def encCs : CArgs → VList
    | .nil => .nil
    | .cons a t => .cons (encC a) (encCs t)
end

def encFn : FnRef → Value
  | .builtin id nm => leaf ['f', 'b'] (.cons (.str (natTag id) false) (.cons (.str nm false) .nil))
  | .user nm lo hi => leaf ['f', 'u'] (.cons (.str nm false) (.cons (.str (natTag lo) false)
      (.cons (.str (natTag hi) false) .nil)))
  | .plain nm => leaf ['f', 'p'] (.cons (.str nm false) .nil)

mutual
  def enc : XV → Value
    | .null => .null
    | .bool b => .bool b
    | .num n u => encNum n u
    | .str s q => .str ('s' :: s) q
    | .color r g b a => .color r g b a
    | .calc nm as => leaf ['c'] (.cons (.str (nameTag nm) false) (encCs as))
    | .fn f => encFn f
    | .list es sp br => .list (encL es) sp br
    | .map ps => .map (encP ps)
    | .arglist es kw sp => .arglist (encL es) (encP kw) sp
  def encL : XVList → VList
    | .nil => .nil
    | .cons v t => .cons (enc v) (encL t)
  def encP : XVPairs → VPairs
    | .nil => .nil
    | .cons k v t => .cons (enc k) (enc v) (encP t)
end

/-! ### numbers -/

theorem veqL_encUs (sw : Sw) : ∀ (l1 l2 : List U), veqL sw (encUs l1) (encUs l2) = decide (l1 = l2)
  | [], [] => by simp [encUs, veqL]
  | [], _ :: _ => by simp [encUs, veqL]
  | _ :: _, [] => by simp [encUs, veqL]
  | a :: t, b :: u => by
    simp only [encUs, veqL, encU, veq, veqL_encUs sw t u, U.tag_eq_iff]
    by_cases h1 : a = b <;> by_cases h2 : t = u <;> simp [h1, h2]

theorem numEq_none (sw : Sw) (n1 n2 : Num) : numEq sw n1 .none n2 .none = fuzzyN n1 n2 := by
  cases h : sw.canon <;> simp [numEq, comparable, U.canonical, U.kind, conv, h]

theorem xnumEq_simple_complex (sw : Sw) (n1 n2 : Num) (a : U) (nu de : List U) :
    xnumEq sw n1 (.simple a) n2 (.complex nu de) = false := by
  unfold xnumEq xcomparable
  cases h : a.kind <;> simp [XU.kind, h, ← U.kind_eq_none_iff]

theorem xnumEq_complex_simple (sw : Sw) (n1 n2 : Num) (b : U) (nu de : List U) :
    xnumEq sw n1 (.complex nu de) n2 (.simple b) = false := by
  by_cases h : b = .none <;> simp [xnumEq, xcomparable, XU.kind, h]

theorem xnumEq_complex_complex (sw : Sw) (n1 n2 : Num) (nu1 de1 nu2 de2 : List U) :
    xnumEq sw n1 (.complex nu1 de1) n2 (.complex nu2 de2) =
      (decide (nu1 = nu2) && decide (de1 = de2) && fuzzyN n1 n2) := by
  by_cases h1 : nu1 = nu2 <;> by_cases h2 : de1 = de2 <;> simp [xnumEq, xcomparable, XU.kind, h1, h2]

theorem encNum_eq (sw : Sw) (n1 n2 : Num) (u1 u2 : XU) :
    veq sw (encNum n1 u1) (encNum n2 u2) = xnumEq sw n1 u1 n2 u2 := by
  cases u1 <;> cases u2
  · simp [encNum, veq, xnumEq]
  · simp [encNum, veq, leaf, xnumEq_simple_complex]
  · simp [encNum, veq, leaf, xnumEq_complex_simple]
  · rename_i nu1 de1 nu2 de2
    rw [xnumEq_complex_complex]
    simp only [encNum, leaf, veq, veqL, veqL_encUs, numEq_none]
    by_cases h1 : nu1 = nu2 <;> by_cases h2 : de1 = de2 <;> simp [h1, h2]

/-! ### calculations -/

theorem nameTag_eq_iff (a b : CName) : decide (nameTag a = nameTag b) = decide (a = b) := by
  cases a <;> cases b <;> simp [nameTag]

theorem opTag_eq_iff (a b : COp) : decide (opTag a = opTag b) = decide (a = b) := by
  cases a <;> cases b <;> simp [opTag]

mutual
  theorem encC_eq (sw : Sw) : ∀ (a b : CArg), veq sw (encC a) (encC b) = cargEq sw a b
    | .number n1 u1, b => by
      cases b with
      | number n2 u2 => exact encNum_eq sw n1 n2 u1 u2
      | _ => cases u1 <;> simp [encC, cargEq, encNum, leaf, veq]
    | .calc nm as, b => by
      cases b with
      | number n2 u2 => cases u2 <;> simp [encC, cargEq, encNum, leaf, veq]
      | «calc» nm2 bs => simp [encC, cargEq, veq, veqL, nameTag_eq_iff, encCs_eq sw as bs]
      | _ => simp [encC, cargEq, veq]
    | .str _, b | .interp _, b => by
      cases b with
      | number n2 u2 => cases u2 <;> simp [encC, cargEq, encNum, leaf, veq]
      | _ => simp [encC, cargEq, veq]
    | .op l o r, b => by
      cases b with
      | number n2 u2 => cases u2 <;> simp [encC, cargEq, encNum, leaf, veq]
      | op l2 o2 r2 =>
        simp only [encC, cargEq, veq, veqL, opTag_eq_iff, encC_eq sw l l2, encC_eq sw r r2]
        cases cargEq sw l l2 <;> cases cargEq sw r r2 <;> simp
      | _ => simp [encC, cargEq, veq]
  theorem encCs_eq (sw : Sw) : ∀ (as bs : CArgs), veqL sw (encCs as) (encCs bs) = cargsEq sw as bs
    | .nil, bs => by cases bs <;> simp [encCs, cargsEq, veqL]
    | .cons a t, bs => by
      cases bs
      · simp [encCs, cargsEq, veqL]
      · rename_i b u
        simp only [encCs, cargsEq, veqL, encC_eq sw a b, encCs_eq sw t u]
end

/-! ### function references -/

theorem encFn_eq (sw : Sw) (f g : FnRef) : veq sw (encFn f) (encFn g) = decide (f = g) := by
  cases f <;> cases g <;> simp [encFn, leaf, veq, veqL, natTag_eq_iff]

/-! ### a tag never equals the encoding of a value -/

def isTag (t : List Char) : Prop := ∀ s, t ≠ 's' :: s

theorem veq_tag_enc (sw : Sw) (t : List Char) (q : Bool) (ht : isTag t) (x : XV) :
    veq sw (.str t q) (enc x) = false ∧ veq sw (enc x) (.str t q) = false := by
  cases x <;> simp only [enc, veq, and_self]
  · rename_i n u; cases u <;> simp [encNum, leaf, veq]
  · exact ⟨decide_eq_false (ht _), decide_eq_false (fun e => ht _ e.symm)⟩
  · simp [leaf, veq]
  · rename_i f; cases f <;> simp [encFn, leaf, veq]

theorem veq_leaf_list (sw : Sw) (t : List Char) (ht : isTag t) (r : VList) (es : XVList) (sp : Sep) (br : Bool) :
    veq sw (leaf t r) (.list (encL es) sp br) = false ∧ veq sw (.list (encL es) sp br) (leaf t r) = false := by
  cases es
  · simp [leaf, veq, encL, veqL]
  · simp [leaf, veq, encL, veqL, veq_tag_enc sw t false ht]

theorem veq_leaf_arglist (sw : Sw) (t : List Char) (r : VList) (es : VList) (kw : VPairs) (sp : Sep) :
    veq sw (leaf t r) (.arglist es kw sp) = false ∧ veq sw (.arglist es kw sp) (leaf t r) = false := by
  cases h : sw.argAsList <;> simp [leaf, veq, h]

theorem veq_leaf_leaf_ne (sw : Sw) (t1 t2 : List Char) (r1 r2 : VList) (h : t1 ≠ t2) :
    veq sw (leaf t1 r1) (leaf t2 r2) = false := by
  simp [leaf, veq, veqL, h]

theorem isTag_u : isTag ['u'] := by intro s; simp
theorem isTag_c : isTag ['c'] := by intro s; simp

theorem encNum_shape (n : Num) (u : XU) :
    (∃ a, encNum n u = .num n a) ∨ (∃ r, encNum n u = leaf ['u'] r) := by
  cases u
  · exact Or.inl ⟨_, rfl⟩
  · exact Or.inr ⟨_, rfl⟩

def fnTag : FnRef → List Char
  | .builtin .. => ['f', 'b']
  | .user .. => ['f', 'u']
  | .plain _ => ['f', 'p']

def fnArgs : FnRef → VList
  | .builtin id nm => .cons (.str (natTag id) false) (.cons (.str nm false) .nil)
  | .user nm lo hi => .cons (.str nm false) (.cons (.str (natTag lo) false) (.cons (.str (natTag hi) false) .nil))
  | .plain nm => .cons (.str nm false) .nil

theorem encFn_eq_leaf (f : FnRef) : encFn f = leaf (fnTag f) (fnArgs f) := by
  cases f <;> rfl

theorem isTag_fnTag (f : FnRef) : isTag (fnTag f) := by
  cases f <;> simp [fnTag, isTag]

theorem fnTag_ne_u (f : FnRef) : fnTag f ≠ ['u'] := by
  cases f <;> simp [fnTag]

theorem fnTag_ne_c (f : FnRef) : fnTag f ≠ ['c'] := by
  cases f <;> simp [fnTag]

theorem encP_length : ∀ (p : XVPairs), (encP p).length = p.length
  | .nil => rfl
  | .cons k v t => by simp [encP, VPairs.length, XVPairs.length, encP_length t]

theorem any_enc (f : Value → Value → Bool) (g : XV → XV → Bool)
    (h : ∀ k2 v2, f (enc k2) (enc v2) = g k2 v2) : ∀ (q : XVPairs), (encP q).any f = q.any g
  | .nil => rfl
  | .cons k v t => by simp [encP, VPairs.any, XVPairs.any, h, any_enc f g h t]

end Grass.Value
