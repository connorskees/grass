import Grass.Selector
import GrassProofs.Lemmas.SelSem
import GrassProofs.Lemmas.SelWalk
import GrassProofs.Lemmas.SelPseudo
import GrassProofs.Lemmas.SelParse
import GrassProofs.Lemmas.SelParsePseudo
/-
  C11 — Selector functions are sound with respect to element matching.

  All statements quantify over *every* element context `p : Ctx` (unbounded: any type, id, class
  set, attribute map, flag set, any number of ancestors and preceding siblings).

  Scope of the proved statements
  * compound level (`superCompound0`, `unifyCompound`): complete, including the
    `:is(...)`-membership clause of simple.rs:370 on the right-hand side;
  * complex level: the index walk of complex.rs:141 for all four combinators (descendant, `>`,
    `+`, `~`) — for the code as it stands (`asFound = false`: with
    `compatible_with_previous_combinator`, complex.rs:290, added by fix 75edc67); the walk found
    on the pinned tree (`asFound = true`) is unsound, see `C11_asFound_walk_unsound`;
  * selector pseudos on the LEFT (`Pseudo::is_super_selector`, simple.rs:489): the arms `not` and
    `matches | is | any | where` are modelled (`superPseudo`) and proved sound together with the
    compound / complex / list levels by induction on the fuel (`C11_full_proved`); the arms
    `has | host | host-context`, `slotted`, `current`, `nth-child | nth-last-child (.. of S)` are
    outside the modelled alphabet (the model's parser answers `unsupported` for them);
  * attribute selectors with all six operators, modifiers and quoted values have the CSS
    matching semantics (`attrValMatch`), are compared by equality like grass's `Attribute::eq`
    (`C11_attrEnc_injective`, `C11_attr_super_iff_eq`) and are covered by every soundness theorem
    above (they quantify over all `Simple`); pseudos with a non-selector argument
    (`:nth-child(2n+1)`, `:lang(en)`, `::part(x)`) are opaque `.pclass` / `.pelem` names `name(arg)`
    — an opaque flag of the element — and covered likewise.
-/
namespace Grass.Selector

/-- The full property for `is-superselector` over the modelled alphabet (proved: `C11_full_proved`). -/
def C11_full : Prop :=
  ∀ (fuel : Nat) (L1 L2 : SelList) (p : Ctx),
    superList fuel false L1 L2 = true → matchesList L2 p = true → matchesList L1 p = true

/-! ### compound level -/

/-- `isSuperCompound A B → every element matched by B is matched by A` (compound.rs:69 without a
    selector pseudo in `A`; `B` arbitrary). -/
theorem C11_isSuperCompound_sound (A B : Compound) (p : Ctx)
    (h : superCompound0 A B = true) (hB : mComp B p = true) : mComp A p = true := by
  unfold superCompound0 at h
  simp only [Bool.and_eq_true, List.all_eq_true] at h
  rw [mComp_eq_all, List.all_eq_true]
  intro s hs
  exact simpleSuperOfCompound_sound s B p (h.1 s hs) hB

/-- the fuelled function of the model is `superCompound0` whenever `A` has no selector pseudo -/
theorem C11_isSuperCompound_sound_fuel (f : Nat) (af : Bool) (A B : Compound) (ps : Complex) (p : Ctx)
    (hA : noSelC A = true) (h : superCompound f af A B ps = true) (hB : mComp B p = true) :
    mComp A p = true := by
  cases f with
  | zero => simp [superCompound] at h
  | succ f => rw [superCompound_eq0 f af A B ps hA] at h; exact C11_isSuperCompound_sound A B p h hB

example : superCompound0 [.type ['a']] [.type ['a'], .cls ['x'], .sel .is [([.cls ['y']], [])]] = true := by
  decide +kernel
example : superCompound0 [.cls ['y']] [.type ['a'], .sel .is [([.cls ['y'], .cls ['x']], []), ([.cls ['y']], [])]] = true := by
  decide +kernel

theorem C11_isSuper_refl (A : Compound) : superCompound0 A A = true := by
  have h : ∀ s, s ∈ A → simpleSuperOfCompound s A = true := by
    intro s hs
    unfold simpleSuperOfCompound
    rw [List.any_eq_true]
    exact ⟨s, hs, by simp⟩
  unfold superCompound0
  simp only [Bool.and_eq_true, List.all_eq_true]
  refine ⟨h, ?_⟩
  intro t ht
  cases t <;> simp
  exact h _ ht

/-- reflexivity of the complex walk, both variants, for every well-formed complex selector whose
    compounds carry no selector pseudo (fuel `≥ 2`) -/
theorem C11_isSuper_refl_complex (f : Nat) (af : Bool) (A : Complex)
    (hwf : (fwd A).isSome = true) (hA : noSelX A = true) :
    superComplex (f + 2) af A A = true := by
  have hlast : lastIsComb A = false := lastIsComb_of_fwd A hwf
  unfold superComplex
  simp only [hlast, Bool.or_self, Bool.false_eq_true, if_false]
  apply walk_refl af _ A none hwf
  intro c hc ps
  rw [superCompound_eq0 f af c c ps (noSelC_of_mem hA hc)]
  exact C11_isSuper_refl c

example : superComplex 2 false [.compound [.type ['a']], .comb .child, .compound [.cls ['x']], .compound [.type ['b']]]
    [.compound [.type ['a']], .comb .child, .compound [.cls ['x']], .compound [.type ['b']]] = true := by decide +kernel

/-! ### complex level: the walk of complex.rs:141, specified variant -/

theorem superCompound_sound_noSel (f : Nat) (af : Bool) (c d : Compound) (ps : Complex) (q : Ctx)
    (hc : noSelC c = true) (h : superCompound f af c d ps = true) (hd : mComp d q = true) :
    mComp c q = true := C11_isSuperCompound_sound_fuel f af c d ps q hc h hd

/-- **is-superselector on complex selectors, for the code as it stands** — all four combinators,
    selector pseudos (`:not`, `:is`, `:where`, `:matches`, `:any`, nested to any depth) allowed on
    both sides: if the walk answers `true`, every element context matched by `B` is matched by `A`.
    (Out of fuel the model answers `false`, so the statement holds for every fuel.) -/
theorem C11_isSuperComplex_sound (f : Nat) (A B : Complex) (p : Ctx)
    (h : superComplex f false A B = true) (hB : matchesComplex B p = true) : matchesComplex A p = true :=
  (sound_all f).2.2.1 A B p h hB

/-- list level (list.rs:254): `is-superselector(L1, L2)` -/
theorem C11_isSuperList_sound (f : Nat) (L1 L2 : SelList) (p : Ctx)
    (h : superList f false L1 L2 = true) (hB : matchesList L2 p = true) : matchesList L1 p = true :=
  (sound_all f).2.2.2 L1 L2 p h hB

theorem C11_full_proved : C11_full := fun f L1 L2 p h hB => C11_isSuperList_sound f L1 L2 p h hB

/-- compound level with selector pseudos (compound.rs:69): `parents` are the components of the
    subselector that, together with `B`, are matched at the same context (`Hps`) -/
theorem C11_superCompound_sound (f : Nat) (A B : Compound) (ps : Complex) (q : Ctx)
    (h : superCompound f false A B ps = true) (hB : mComp B q = true) (hps : Hps ps B q) : mComp A q = true :=
  (sound_all f).1 A B ps q h hB hps

/-- `Pseudo::is_super_selector` (simple.rs:489), arms `not` and `matches | is | any | where` -/
theorem C11_superPseudo_sound (f : Nat) (k : PName) (arg : List RComplex) (B : Compound) (ps : Complex) (q : Ctx)
    (h : superPseudo f false k arg B ps = true) (hB : mComp B q = true) (hps : Hps ps B q) :
    mSimple (.sel k arg) q = true :=
  (sound_all f).2.1 k arg B ps q h hB hps

-- non-vacuity: pseudos on the left, nested, with combinators
example : superComplex 8 false
    [.compound [.type ['a']], .comb .child, .compound [.sel .not [([.cls ['x']], []), ([.type ['c']], [(.desc, [.cls ['y']])])]]]
    [.compound [.type ['a'], .cls ['z']], .comb .child, .compound [.sel .not [([.cls ['x']], [])], .sel .not [([.type ['c']], [])]]]
    = true := by decide +kernel
example : superComplex 8 false
    [.compound [.sel .is [([.type ['a']], []), ([.cls ['x']], [(.child, [.type ['b']])])]]]
    [.compound [.type ['b']], .comb .child, .compound [.cls ['x'], .cls ['y']]] = true := by decide +kernel

/-- the walk with the pseudo-free compound test (used by `trim` in C10), sound for arbitrary compounds -/
theorem isSuperComplex0_sound (A B : Complex) (p : Ctx) (h : isSuperComplex0 false A B = true)
    (hB : matchesComplex B p = true) : matchesComplex A p = true := by
  unfold isSuperComplex0 at h
  split at h
  · cases h
  · exact walk_sound_top _ (fun c d _ q hs hd _ => C11_isSuperCompound_sound c d q hs hd) h hB

private def selA : Complex := [.compound [.type ['a']], .comb .child, .compound [.type ['b']], .compound [.type ['c']]]
private def selB : Complex := [.compound [.type ['a']], .comb .child, .compound [.type ['x']], .comb .child,
  .compound [.type ['b']], .compound [.type ['c']]]
private def el (t : Name) : Elem := { type := t, id := none, classes := [], attrs := [], flags := [], pe := none }
private def ctxB : Ctx := ⟨⟨el ['c'], []⟩, [⟨el ['b'], []⟩, ⟨el ['x'], []⟩, ⟨el ['a'], []⟩]⟩

-- non-vacuity of the theorem: a `true` of the walk with sibling and child combinators
example : superComplex 3 false
    [.compound [.type ['a']], .comb .later, .compound [.cls ['x']], .compound [.type ['c']]]
    [.compound [.type ['a'], .id ['i']], .comb .next, .compound [.cls ['x'], .cls ['y']], .comb .child, .compound [.type ['c']]]
    = true := by decide +kernel

/-- **The walk found on the pinned tree was unsound** (finding C11-S1, fixed by 75edc67):
    `is-superselector("a > b c", "a > x > b c")` was `true` (components of the subselector were
    skipped after a `>`), although `c` inside `b` inside `x` inside `a` is matched by the second
    selector only.  The repaired walk answers `false` on the same input. -/
theorem C11_asFound_walk_unsound :
    superComplex 3 true selA selB = true ∧ superComplex 3 false selA selB = false ∧
    matchesComplex selB ctxB = true ∧ matchesComplex selA ctxB = false := by
  decide +kernel

/-! ### selector-unify on compounds (compound.rs:214, simple.rs:174) -/

/-- `unify A B = some C → matches C e → matches A e ∧ matches B e` -/
theorem C11_unifyCompound_sound (A B C : Compound) (p : Ctx)
    (h : unifyCompound A B = some C) (hC : mComp C p = true) : mComp A p = true ∧ mComp B p = true := by
  have := unifyCompound_sem p A B C h
  rw [hC] at this
  simpa using this.symm

/-- … and conversely: the unified compound matches *every* element matched by both -/
theorem C11_unifyCompound_complete (A B C : Compound) (p : Ctx)
    (h : unifyCompound A B = some C) (hA : mComp A p = true) (hB : mComp B p = true) : mComp C p = true := by
  rw [unifyCompound_sem p A B C h, hA, hB]; rfl

/-- `null` only when no intersection can exist: the code rejects exactly clashing types, clashing
    ids and two different pseudo-elements, and then no element is matched by both operands
    (an element has one type, at most one id, and is at most one pseudo-element). -/
theorem C11_unify_none_only_if (A B : Compound) (p : Ctx) (hB : B ≠ [])
    (h : unifyCompound A B = none) : ¬ (mComp A p = true ∧ mComp B p = true) := by
  have := unifyCompound_none p A B hB h
  intro ⟨a, b⟩; simp [a, b] at this

example : unifyCompound [.cls ['x'], .pclass ['h']] [.type ['a'], .pelem ['b']]
    = some [.type ['a'], .cls ['x'], .pclass ['h'], .pelem ['b']] := by decide +kernel
example : unifyCompound [.id ['i']] [.type ['a'], .id ['j']] = none := by decide +kernel
example : unifyCompound [.type ['b']] [.type ['a']] = none := by decide +kernel

/-! ### attribute selectors (attribute.rs): operators, modifier, equality -/

/-- The encoding of grass's `Attribute{value, modifier, op}` in one name is injective: equality of
    the model's `.attr n v` is `Attribute::eq` (attribute.rs:23 — attr, value, modifier, op). -/
theorem C11_attrEnc_injective (val val' : Name) (md md' op op' : Option Char)
    (hv : wfAttrVal val) (hv' : wfAttrVal val')
    (hm : ∀ m, md = some m → m.isAlpha = true) (hm' : ∀ m, md' = some m → m.isAlpha = true)
    (ho : ∀ o, op = some o → (attrOpOfChar o).isSome = true) (ho' : ∀ o, op' = some o → (attrOpOfChar o).isSome = true)
    (h : attrEnc val md op = attrEnc val' md' op') : val = val' ∧ md = md' ∧ op = op' := by
  obtain ⟨a1, a2, _⟩ := attrEnc_decode val md op hv hm
  obtain ⟨b1, b2, _⟩ := attrEnc_decode val' md' op' hv' hm'
  have a3 := attrOpText_enc val md op hv hm ho
  have b3 := attrOpText_enc val' md' op' hv' hm' ho'
  rw [h] at a1 a2 a3
  have hmd : md.toList = md'.toList := a2.symm.trans b2
  exact ⟨a1.symm.trans b1, by simpa using congrArg List.head? hmd, opText_inj (a3.symm.trans b3)⟩

/-- is-superselector treats attribute selectors by equality (simple.rs:359 with `Attribute::eq`):
    between two attribute selectors the answer is `true` exactly when name, value, modifier and
    operator coincide — in particular `[t^=v]` is *not* reported a superselector of `[t=v]`
    (a conservative `false`; soundness is `C11_isSuperCompound_sound`, which covers every operator). -/
theorem C11_attr_super_iff_eq (n n' : Name) (v v' : Option Name) :
    superCompound0 [.attr n v] [.attr n' v'] = true ↔ (n = n' ∧ v = v') := by
  simp [superCompound0, simpleSuperOfCompound]

theorem wordsOf_eq_self (l : Name) (h : l.any isWsC = false) : wordsOf l = [l] := by
  induction l with
  | nil => rfl
  | cons c cs ih =>
    simp only [List.any_cons, Bool.or_eq_false_iff] at h
    simp [wordsOf, ih h.2, h.1]

/-- the semantics of the operators is the CSS one: whatever satisfies `[t=v]` satisfies `[t~=v]`
    (for a `v` that is one word), `[t|=v]`, `[t^=v]`, `[t$=v]`, `[t*=v]` (non-empty `v`) — so
    grass's `false` between them is only conservative, never needed for soundness. -/
theorem C11_attrOp_eq_refines (op : AttrOp) (a b : Name) (hne : a ≠ []) (hws : a.any isWsC = false)
    (h : attrOpMatch .eq a b = true) : attrOpMatch op a b = true := by
  have e : a = b := by simpa [attrOpMatch] using h
  subst e
  have hempty : a.isEmpty = false := List.isEmpty_eq_false_iff.2 hne
  cases op with
  | eq => exact h
  | incl => simp [attrOpMatch, hempty, hws, wordsOf_eq_self a hws]
  | dash => simp [attrOpMatch]
  | pre => simp [attrOpMatch, hempty]
  | suf => simp [attrOpMatch, hempty]
  | sub =>
    cases a with
    | nil => exact absurd rfl hne
    | cons c cs => simp [attrOpMatch, isInfixOfC]

private def elT (v : String) : Ctx :=
  ⟨⟨{ type := ['a'], id := none, classes := [], attrs := [(['t'], v.toList)], flags := [], pe := none }, []⟩, []⟩

-- the operators on concrete elements (attribute `t` = …)
example : mSimple (.attr ['t'] (some (attrEnc ['v'] none (some '^')))) (elT "vx") = true ∧
    mSimple (.attr ['t'] (some (attrEnc ['v'] none (some '^')))) (elT "xv") = false ∧
    mSimple (.attr ['t'] (some (attrEnc ['v'] none (some '$')))) (elT "xv") = true ∧
    mSimple (.attr ['t'] (some (attrEnc ['v'] none (some '*')))) (elT "xvx") = true ∧
    mSimple (.attr ['t'] (some (attrEnc ['v'] none (some '*')))) (elT "xx") = false ∧
    mSimple (.attr ['t'] (some (attrEnc ['v'] none (some '~')))) (elT "x v y") = true ∧
    mSimple (.attr ['t'] (some (attrEnc ['v'] none (some '~')))) (elT "xv y") = false ∧
    mSimple (.attr ['t'] (some (attrEnc ['v'] (some 'i') (some '|')))) (elT "V-x") = true ∧
    mSimple (.attr ['t'] (some (attrEnc ['v'] none (some '|')))) (elT "V-x") = false ∧
    mSimple (.attr ['t'] (some (attrEnc ['v'] none (some '|')))) (elT "vx") = false ∧
    mSimple (.attr ['t'] (some (attrEnc ['v'] none none))) (elT "v") = true := by decide +kernel
-- soundness theorem applies: a `true` with operator attributes on both sides
example : superCompound0 [.attr ['t'] (some (attrEnc ['v'] (some 'i') (some '^')))]
    [.type ['a'], .attr ['t'] (some (attrEnc ['v'] (some 'i') (some '^'))), .cls ['x']] = true := by decide +kernel
example : superCompound0 [.attr ['t'] (some (attrEnc ['v'] none (some '^')))] [.attr ['t'] (some (attrEnc ['v'] none none))] = false := by
  decide +kernel
example : unifyCompound [.attr ['t'] (some (attrEnc ['v'] none (some '^')))] [.type ['a'], .attr ['t'] (some (attrEnc ['v'] none none))]
    = some [.type ['a'], .attr ['t'] (some (attrEnc ['v'] none none)), .attr ['t'] (some (attrEnc ['v'] none (some '^')))] := by decide +kernel

/-! ### selector-nest / selector-append are the nested-rule resolution -/

/-- n-ary form: a left fold of the nested-rule resolution -/
theorem C11_nest_fold (P : SelList) (rest : List SelList) (hP : P.containsParent = false) :
    selectorNest (P :: rest) = nestFold P rest := by
  have h1 : nestedRuleSelector [] P = .ok P := by
    simp [nestedRuleSelector, resolveParent, hP]
  simp only [selectorNest, nestFold, h1]

/-- `selector-nest(P, C)` is exactly the selector the evaluator computes for a rule `C { … }`
    nested in a rule `P { … }` (visitor → `resolve_parent_selectors(parent, true)`). -/
theorem C11_nest_eq_nested_rule (P C : SelList) (hP : P.containsParent = false) :
    selectorNest [P, C] = nestedRuleSelector P C := by
  simp only [C11_nest_fold P [C] hP, nestFold]
  cases nestedRuleSelector P C <;> rfl

theorem mapExcept_congr {α β ε : Type} (f g : α → Except ε β) (l : List α) (h : ∀ x ∈ l, f x = g x) :
    mapExcept f l = mapExcept g l := by
  induction l with
  | nil => rfl
  | cons x xs ih =>
    obtain ⟨hx, hxs⟩ := List.forall_mem_cons.1 h
    rw [mapExcept, hx, ih hxs, ← mapExcept]

theorem mapExcept_mem {α β ε : Type} (f : α → Except ε β) (l : List α) (r : List β) (h : mapExcept f l = .ok r) :
    ∀ y ∈ r, ∃ x ∈ l, f x = .ok y := by
  fun_induction mapExcept f l generalizing r with
  | case1 => cases h; simp
  | case2 => cases h
  | case3 => cases h
  | case4 x xs y0 hy0 ys hys ih =>
    cases h
    intro y hy
    rcases List.mem_cons.1 hy with rfl | hm
    · exact ⟨x, List.mem_cons_self, hy0⟩
    · obtain ⟨x', hx', hf⟩ := ih ys hys y hm
      exact ⟨x', List.mem_cons_of_mem _ hx', hf⟩

theorem appendChild_containsParent (x y : Complex) (h : appendChildComplex x = .ok y) :
    y.containsParent = true := by
  unfold appendChildComplex at h
  split at h
  · rename_i c rest
    split at h
    · rename_i c' hc'
      cases h
      have : parentInC c' = true := by
        unfold prependParent at hc'
        split at hc' <;> simp at hc' <;> subst hc' <;> simp [parentInC, parentInS]
      simp [Complex.containsParent, this]
    · cases h
  · cases h

/-- `selector-append(P, C)` is the nested rule `P { &C { … } }`: `&` is put in front of every
    complex of `C` (`prepend_parent`) and the result is resolved like a nested rule. -/
theorem C11_append_eq_suffix (P C : SelList) (hP : P ≠ []) :
    selectorAppend [P, C] =
      match mapExcept appendChildComplex C with
      | .error e => .error e
      | .ok C' => nestedRuleSelector P C' := by
  have hPe : P.isEmpty = false := by cases P <;> simp_all
  simp only [selectorAppend, appendFold, nestedRuleSelector, hPe]
  cases hC : mapExcept appendChildComplex C with
  | error e => rfl
  | ok C' =>
    simp only
    have hall : ∀ y ∈ C', resolveComplex P false y = resolveComplex P true y := by
      intro y hy
      obtain ⟨x, _, hx⟩ := mapExcept_mem _ C C' hC y hy
      have := appendChild_containsParent x y hx
      simp [resolveComplex, this]
    have : resolveParent C' (some P) false = resolveParent C' (some P) true := by
      simp only [resolveParent, mapExcept_congr _ _ C' hall]
    simp only [Bool.false_eq_true, if_false, this]
    cases resolveParent C' (some P) true <;> rfl

deriving instance DecidableEq for Except

example : selectorNest [[[.compound [.type ['a']], .compound [.type ['b']]]],
      [[.compound [.parent none, .cls ['x']]], [.compound [.type ['c']]]]]
    = .ok [[.compound [.type ['a']], .compound [.type ['b'], .cls ['x']]],
           [.compound [.type ['a']], .compound [.type ['b']], .compound [.type ['c']]]] := by decide +kernel
example : selectorAppend [[[.compound [.type ['a']]], [.compound [.cls ['y']]]], [[.compound [.type ['-', 's']]]]]
    = .ok [[.compound [.type ['a', '-', 's']]], [.compound [.cls ['y', '-', 's']]]] := by decide +kernel

/-! ### parser / printer of the driver's selector syntax -/

/-- **printer / parser round trip**, selectors without selector pseudos: for every `wfL` list (stray,
    leading and doubled combinators allowed; attribute selectors in full, `wfAttrV`) the parser reads
    back exactly what the printer wrote, with the fuel `parseSelList` itself computes.
    PARTIAL: selector pseudos inside a list (one level: `C11_sel_parse_print_depth1_partial`), pseudos
    with an opaque argument and `&` are not covered; those are evaluated at run time on every
    generated selector (`sel parse` + `sel eqast`). -/
theorem C11_parse_print_roundtrip_partial (l : SelList) (hl : wfL l) : parseSelList (renderList l) = some l := by
  have h := pList_app l [] hl trivial (8 * (renderList l).length + 16)
    (by have := needL_le l hl.2; omega)
  simp only [List.append_nil] at h
  simp [parseSelList, h, skipWs]

/-- **attribute selectors, printer / parser** (attribute.rs:105 `from_tokens`, :169 `Display`): any
    operator, any modifier letter, a value printed bare or double-quoted is read back exactly, whatever
    follows the closing bracket. -/
theorem C11_attr_parse_print (n val : Name) (md op : Option Char) (rest : List Char)
    (hn : validName n) (hv : wfAttrVal val) (hm : ∀ m, md = some m → m.isAlpha = true)
    (ho : ∀ o, op = some o → (attrOpOfChar o).isSome = true) :
    pAttr ((renderS (.attr n (some (attrEnc val md op)))).drop 1 ++ rest) =
      some (.attr n (some (attrEnc val md op)), rest) := by
  rw [renderS_attr n val md op hv hm ho]
  have := pAttr_app n val md op rest hn hv hm ho
  simpa [List.append_assoc] using this

example : renderS (.attr ['t'] (some (attrEnc ['v', ' ', 'w'] (some 'i') (some '~')))) = "[t~=\"v w\" i]".toList := by
  decide +kernel
example : parseSelList "a[t |= v-x  S], [t$='q r']".toList =
    some [[.compound [.type ['a'], .attr ['t'] (some (attrEnc ['v', '-', 'x'] (some 'S') (some '|')))]],
          [.compound [.attr ['t'] (some (attrEnc ['q', ' ', 'r'] none (some '$')))]]] := by decide +kernel

/-- the two facts that connect `:not(S)` as printed with `S` as parsed; all arguments, any nesting -/
theorem C11_pseudoArg_print_norm (arg : List RComplex) :
    renderArgs arg = renderList (arg.map RComplex.toComps) ∧ normAll (arg.map RComplex.toComps) = some arg :=
  ⟨renderArgs_eq_renderList arg, normAll_toComps arg⟩

/-- **printer / parser round trip of a selector pseudo, one level** (PARTIAL towards
    `C11_parse_print_roundtrip_full`): arguments over compounds without a nested selector pseudo.
    Missing for the full statement: the fuel accounting that lifts this through compounds / complexes /
    lists (`needX` counts no nested need), nesting depth `> 1`, `&`. -/
theorem C11_sel_parse_print_depth1_partial (k : PName) (arg : List RComplex) (rest : List Char) (h : wfArgs arg)
    (f : Nat) (hf : needL (arg.map RComplex.toComps) ≤ f) :
    pSimple (f + 1) (renderS (.sel k arg) ++ rest) = some (.sel k arg, rest) := by
  obtain ⟨hv, hpn⟩ := pname_facts k
  have hwf := wfL_of_wfArgs arg h
  have hstart : Starts isCompoundStart (renderList (arg.map RComplex.toComps)) := by
    cases arg with
    | nil => exact absurd rfl h.1
    | cons r rs =>
      obtain ⟨c, tl, e⟩ := toComps_head r
      have hc : wfC c := (hwf.2 r.toComps (by simp)).1 c (by simp [e])
      simp only [List.map_cons, e]
      exact renderList_starts hc tl _
  have hp := pIdent_app k.text ('(' :: (renderList (arg.map RComplex.toComps) ++ ')' :: rest)) hv
    (Next.cons _ (by decide))
  have hl := pList_app (arg.map RComplex.toComps) (')' :: rest) hwf (Next.cons _ (by decide)) f hf
  simp only [renderS, renderArgs_eq_renderList, List.cons_append, List.append_assoc, List.nil_append]
  rw [pSimple_colon f (hv.starts.append _), hp]
  simp only [hpn, skipWs_starts (hstart.append _) (by decide), hl,
    skipWs_starts (P := endComplex) ⟨')', rest, rfl, rfl⟩ (by decide), normAll_toComps]

example : wfArgs [([.cls ['y']], []), ([.type ['c'], .attr ['t'] (some (attrEnc ['v'] none (some '^')))], [(.child, [.type ['b'], .pclass ['h']])])] := by
  have hv : wfAttrV (attrEnc ['v'] none (some '^')) :=
    wfAttrV_enc (by unfold wfAttrVal; decide) (by decide) (by decide)
  simp only [wfArgs, wfC, wfS, tailOK, validName_cons, hv, List.forall_mem_cons, List.not_mem_nil, false_imp_iff,
    implies_true, and_true]
  decide +kernel

/-- the full round-trip statement (open): `wf` would extend `wfL` to selector pseudos whose
    arguments are well-formed in normal form, `&` with suffix, and every attribute value the
    parser accepts -/
def C11_parse_print_roundtrip_full (wf : SelList → Prop) : Prop :=
  ∀ (l : SelList), wf l → parseSelList (renderList l) = some l

example : wfL [[.compound [.type ['a'], .cls ['x'], .attr ['t'] (some (attrEnc ['v', ' ', 'w'] (some 'i') (some '^')))], .comb .child, .comb .next,
    .compound [.univ, .id ['i'], .pclass ['h'], .pelem ['b', 'e']]], [.compound [.placeholder ['p']]]] := by
  have hv : wfAttrV (attrEnc ['v', ' ', 'w'] (some 'i') (some '^')) :=
    wfAttrV_enc (by unfold wfAttrVal; decide) (by decide) (by decide)
  simp only [wfL, wfX_cons_compound, wfX_cons_comb, wfX_nil, wfC, wfS, tailOK, validName_cons, hv, List.forall_mem_cons,
    List.not_mem_nil, false_imp_iff, implies_true, and_true]
  decide +kernel

private def rtSample : SelList :=
  [[.compound [.type ['a'], .cls ['x']], .comb .child,
    .compound [.id ['i'], .attr ['t'] (some ['v']), .sel .not [([.cls ['y']], []), ([.type ['c']], [(.desc, [.type ['b'], .pclass ['h']])])]],
    .compound [.placeholder ['p'], .pelem ['b', 'e']]],
   [.compound [.univ], .comb .later, .compound [.attr ['t'] none], .comb .next, .compound [.parent (some ['-', 's'])]]]

example : parseSelList (renderList rtSample) = some rtSample := by decide +kernel
example : renderList rtSample = "a.x > #i[t=v]:not(.y, b:h c) %p::be, * ~ [t] + &-s".toList := by decide +kernel

end Grass.Selector
