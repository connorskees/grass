import GrassProofs.Lemmas.CalcFns
import GrassProofs.Lemmas.CalcKnown
import GrassProofs.Lemmas.CalcParse2
/-
  C16 — calc()/min()/max()/clamp() simplification preserves the computed value.

  Model: Grass/Calc.lean (written from calculation.rs, sass_number.rs, number.rs, unit/, visitor.rs,
  serializer.rs).  `evalCalc ρ a : Option Rat` is the quantity an expression denotes under the unit
  environment `ρ` (`none` = division by zero / an opaque operand without value).  Because `ρ` also
  scales px, deg and s, "equal under every ρ" includes dimensional homogeneity: `3` and `3px` differ.

  Scope guards, all explicit and decidable:
    * `ρ.wf` — every unit resolves to a positive length/angle/time;
    * `o.coerced = false` — the simplification did not use Sass's legacy rule that inside min()/max() a
      unitless number combines with any unit (`is_comparable_to`, calculation.rs:97,141,345); such
      sources have no CSS value to preserve;
    * `cfg.clampCss = true` — `clamp` with the `MAX < MIN → MIN` test, i.e. the code as it stands
      (`Cfg.now`, after `fix:` 26a5ec6); the cascade found before (`Cfg.asFound`) differs when
      `MAX < MIN < VAL` (D40, witness `C16_asFound_clamp_order`);
    * division by zero is the outcome `err nonFinite` (the real code prints `Infinitypx`/`NaN`), so an
      `ok` result never contains one.
-/
namespace Grass.Calc

/-! ### the visitor as a chain of `Res.bind` -/

theorem visit_operation_eq (cfg : Cfg) (imm : Bool) (l r : CalcArg) (op : Op) :
    visitValue cfg imm (.operation l op r) =
      (visitValue cfg imm l).bind fun l' => (visitValue cfg imm r).bind fun r' =>
        (operate cfg imm op l'.arg r'.arg).bind fun o => .ok ⟨o.arg, o.coerced || l'.coerced || r'.coerced⟩ := by
  simp only [visitValue]
  cases visitValue cfg imm l <;> simp only [Res.bind]
  cases visitValue cfg imm r <;> simp only []
  rename_i l' r'
  cases operate cfg imm op l'.arg r'.arg <;> simp only []

theorem visit_calculation_eq (cfg : Cfg) (imm : Bool) (nm : CName) (as : CalcArgs) :
    visitValue cfg imm (.calculation nm as) =
      (visitArgs cfg nm.inMinMax as).bind fun p =>
        (applyName cfg nm p.1).bind fun o => .ok ⟨o.arg, o.coerced || p.2⟩ := by
  simp only [visitValue]
  cases visitArgs cfg nm.inMinMax as <;> simp only [Res.bind]
  rename_i p
  obtain ⟨l, co⟩ := p
  cases applyName cfg nm l <;> simp only []

theorem visitArgs_cons_eq (cfg : Cfg) (imm : Bool) (a : CalcArg) (as : CalcArgs) :
    visitArgs cfg imm (.cons a as) =
      (visitValue cfg imm a).bind fun a' => (visitArgs cfg imm as).bind fun p =>
        .ok (a'.arg :: p.1, a'.coerced || p.2) := by
  simp only [visitArgs]
  cases visitValue cfg imm a <;> simp only [Res.bind]
  cases visitArgs cfg imm as <;> simp only []

/-! ### value preservation, function by function -/

/-- **operate_preserves_value**: whatever `operate_internal` returns — a folded number (with unit
    conversion and unit cancellation), an operation with the sign of a negative right operand
    flipped, or the operation unchanged — denotes the same quantity as `l op r`, in every environment. -/
theorem C16_operate_value (ρ : Env) (hw : ρ.wf) (cfg : Cfg) (imm : Bool) (op : Op) (l r : CalcArg) (o : Out)
    (h : operate cfg imm op l r = .ok o) (hco : o.coerced = false) :
    evalCalc ρ o.arg = evalCalc ρ (.operation l op r) := by
  rw [← eval_operation_congr ρ l r (simplify l) (simplify r) op (simplify_value ρ l) (simplify_value ρ r)]
  rw [operate_eq] at h
  split at h
  · next hl hr =>
    rw [hl, hr]
    exact foldNums_value ρ hw cfg imm op _ _ o h hco
  · rcases unfolded_cases cfg op (simplify l) (simplify r) with ⟨a, ha, hv⟩ | ha | ha <;>
      rw [ha] at h <;> cases h
    exact hv ρ

example : operate Cfg.now false .plus (.number 1 (CUnit.single .inch)) (.number 1 (CUnit.single .cm))
    = .ok ⟨.number (177 / 127) (CUnit.single .inch), false⟩ := by decide +kernel
example : operate Cfg.now false .minus (.number 1 (CUnit.single .px)) (.number (-2) (CUnit.single .em))
    = .ok ⟨.operation (.number 1 (CUnit.single .px)) .plus (.number 2 (CUnit.single .em)), false⟩ := by
  decide +kernel

/-- **min_max_reduce_sound**, value part: the result of `min()`/`max()` — reduced to a number or kept
    as a calculation — denotes the ordinary minimum/maximum of the arguments. -/
theorem C16_min_max_value (ρ : Env) (hw : ρ.wf) (cfg : Cfg) (isMax : Bool) (args : List CalcArg) (o : Out)
    (h : extremumFn cfg isMax args = .ok o) (hco : o.coerced = false) :
    evalCalc ρ o.arg = evalCalc ρ (.calculation (if isMax then .max else .min) (CalcArgs.ofList args)) := by
  rw [← eval_calculation_congr ρ _ _ _ (evalArgs_map_simplify ρ args)]
  unfold extremumFn at h
  simp only [] at h
  generalize args.map simplify = A at h ⊢
  obtain ⟨⟨m, co⟩, hloop, ho⟩ := Res.bind_eq_ok.mp h
  cases m with
  | none =>
    simp only [] at ho
    obtain ⟨_, _, ho⟩ := Res.bind_eq_ok.mp ho
    cases ho; rfl
  | some m =>
    simp only [] at ho
    cases ho
    simp only [] at hco; subst hco
    obtain ⟨n, u, rest, rfl, hloop⟩ := extremumLoop_none_ok hloop
    obtain ⟨vals, hv, hf⟩ := extremumLoop_value ρ hw isMax rest ⟨n, u⟩ m hloop
    have he : evalArgs ρ (CalcArgs.ofList (CalcArg.number n u :: rest)) = some (n * unitVal ρ u :: vals) :=
      evalArgs_cons_some ρ _ _ _ _ (by simp [evalCalc]) hv
    simp only [evalCalc, he]
    simp only [Num.val] at hf
    cases isMax <;> simp [evalFn, foldExt] at hf ⊢ <;> exact hf

/-- **clamp_reduce_sound** (specified variant): the result of `clamp()` denotes
    `max(MIN, min(VAL, MAX))`. -/
theorem C16_clamp_value (ρ : Env) (hw : ρ.wf) (cfg : Cfg) (hcss : cfg.clampCss = true)
    (args : List CalcArg) (o : Out) (h : clampFn cfg args = .ok o) (hco : o.coerced = false) :
    evalCalc ρ o.arg = evalCalc ρ (.calculation .clamp (CalcArgs.ofList args)) := by
  rw [← eval_calculation_congr ρ _ _ _ (evalArgs_map_simplify ρ args)]
  unfold clampFn at h
  simp only [] at h
  generalize args.map simplify = A at h ⊢
  have gen : ∀ o, ((verifyLength A 3).bind fun _ => (verifyCompatible cfg.strict A).bind fun _ =>
      Res.ok (⟨.calculation .clamp (CalcArgs.ofList A), false⟩ : Out)) = .ok o →
      evalCalc ρ o.arg = evalCalc ρ (.calculation .clamp (CalcArgs.ofList A)) := by
    intro o h
    obtain ⟨_, _, h⟩ := Res.bind_eq_ok.mp h
    obtain ⟨_, _, h⟩ := Res.bind_eq_ok.mp h
    cases h; rfl
  split at h
  · rename_i a ua b ub c uc
    by_cases hgd : (if cfg.clampGuarded = true then compatible ua ub && compatible ua uc else comparable ua ub && comparable ua uc) = true
    · rw [if_pos hgd] at h
      obtain ⟨r, hr, ho⟩ := Res.bind_eq_ok.mp h
      cases ho
      simp at hco
      have := clampReduce_value ρ hw cfg hcss ⟨a, ua⟩ ⟨b, ub⟩ ⟨c, uc⟩ r hco.1 hco.2 hr
      simp only [Num.val] at this
      simp [evalCalc, evalArgs, CalcArgs.ofList, evalFn, this]
    · rw [if_neg hgd] at h; exact gen o h
  · exact gen o h

theorem applyName_value (ρ : Env) (hw : ρ.wf) (cfg : Cfg) (hcss : cfg.clampCss = true) (nm : CName)
    (l : List CalcArg) (o : Out) (h : applyName cfg nm l = .ok o) (hco : o.coerced = false) :
    evalCalc ρ o.arg = evalCalc ρ (.calculation nm (CalcArgs.ofList l)) := by
  cases nm <;> simp only [applyName] at h
  · split at h
    · cases h; exact calcFn_value ρ _
    · cases h
  · exact C16_min_max_value ρ hw cfg false l o h hco
  · exact C16_min_max_value ρ hw cfg true l o h hco
  · exact C16_clamp_value ρ hw cfg hcss l o h hco

mutual
theorem visitValue_value (ρ : Env) (hw : ρ.wf) (cfg : Cfg) (hcss : cfg.clampCss = true) :
    ∀ (a : CalcArg) (imm : Bool) (o : Out), visitValue cfg imm a = .ok o → o.coerced = false →
      evalCalc ρ o.arg = evalCalc ρ a
  | .number n u, imm, o, h, _ => by simp only [visitValue] at h; cases h; rfl
  | .str id p, imm, o, h, _ => by simp only [visitValue] at h; cases h; rfl
  | .interp id, imm, o, h, _ => by simp only [visitValue] at h; cases h; rfl
  | .operation l op r, imm, o, h, hco => by
    rw [visit_operation_eq] at h
    obtain ⟨l', hl, h⟩ := Res.bind_eq_ok.mp h
    obtain ⟨r', hr, h⟩ := Res.bind_eq_ok.mp h
    obtain ⟨o', hop, h⟩ := Res.bind_eq_ok.mp h
    cases h
    simp only [Bool.or_eq_false_iff] at hco
    rw [C16_operate_value ρ hw cfg imm op l'.arg r'.arg o' hop hco.1.1]
    exact eval_operation_congr ρ l r l'.arg r'.arg op
      (visitValue_value ρ hw cfg hcss l imm l' hl hco.1.2) (visitValue_value ρ hw cfg hcss r imm r' hr hco.2)
  | .calculation nm as, imm, o, h, hco => by
    rw [visit_calculation_eq] at h
    obtain ⟨⟨l, co⟩, ha, h⟩ := Res.bind_eq_ok.mp h
    obtain ⟨o', hn, h⟩ := Res.bind_eq_ok.mp h
    cases h
    simp only [Bool.or_eq_false_iff] at hco
    rw [applyName_value ρ hw cfg hcss nm l o' hn hco.1]
    exact eval_calculation_congr ρ nm _ _ (visitArgs_value ρ hw cfg hcss as nm.inMinMax l co ha hco.2)
theorem visitArgs_value (ρ : Env) (hw : ρ.wf) (cfg : Cfg) (hcss : cfg.clampCss = true) :
    ∀ (as : CalcArgs) (imm : Bool) (l : List CalcArg) (co : Bool), visitArgs cfg imm as = .ok (l, co) →
      co = false → evalArgs ρ (CalcArgs.ofList l) = evalArgs ρ as
  | .nil, imm, l, co, h, _ => by simp only [visitArgs] at h; cases h; rfl
  | .cons a as, imm, l, co, h, hco => by
    rw [visitArgs_cons_eq] at h
    obtain ⟨a', ha, h⟩ := Res.bind_eq_ok.mp h
    obtain ⟨⟨l', co'⟩, has, h⟩ := Res.bind_eq_ok.mp h
    cases h
    simp only [Bool.or_eq_false_iff] at hco
    simp only [CalcArgs.ofList, evalArgs, visitValue_value ρ hw cfg hcss a imm a' ha hco.1,
      visitArgs_value ρ hw cfg hcss as imm l' co' has hco.2]
end

/-! ### no crash: every unit conversion the simplifier performs is between comparable units -/

theorem applyName_no_panic (cfg : Cfg) (hg : cfg.clampGuarded = true) (nm : CName) (l : List CalcArg) :
    applyName cfg nm l ≠ .panic := by
  cases nm <;> simp only [applyName]
  · split <;> simp
  · exact extremumFn_no_panic cfg false l
  · exact extremumFn_no_panic cfg true l
  · exact clampFn_no_panic cfg hg l

mutual
theorem visitValue_no_panic (cfg : Cfg) (hg : cfg.clampGuarded = true) :
    ∀ (a : CalcArg) (imm : Bool), visitValue cfg imm a ≠ .panic
  | .number n u, imm => by simp [visitValue]
  | .str id p, imm => by simp [visitValue]
  | .interp id, imm => by simp [visitValue]
  | .operation l op r, imm => by
    rw [visit_operation_eq]
    exact Res.bind_ne_panic (visitValue_no_panic cfg hg l imm) fun _ =>
      Res.bind_ne_panic (visitValue_no_panic cfg hg r imm) fun _ =>
        Res.bind_ne_panic (operate_no_panic cfg imm op _ _) fun _ => nofun
  | .calculation nm as, imm => by
    rw [visit_calculation_eq]
    exact Res.bind_ne_panic (visitArgs_no_panic cfg hg as nm.inMinMax) fun _ =>
      Res.bind_ne_panic (applyName_no_panic cfg hg nm _) fun _ => nofun
theorem visitArgs_no_panic (cfg : Cfg) (hg : cfg.clampGuarded = true) :
    ∀ (as : CalcArgs) (imm : Bool), visitArgs cfg imm as ≠ .panic
  | .nil, imm => by simp [visitArgs]
  | .cons a as, imm => by
    rw [visitArgs_cons_eq]
    exact Res.bind_ne_panic (visitValue_no_panic cfg hg a imm) fun _ =>
      Res.bind_ne_panic (visitArgs_no_panic cfg hg as imm) fun _ => nofun
end

/-- **never_unguarded_convert** (unit level): `Number::convert` is defined (no `HashMap` index panic, no
    failed `debug_assert!`) whenever the two units are comparable, in either argument order. -/
theorem C16_never_unguarded_convert (x : Rat) (frm to : CUnit)
    (h : comparable frm to = true ∨ comparable to frm = true) : (convert x frm to).isSome = true :=
  convert_isSome x frm to h

example : comparable (CUnit.single .cm) (CUnit.single .px) = true ∧
    convert 1 (CUnit.single .cm) (CUnit.single .px) = some (4800 / 127) := by decide +kernel

/-- **never_unguarded_convert** (whole simplifier; feeds C01): with the guard of the current code
    (`has_compatible_units` in `clamp`), no calculation expression makes the simplifier panic. -/
theorem C16_never_panics (cfg : Cfg) (hg : cfg.clampGuarded = true) (src : CalcArg) :
    compile cfg src ≠ .panic := by
  refine Res.bind_ne_panic (visitValue_no_panic cfg hg src false) fun o => ?_
  split <;> nofun

def Res.isPanic {α : Type} : Res α → Bool
  | .panic => true
  | _ => false

private def d1Src : CalcArg :=
  .calculation .clamp (.cons (.number 1 CUnit.none) (.cons (.number 2 (CUnit.single .px))
    (.cons (.number 3 (CUnit.single .em)) .nil)))

/-- The guard found on the pinned tree (`is_comparable_to`, D1): `clamp(1, 2px, 3em)` converts em to
    px and panics.  With the current guard the same input is left as `clamp(1, 2px, 3em)`. -/
theorem C16_asFound_clamp_unguarded :
    (compile Cfg.asFoundD1 d1Src).isPanic = true ∧ (compile Cfg.now d1Src).isPanic = false := by
  constructor <;> decide +kernel

/-! ### the parts on their own -/

/-- conversion factors are the CSS ratios: a table entry `to ← from` times the size of `to` is the size
    of `from`, in every environment. -/
theorem C16_table_ratio (ρ : Env) (to frm : BU) (f : Rat) (h : table to frm = some f) :
    f * to.size ρ = frm.size ρ := table_ratio ρ to frm f h

example : table .px .inch = some 96 := by decide +kernel

/-- **sign_flip_sound**: replacing `a + (-b)` by `a - b` and `a - (-b)` by `a + b` keeps the value. -/
theorem C16_sign_flip_sound (ρ : Env) (l : CalcArg) (op : Op) (n : Rat) (u : CUnit)
    (hop : op = .plus ∨ op = .minus) :
    evalCalc ρ (.operation l op.flip (.number (-n) u)) = evalCalc ρ (.operation l op (.number n u)) :=
  sign_flip_value ρ l op n u hop

/-- **min_max_reduce_sound**, structural part: `min()`/`max()` reduce to a number only when every
    argument is a number, and (absent coercion) all their units are compatible with the result's. -/
theorem C16_min_max_reduce_only_numbers (cfg : Cfg) (isMax : Bool) (args : List CalcArg)
    (n : Rat) (u : CUnit) (co : Bool) (h : extremumFn cfg isMax args = .ok ⟨.number n u, co⟩) :
    (∀ a ∈ args.map simplify, ∃ m v, a = .number m v) ∧
    (co = false → ∀ m v, CalcArg.number m v ∈ args.map simplify → compatible v u = true) := by
  unfold extremumFn at h
  simp only [] at h
  generalize args.map simplify = A at h ⊢
  obtain ⟨⟨m, co'⟩, hloop, ho⟩ := Res.bind_eq_ok.mp h
  cases m with
  | none =>
    simp only [] at ho
    obtain ⟨_, _, ho⟩ := Res.bind_eq_ok.mp ho
    cases isMax <;> cases ho
  | some r =>
    simp only [] at ho
    injection ho with ho; injection ho with e1 e2
    injection e1 with e3 e4
    subst e2
    obtain ⟨n0, u0, rest, rfl, hloop⟩ := extremumLoop_none_ok hloop
    refine ⟨fun a ha => ?_, fun hco m v hm => ?_⟩
    · rcases List.mem_cons.mp ha with e | e
      · exact ⟨n0, u0, e⟩
      · exact extremumLoop_all_numbers isMax rest _ r co' hloop a e
    · subst hco
      obtain ⟨c1, c2⟩ := extremumLoop_compat isMax rest ⟨n0, u0⟩ r hloop
      rw [← e4]
      rcases List.mem_cons.mp hm with e | e
      · injection e with e5 e6; subst e6; exact c1
      · exact compatible_trans _ _ _ (compatible_symm _ _ (c2 m v e)) c1

example : extremumFn Cfg.now false [.number 1 (CUnit.single .inch), .number 95 (CUnit.single .px)]
    = .ok ⟨.number 95 (CUnit.single .px), false⟩ := by decide +kernel

/-- where the cascade found before `fix:` 26a5ec6 and the current one agree: everywhere except
    `MAX < MIN < VAL` (MAX in MIN's unit, MIN in VAL's unit). -/
theorem C16_clamp_old_eq_now (cfg : Cfg) (mn v mx : Num)
    (hs : (convert mx.n mx.u mn.u).isSome = true)
    (h : ∀ mn' mxm, convert mn.n mn.u v.u = some mn' → convert mx.n mx.u mn.u = some mxm →
          ¬ (mxm < mn.n ∧ mn' < v.n)) :
    clampReduce { cfg with clampCss := false } mn v mx = clampReduce { cfg with clampCss := true } mn v mx := by
  unfold clampReduce
  cases h1 : convert mn.n mn.u v.u <;> cases h2 : convert mx.n mx.u v.u <;> simp only []
  rename_i mn' mx'
  cases h3 : convert mx.n mx.u mn.u with
  | none => simp [h3] at hs
  | some mxm =>
    have := h mn' mxm h1 h3
    by_cases c1 : v.n ≤ mn'
    · simp [c1]
    · have c1' : mn' < v.n := Rat.not_le.mp c1
      have c2 : ¬ mxm < mn.n := fun x => this ⟨x, c1'⟩
      simp [c1, c2]

private def d40Src : CalcArg :=
  .calculation .clamp (.cons (.number 5 (CUnit.single .px)) (.cons (.number 10 (CUnit.single .px))
    (.cons (.number 3 (CUnit.single .px)) .nil)))

/-- D40 (fixed in /repo by 26a5ec6): the cascade found before (`value <= min → min; value >= max →
    max`) turned `clamp(5px, 10px, 3px)` into `3px`; CSS `max(5px, min(10px, 3px))` is `5px`, which is
    what the code as it stands gives. -/
theorem C16_asFound_clamp_order :
    compile Cfg.asFound d40Src = .ok ⟨.number 3 (CUnit.single .px), false⟩ ∧
    compile Cfg.now d40Src = .ok ⟨.number 5 (CUnit.single .px), false⟩ ∧
    evalCalc Env.unit (.number 3 (CUnit.single .px)) ≠ evalCalc Env.unit d40Src := by
  refine ⟨by decide +kernel, by decide +kernel, by decide +kernel⟩

/-! ### the whole pipeline -/

/-- **The property for the model of the whole pipeline** (`visit_calculation_expr` →
    `operate_internal`/`min`/`max`/`clamp`/`calc` → serializer check): if an expression compiles, the
    emitted number or calculation denotes the same quantity as the source, under every unit
    environment. -/
theorem C16_compile_value (ρ : Env) (hw : ρ.wf) (cfg : Cfg) (hcss : cfg.clampCss = true)
    (src : CalcArg) (o : Out) (h : compile cfg src = .ok o) (hco : o.coerced = false) :
    evalCalc ρ o.arg = evalCalc ρ src := by
  unfold compile at h
  obtain ⟨o', hv, hp⟩ := Res.bind_eq_ok.mp h
  split at hp
  · cases hp; exact visitValue_value ρ hw cfg hcss src false o hv hco
  · cases hp

/-- **The property for the code as it stands** (`Cfg.now`): no switch left to assume. -/
theorem C16_compile_value_now (ρ : Env) (hw : ρ.wf) (src : CalcArg) (o : Out)
    (h : compile Cfg.now src = .ok o) (hco : o.coerced = false) :
    evalCalc ρ o.arg = evalCalc ρ src :=
  C16_compile_value ρ hw Cfg.now rfl src o h hco

theorem C16_never_panics_now (src : CalcArg) : compile Cfg.now src ≠ .panic :=
  C16_never_panics Cfg.now rfl src

private def exSrc : CalcArg :=
  .calculation .calc (.cons (.operation (.operation (.number 1 (CUnit.single .inch)) .plus
    (.number 1 (CUnit.single .cm))) .minus (.operation (.number 2 (CUnit.single .em)) .mul (.number (-3) CUnit.none))) .nil)

example : compile Cfg.spec exSrc = .ok ⟨.calculation .calc (.cons (.operation
    (.number (177 / 127) (CUnit.single .inch)) .plus (.number 6 (CUnit.single .em))) .nil), false⟩ := by
  decide +kernel

/-- a fully-known expression reduces to the number ordinary arithmetic gives. -/
theorem C16_known_units_plain_number (ρ : Env) (hw : ρ.wf) (cfg : Cfg) (hcss : cfg.clampCss = true)
    (src : CalcArg) (n : Rat) (u : CUnit)
    (h : compile cfg src = .ok ⟨.number n u, false⟩) :
    evalCalc ρ src = some (n * unitVal ρ u) := by
  have := C16_compile_value ρ hw cfg hcss src _ h rfl
  simpa [evalCalc] using this.symm

/-! ### known, mutually convertible units reduce to a plain number -/

/-- every pair of units of one convertible family has a table entry: lengths (px in cm mm q pt pc),
    angles (deg grad rad turn), times (s ms), frequencies (Hz kHz), resolutions (dpi dpcm dppx). -/
theorem C16_table_total (a b : BU) (hk : a.kind = b.kind)
    (hc : a.kind = .absolute ∨ a.kind = .angle ∨ a.kind = .time ∨ a.kind = .frequency ∨ a.kind = .resolution) :
    (table a b).isSome = true := by
  have : a.kind.convertible = true := by
    rcases hc with h | h | h | h | h <;> rw [h] <;> rfl
  simp [table_eq, this, hk.symm]

example : table .rad .turn = some (2 * piF) ∧ table .q .pc = some ((1016/10) / 6) ∧
    table .dppx .dpcm = some ((254/100) / 96) ∧ table .hz .khz = some 1000 := by
  refine ⟨rfl, rfl, rfl, rfl⟩

/-- outcome of an expression whose operands all have units compatible with `g`: a plain number in
    such a unit, nothing simplified away into a `calc()`, no error other than a zero divisor. -/
def KnownOut (g : CUnit) (r : Res Out) : Prop :=
  (∃ n u, r = .ok ⟨.number n u, false⟩ ∧ compatible u g = true) ∨ r = .err .nonFinite

theorem KnownOut.bind₂ {g₁ g₂ g : CUnit} {L R : Res Out} {F : Out → Out → Res Out}
    (hl : KnownOut g₁ L) (hr : KnownOut g₂ R)
    (hF : ∀ a ua b ub, compatible ua g₁ = true → compatible ub g₂ = true →
      KnownOut g (F ⟨.number a ua, false⟩ ⟨.number b ub, false⟩)) :
    KnownOut g (L.bind fun l' => R.bind fun r' => F l' r') := by
  rcases hl with ⟨a, ua, rfl, hua⟩ | rfl
  · rcases hr with ⟨b, ub, rfl, hub⟩ | rfl
    · exact hF a ua b ub hua hub
    · exact Or.inr rfl
  · exact Or.inr rfl

theorem known_sum (cfg : Cfg) (imm : Bool) (op : Op) (hop : op = .plus ∨ op = .minus) (g : CUnit)
    (L R : Res Out) (hl : KnownOut g L) (hr : KnownOut g R) :
    KnownOut g (L.bind fun l' => R.bind fun r' =>
      (operate cfg imm op l'.arg r'.arg).bind fun o => .ok ⟨o.arg, o.coerced || l'.coerced || r'.coerced⟩) := by
  refine hl.bind₂ hr fun a ua b ub hua hub => ?_
  obtain ⟨n, ho⟩ := operate_sum_known cfg imm op hop a b ua ub (compatible_via _ _ g hua hub)
  exact Or.inl ⟨n, ua, by simp [Res.bind, ho], hua⟩

theorem known_mul_right (cfg : Cfg) (imm : Bool) (g : CUnit)
    (L R : Res Out) (hl : KnownOut g L) (hr : KnownOut CUnit.none R) :
    KnownOut g (L.bind fun l' => R.bind fun r' =>
      (operate cfg imm .mul l'.arg r'.arg).bind fun o => .ok ⟨o.arg, o.coerced || l'.coerced || r'.coerced⟩) := by
  refine hl.bind₂ hr fun a ua b ub hua hub => ?_
  refine Or.inl ⟨(numMul ⟨a, ua⟩ ⟨b, ub⟩).n, (numMul ⟨a, ua⟩ ⟨b, ub⟩).u, by simp [Res.bind, operate, simplify], ?_⟩
  rw [numMul_scalar_right ⟨a, ua⟩ ⟨b, ub⟩ (compatible_none_right ub hub)]
  exact hua

theorem known_mul_left (cfg : Cfg) (imm : Bool) (g : CUnit)
    (L R : Res Out) (hl : KnownOut CUnit.none L) (hr : KnownOut g R) :
    KnownOut g (L.bind fun l' => R.bind fun r' =>
      (operate cfg imm .mul l'.arg r'.arg).bind fun o => .ok ⟨o.arg, o.coerced || l'.coerced || r'.coerced⟩) := by
  refine hl.bind₂ hr fun a ua b ub hua hub => ?_
  refine Or.inl ⟨(numMul ⟨a, ua⟩ ⟨b, ub⟩).n, (numMul ⟨a, ua⟩ ⟨b, ub⟩).u, by simp [Res.bind, operate, simplify], ?_⟩
  rw [numMul_scalar_left ⟨a, ua⟩ ⟨b, ub⟩ (compatible_none_right ua hua)]
  exact hub

theorem known_div (cfg : Cfg) (imm : Bool) (g : CUnit)
    (L R : Res Out) (hl : KnownOut g L) (hr : KnownOut CUnit.none R) :
    KnownOut g (L.bind fun l' => R.bind fun r' =>
      (operate cfg imm .div l'.arg r'.arg).bind fun o => .ok ⟨o.arg, o.coerced || l'.coerced || r'.coerced⟩) := by
  refine hl.bind₂ hr fun a ua b ub hua hub => ?_
  rcases numDiv_scalar ⟨a, ua⟩ ⟨b, ub⟩ (compatible_none_right ub hub) with hd | ⟨r, hd, hu⟩
  · exact Or.inr (by simp [Res.bind, operate, simplify, hd])
  · exact Or.inl ⟨r.n, r.u, by simp [Res.bind, operate, simplify, hd], hu ▸ hua⟩

theorem arityOk_len (nm : CName) (as : CalcArgs) (h : arityOk nm as = true) :
    (nm = .calc → as.toList.length = 1) ∧ (nm = .clamp → as.toList.length = 3) ∧ 0 < as.toList.length := by
  cases nm <;> rcases as with _ | ⟨a, _ | ⟨b, _ | ⟨c, _ | ⟨d, e⟩⟩⟩⟩ <;> simp_all [arityOk, CalcArgs.toList]

theorem applyName_known (cfg : Cfg) (nm : CName) (g : CUnit) (l : List CalcArg)
    (hc : nm = .calc → l.length = 1) (hcl : nm = .clamp → l.length = 3) (hpos : 0 < l.length)
    (h : ∀ x ∈ l, ∃ n v, x = .number n v ∧ compatible v g = true) :
    ∃ n u, applyName cfg nm l = .ok ⟨.number n u, false⟩ ∧ compatible u g = true := by
  have hne : l ≠ [] := by intro e; subst e; simp at hpos
  cases nm
  · have h1 := hc rfl
    rcases l with _ | ⟨x, _ | ⟨y, ys⟩⟩ <;> simp at h1
    obtain ⟨n, v, e, hv⟩ := h x (List.mem_cons_self)
    subst e
    exact ⟨n, v, by simp [applyName, calcFn, simplify], hv⟩
  · simpa [applyName] using extremumFn_known cfg false g l hne h
  · simpa [applyName] using extremumFn_known cfg true g l hne h
  · have h3 := hcl rfl
    rcases l with _ | ⟨x, _ | ⟨y, _ | ⟨z, _ | ⟨w, ws⟩⟩⟩⟩ <;> simp at h3
    obtain ⟨a, ua, e1, h1⟩ := h x (by simp)
    obtain ⟨b, ub, e2, h2⟩ := h y (by simp)
    obtain ⟨c, uc, e3, h3⟩ := h z (by simp)
    subst e1 e2 e3
    simpa [applyName] using clampFn_known cfg g a b c ua ub uc h1 h2 h3

mutual
theorem visitValue_known (cfg : Cfg) :
    ∀ (a : CalcArg) (g : CUnit) (imm : Bool), plain g a = true → KnownOut g (visitValue cfg imm a)
  | .number n u, g, imm, h => by
    simp only [plain] at h
    exact Or.inl ⟨n, u, by simp [visitValue], h⟩
  | .str _ _, g, imm, h => by simp [plain] at h
  | .interp _, g, imm, h => by simp [plain] at h
  | .operation l .plus r, g, imm, h => by
    simp only [plain, Bool.and_eq_true] at h
    rw [visit_operation_eq]
    exact known_sum cfg imm .plus (Or.inl rfl) g _ _ (visitValue_known cfg l g imm h.1) (visitValue_known cfg r g imm h.2)
  | .operation l .minus r, g, imm, h => by
    simp only [plain, Bool.and_eq_true] at h
    rw [visit_operation_eq]
    exact known_sum cfg imm .minus (Or.inr rfl) g _ _ (visitValue_known cfg l g imm h.1) (visitValue_known cfg r g imm h.2)
  | .operation l .mul r, g, imm, h => by
    simp only [plain, Bool.and_eq_true, Bool.or_eq_true] at h
    rw [visit_operation_eq]
    rcases h with h | h
    · exact known_mul_right cfg imm g _ _ (visitValue_known cfg l g imm h.1) (visitValue_known cfg r CUnit.none imm h.2)
    · exact known_mul_left cfg imm g _ _ (visitValue_known cfg l CUnit.none imm h.1) (visitValue_known cfg r g imm h.2)
  | .operation l .div r, g, imm, h => by
    simp only [plain, Bool.and_eq_true] at h
    rw [visit_operation_eq]
    exact known_div cfg imm g _ _ (visitValue_known cfg l g imm h.1) (visitValue_known cfg r CUnit.none imm h.2)
  | .calculation nm as, g, imm, h => by
    simp only [plain, Bool.and_eq_true] at h
    obtain ⟨hc, hcl, hpos⟩ := arityOk_len nm as h.1
    rw [visit_calculation_eq]
    rcases visitArgs_known cfg as g nm.inMinMax h.2 with ⟨l, hl, hlen, hall⟩ | e
    · rw [hl]
      obtain ⟨n, u, ho, hu⟩ := applyName_known cfg nm g l (fun e => by rw [hlen]; exact hc e)
        (fun e => by rw [hlen]; exact hcl e) (by rw [hlen]; exact hpos) hall
      exact Or.inl ⟨n, u, by simp [Res.bind, ho], hu⟩
    · rw [e]; exact Or.inr (by simp [Res.bind])
theorem visitArgs_known (cfg : Cfg) :
    ∀ (as : CalcArgs) (g : CUnit) (imm : Bool), plainArgs g as = true →
      (∃ l, visitArgs cfg imm as = .ok (l, false) ∧ l.length = as.toList.length ∧
        ∀ x ∈ l, ∃ n v, x = .number n v ∧ compatible v g = true) ∨ visitArgs cfg imm as = .err .nonFinite
  | .nil, g, imm, _ => Or.inl ⟨[], by simp [visitArgs], rfl, by simp⟩
  | .cons a as, g, imm, h => by
    simp only [plainArgs, Bool.and_eq_true] at h
    rcases visitValue_known cfg a g imm h.1 with ⟨n, u, ha, hu⟩ | ha
    · rcases visitArgs_known cfg as g imm h.2 with ⟨l, hl, hlen, hall⟩ | has
      · refine Or.inl ⟨.number n u :: l, by simp [visitArgs, ha, hl], by simp [CalcArgs.toList, hlen], ?_⟩
        intro x hx
        rcases List.mem_cons.mp hx with e | e
        · exact ⟨n, u, e, hu⟩
        · exact hall x e
      · exact Or.inr (by simp [visitArgs, ha, has])
    · exact Or.inr (by simp [visitArgs, ha])
end

theorem compatible_not_complex (u g : CUnit) (h : compatible u g = true) (hg : g.isComplex = false) :
    u.isComplex = false := by
  rcases (compatible_iff u g).mp h with e | hs
  · subst e; exact hg
  · obtain ⟨b, rfl, -⟩ := single_of_convertible hs.1
    rfl

/-- **known units reduce** (first sentence of the property, over the whole unit table): an expression
    built from numbers whose units are all compatible with one non-compound unit `g` — the same unit,
    or plain units of one convertible family: px in cm mm q pt pc | deg grad rad turn | s ms | Hz kHz |
    dpi dpcm dppx — with `+ -` between such operands, `* /` by unitless operands, and nested
    calc/min/max/clamp, compiles to a plain number in such a unit (never to a `calc()`, never to an
    error other than a zero divisor, never with the legacy coercion), whatever the switches. -/
theorem C16_known_units_reduce (cfg : Cfg) (g : CUnit) (hg : g.isComplex = false) (src : CalcArg)
    (h : plain g src = true) :
    (∃ n u, compile cfg src = .ok ⟨.number n u, false⟩ ∧ compatible u g = true) ∨
      compile cfg src = .err .nonFinite := by
  rcases visitValue_known cfg src g false h with ⟨n, u, hv, hu⟩ | hv
  · have := compatible_not_complex u g hu hg
    exact Or.inl ⟨n, u, by simp [compile, hv, Res.bind, printable, this], hu⟩
  · exact Or.inr (by simp [compile, hv, Res.bind])

/-- … and that number is the value ordinary arithmetic gives, in every unit environment. -/
theorem C16_known_units_value (ρ : Env) (hw : ρ.wf) (cfg : Cfg) (hcss : cfg.clampCss = true)
    (g : CUnit) (hg : g.isComplex = false) (src : CalcArg) (h : plain g src = true) :
    (∃ n u, compile cfg src = .ok ⟨.number n u, false⟩ ∧ compatible u g = true ∧
      evalCalc ρ src = some (n * unitVal ρ u)) ∨ compile cfg src = .err .nonFinite := by
  rcases C16_known_units_reduce cfg g hg src h with ⟨n, u, hc, hu⟩ | he
  · exact Or.inl ⟨n, u, hc, hu, C16_known_units_plain_number ρ hw cfg hcss src n u hc⟩
  · exact Or.inr he

private def knownSrc : CalcArg :=
  .calculation .max (.cons (.operation (.number 1 (CUnit.single .rad)) .plus
      (.operation (.number 2 (CUnit.single .grad)) .mul (.number 3 CUnit.none)))
    (.cons (.calculation .clamp (.cons (.number 1 (CUnit.single .turn)) (.cons (.number 500 (CUnit.single .deg))
      (.cons (.number 450 (CUnit.single .grad)) .nil)))) .nil))

example : plain (CUnit.single .deg) knownSrc = true := by decide +kernel
example : compile Cfg.now knownSrc = .ok ⟨.number 450 (CUnit.single .grad), false⟩ := by decide +kernel
example : plain (CUnit.single .dppx) (.calculation .calc (.cons (.operation (.number 96 (CUnit.single .dpi)) .minus
    (.number 1 (CUnit.single .dpcm))) .nil)) = true := by decide +kernel

/-! ### a zero divisor: explicit guard and class -/

/-- the model leaves the finite numbers exactly at a zero divisor … -/
theorem C16_div_nonfinite_iff (a b : Num) : numDiv a b = .err .nonFinite ↔ b.n = 0 :=
  numDiv_nonFinite_iff a b

/-- … and an operation stops with `nonFinite` only for `number / number` with a zero divisor (sums and
    products of finite numbers stay finite; `verify_compatible_numbers` never reports it). -/
theorem C16_operate_nonfinite_iff (cfg : Cfg) (imm : Bool) (op : Op) (l r : CalcArg) :
    operate cfg imm op l r = .err .nonFinite ↔
      op = .div ∧ ∃ a ua ub, simplify l = .number a ua ∧ simplify r = .number 0 ub := by
  rw [operate_eq]
  split
  · next a ua b ub hl hr => simp [foldNums_nonFinite_iff, hl, hr]
  · next hne =>
    constructor
    · intro h
      rcases unfolded_cases cfg op (simplify l) (simplify r) with ⟨a, ha, -⟩ | ha | ha <;> rw [ha] at h <;> cases h
    · rintro ⟨-, a, ua, ub, hl, hr⟩
      exact (hne _ _ _ _ hl hr).elim

/-- IEEE class of `x / 0`: the sign of the dividend, NaN for `0 / 0`. -/
theorem C16_div_zero_class (x : Rat) :
    (divZeroClass x = .pinf ↔ 0 < x) ∧ (divZeroClass x = .ninf ↔ x < 0) ∧ (divZeroClass x = .nan ↔ x = 0) := by
  unfold divZeroClass
  refine ⟨?_, ?_, ?_⟩ <;> split <;> (try split) <;> simp_all <;> grind

example : nonFiniteTop Cfg.now (.calculation .calc (.cons (.operation
    (.operation (.number 1 (CUnit.single .inch)) .minus (.number 100 (CUnit.single .px))) .div (.number 0 CUnit.none)) .nil))
    = some (.ninf, CUnit.single .inch, false) := by decide +kernel

/-! ### incompatible units are rejected -/

/-- the relation `verify_compatible_numbers` enforces between two arguments -/
def okPair (strict : Bool) (a b : CalcArg) : Prop :=
  match a, b with
  | .number _ u, .number _ v => possiblyCompatible strict u v = true
  | _, _ => True

theorem incompatWith_false (strict : Bool) (u : CUnit) (n : Rat) :
    ∀ (rest : List CalcArg), incompatWith strict u rest = false → ∀ b ∈ rest, okPair strict (.number n u) b := by
  intro rest
  induction rest with
  | nil => intro _ b hb; cases hb
  | cons x rest ih =>
    intro h b hb
    cases x <;> simp only [incompatWith, Bool.or_eq_false_iff] at h <;>
      rcases List.mem_cons.mp hb with e | e <;>
      first
      | (subst e; simp [okPair]; done)
      | (exact ih h b e)
      | (exact ih h.2 b e)
      | (subst e; simpa [okPair] using h.1)

theorem anyIncompatPair_false (strict : Bool) :
    ∀ (args : List CalcArg), anyIncompatPair strict args = false → args.Pairwise (okPair strict) := by
  intro args
  induction args with
  | nil => intro _; exact List.Pairwise.nil
  | cons x rest ih =>
    intro h
    cases x <;> simp only [anyIncompatPair, Bool.or_eq_false_iff] at h
    case number n u =>
      exact List.Pairwise.cons (incompatWith_false strict u n rest h.1) (ih h.2)
    all_goals exact List.Pairwise.cons (fun b _ => by simp [okPair]) (ih h)

/-- **incompatible_rejected**: a calculation whose argument list passes `verify_compatible_numbers`
    contains no number with a compound unit and no two numbers with provably incompatible units;
    contrapositive: such operands make `+`, `-`, `min`, `max`, `clamp` fail with an error. -/
theorem C16_incompatible_rejected (strict : Bool) (args : List CalcArg)
    (h : verifyCompatible strict args = .ok ()) :
    (∀ a ∈ args, isComplexNumber a = false) ∧ args.Pairwise (okPair strict) := by
  unfold verifyCompatible at h
  split at h
  · cases h
  · rename_i h1
    split at h
    · cases h
    · rename_i h2
      refine ⟨fun a ha => ?_, anyIncompatPair_false strict args (by simpa using h2)⟩
      simp only [List.any_eq_true, not_exists, not_and, Bool.not_eq_true] at h1
      exact h1 a ha

/-- every unreduced `+`/`-` went through that verification: when `operate` leaves an operation, its two
    operands are pairwise acceptable (so `1px + 2deg`, and under `strict` `1 + 2px`, cannot be emitted). -/
theorem C16_operate_rejects_incompatible (cfg : Cfg) (op : Op) (a b : Rat) (ua ub : CUnit)
    (hop : op = .plus ∨ op = .minus) (hbad : possiblyCompatible cfg.strict ua ub = false)
    (hnc : compatible ua ub = false) :
    ∃ e, operate cfg false op (.number a ua) (.number b ub) = .err e := by
  have hv : ∃ e, verifyCompatible cfg.strict [.number a ua, .number b ub] = .err e := by
    unfold verifyCompatible
    split
    · exact ⟨_, rfl⟩
    · split
      · exact ⟨_, rfl⟩
      · rename_i h2; simp [anyIncompatPair, incompatWith, hbad] at h2
  obtain ⟨e, he⟩ := hv
  refine ⟨e, ?_⟩
  rcases hop with h | h <;> subst h <;>
    simp [operate, simplify, hnc, he, Res.bind]

example : compile Cfg.spec (.calculation .calc (.cons (.operation (.number 1 (CUnit.single .px)) .plus
    (.number 2 (CUnit.single .deg))) .nil)) = .err .incompatible := by decide +kernel

private def d41Src : CalcArg :=
  .calculation .calc (.cons (.operation (.number 1 CUnit.none) .plus (.number 2 (CUnit.single .px))) .nil)

/-- D41 (fixed in /repo by b057818): `has_possibly_compatible_units` used to treat a unitless number
    as possibly compatible with every unit, so `calc(1 + 2px)` was emitted as is; the code as it
    stands rejects it. -/
theorem C16_asFound_unitless_accepted :
    compile Cfg.asFound d41Src = .ok ⟨d41Src, false⟩ ∧ compile Cfg.now d41Src = .err .incompatible := by
  constructor <;> decide +kernel

/-! ### printing and re-reading -/

/-- **print_reparse_preserves_value**: the token sequence `write_calculation_arg` emits, with its
    parenthesisation rules (`parenthesize_calculation_rhs`, the left-operand rule, parentheses around
    interpolation), read back by the CSS grammar (`parseToks`: `*`,`/` bind tighter than `+`,`-`, all
    left-associative, fuel `4·|tokens| + 3`) denotes the same quantity as the tree that was printed —
    for every well-formed tree and every environment, not only for simplifier outputs. -/
theorem C16_print_parse_value (a : CalcArg) (hwf : a.wf = true) :
    ∃ a', parseToks (pr a) = some a' ∧ ∀ ρ, evalCalc ρ a' = evalCalc ρ a := by
  obtain ⟨a', f, he, hp⟩ := print_parse_exists a hwf
  exact ⟨a', parseToks_of_fuel _ f a' (hp f (Nat.le_refl f)), he⟩

/-- the reader is insensitive to extra fuel, and `4·|tokens| + 3` is enough whenever any fuel is. -/
theorem C16_parse_fuel_sufficient (ts : List Tok) (f : Nat) (a : CalcArg) (h : pSum f ts = some (a, [])) :
    parseToks ts = some a ∧ ∀ g, f ≤ g → pSum g ts = some (a, []) :=
  ⟨parseToks_of_fuel ts f a h, fun _ hg => (mono_le hg).2.2.2.2.1 _ _ h⟩

example : parseToks (pr (.operation (.number 1 (CUnit.single .px)) .minus
      (.operation (.number 2 (CUnit.single .em)) .minus (.number 3 (CUnit.single .vw))))) =
    some (.operation (.number 1 (CUnit.single .px)) .minus
      (.operation (.number 2 (CUnit.single .em)) .minus (.number 3 (CUnit.single .vw)))) := by decide +kernel
example : parseToks (pr (.operation (.number 1 (CUnit.single .px)) .plus
      (.operation (.number 2 (CUnit.single .em)) .minus (.number 3 (CUnit.single .vw))))) =
    some (.operation (.operation (.number 1 (CUnit.single .px)) .plus (.number 2 (CUnit.single .em))) .minus
      (.number 3 (CUnit.single .vw))) := by decide +kernel

/-
  Outside the model (tested by the correspondence, not proved):
    * f64 arithmetic and the 10-digit printing (the model is exact; the check bounds the error);
    * units outside the conversion table other than em rem vw % (ex ch vh vmin vmax lh fr …, unknown units);
    * `rad`: π is the double `std::f64::consts::PI` (`piF`), as in the code's table, not the real π;
    * opaque operands are values: `var()`/interpolation text is not re-tokenised (an argument list
      containing `#{}` at depth 0 is one string for grass; the check compares it with the textual
      substitution);
    * division by zero: the model stops with `nonFinite` exactly at a zero divisor
      (`C16_operate_nonfinite_iff`); grass continues with IEEE ±Infinity/NaN through later operations
      and prints `Infinitypx` / `NaNpx` (not CSS; dart-sass prints `calc(infinity * 1px)`); only the
      first non-finite number (`nonFiniteTop`) is modelled and compared, the propagation is covered by
      "no panic" in the correspondence only; the value theorems speak about `ok` results;
    * the fallback of `min()`/`max()` to the Sass functions when the arguments are not calculation
      syntax (parse/value.rs:1727) and the textual treatment of an argument list containing `#{}`
      (parse/value.rs:1442; compared textually by the check);
    * `@supports` declarations (`simplify = false`) and `as_slash` numbers.
-/

end Grass.Calc
