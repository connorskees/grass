import GrassProofs.Lemmas.SerializeRead
import GrassProofs.Lemmas.SerializeReadTree
/-
  C06 — Output style changes only formatting, never meaning or evaluation.

  Theorems about the serializer model `Grass/Serialize.lean` (tied to grass byte for byte in both
  styles by tools/props/c05.py / c06.py).

  Full statement (kept visible):
    for every stylesheet, canon (read (compile .compressed src)) = canon (read (compile .expanded src)),
    and every SassScript-visible value is the same in both runs.
  Proved here for the model: comment retention, absence of a style parameter in evaluation, and the
  read-back equality of both styles for the whole serialised subset (C06_style_equiv_model).
  Number / colour spelling equivalences belong to C07 / C15 (values are opaque text in this model);
  SassScript visibility is checked on grass directly.
-/
namespace Grass.Serialize

/-- Compressed output keeps a comment exactly when it starts with `/*!`; expanded keeps every
    comment (`write_comment`, serializer.rs:998). -/
theorem C06_comment_retention (text : Str) (col ind : Nat) :
    (visitStmt .compressed ind (.comment text col)).2 =
      (if startsWith text (lit "/*!") then commentOut text col else []) ∧
    (visitStmt .expanded ind (.comment text col)).2 = spaces ind ++ commentOut text col := by
  rw [visit_comment, visit_comment]
  constructor
  · cases h : startsWith text (lit "/*!") <;> simp [commentKept, Style.isCompressed, indentOut, h]
  · simp [commentKept, Style.isCompressed, indentOut]

example : (visitStmt .compressed 0 (.comment ['/', '*', ' ', 'x', ' ', '*', '/'] 0)).2 = [] ∧
    (visitStmt .compressed 0 (.comment ['/', '*', '!', 'x', '*', '/'] 0)).2 = ['/', '*', '!', 'x', '*', '/'] := by
  decide +kernel

/-- The model of the pipeline is `serialize st cs (eval src)`: evaluation produces the statement tree
    without looking at the style, so whatever `eval` is, both styles serialise the SAME tree.
    True by construction (there is no style parameter to `eval`); stated so that a model in which
    evaluation did take the style could not be substituted silently.  The as-found deviations of
    grass from this (findings C06-F1/F2/F3) are found by the direct check, not modelled. -/
theorem C06_eval_style_free {Src : Type} (eval : Src → List Stmt) (src : Src) (cs : Bool) :
    ∀ st : Style, ∃ t, t = eval src ∧ serialize st cs t = serialize st cs (eval src) :=
  fun _ => ⟨eval src, rfl, rfl⟩

/-- Style equivalence of the model at full strength: for every tree of the serialised subset that
    satisfies the style-free guard `treeG`, reading the compressed and the expanded serialisation
    gives the SAME canonical tree (same at-rules and rules in the same order, same selectors,
    declarations, values and kept comments) — non-`/*!` comments, optional semicolons, indentation,
    blank lines and the optional spaces after `,` `:` and around combinators / `/` are the only
    differences, and they are not in the canonical tree.
    Guards: `treeG t` (selector combinators are `>` `+` `~`, the other opaque pieces — compounds,
    property names, unquoted atoms, queries, at-rule headers — are flat, unquoted atoms do not start
    with `*`, headers do not start with whitespace or `/`, comments are `/* … */` tokens; quoted
    strings are unconstrained) and no BOM/`@charset` at the start of the body.
    The canonical text (`nm`) normalises whitespace outside strings and comments — a run becomes one
    space and vanishes at the ends and next to `, > + ~` (preludes) or `, / :` (items) — so `a b` and
    `ab`, `a > b` and `a b` stay different; number/colour spellings are opaque text here (C07/C15). -/
theorem C06_style_equiv_model (cs cs' : Bool) (t : List Stmt) (h : treeG t = true)
    (hc : hasCharsetOrBom (serialize .compressed false t) = false)
    (he : hasCharsetOrBom (serialize .expanded false t) = false) :
    readTree (serialize .compressed cs t) = readTree (serialize .expanded cs' t) ∧
    readTree (serialize .expanded cs' t) = some (canonTop .expanded t) := by
  rw [readTree_serialize .compressed cs t (treeG_readable _ t h) hc,
    readTree_serialize .expanded cs' t (treeG_readable _ t h) he, treeG_canon t h]
  exact ⟨rfl, rfl⟩

example : treeG
    [.rule true [⟨false, [.compound [.text ['a']], .comb '>', .compound [.text ['b']]]⟩, ⟨false, [.compound [.placeholder ['p']]]⟩]
      (.cons (.decl ['k'] false (.list .slash [.quoted ['{', ';'], .raw ['v'], .raw []]))
        (.cons (.comment ['/', '*', ' ', 'x', ' ', '*', '/'] 2) .nil)),
     .unknown false ['f'] [] false .nil] = true := by decide +kernel

/-- Exact read-back on declaration-only trees (a list of style rules, each with one compound
    selector and declarations whose names and values are single CSS words — `SRule.ok`): `readCss`
    returns the rule list of the tree verbatim from BOTH serialisations.  Unlike `canonTop` this
    involves no whitespace normalisation: words contain no whitespace. -/
theorem C06_decl_only_exact_readback (t : List SRule) (h : t.all SRule.ok = true) :
    readCss (serialize .compressed false (t.map SRule.toStmt)) =
      readCss (serialize .expanded false (t.map SRule.toStmt)) ∧
    readCss (serialize .expanded false (t.map SRule.toStmt)) = some (rulesOf t) := by
  rw [readCss_serialize .compressed t h, readCss_serialize .expanded t h]
  exact ⟨rfl, rfl⟩

example : ([⟨['a'], [(['b'], ['c']), (['d'], ['e'])]⟩, ⟨['x'], []⟩] : List SRule).all SRule.ok = true := by
  decide +kernel

example : readCss (serialize .expanded false
    (([⟨['a'], [(['b'], ['c']), (['d'], ['e'])]⟩, ⟨['x'], []⟩] : List SRule).map SRule.toStmt)) =
    some [(['a'], [(['b'], ['c']), (['d'], ['e'])])] := by decide +kernel

end Grass.Serialize
