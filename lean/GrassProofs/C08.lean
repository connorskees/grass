import Grass.Units
import GrassProofs.Lemmas.NumScan
/-
  C08 — Units convert by the CSS ratios and unit algebra is consistent.
  Property theorems about `Grass/Units.lean` and the *generated* tables
  `Grass/Generated/UnitTable.lean`, `UnitKinds.lean` (regenerated from the Rust source by
  `tools/translate_units.py` on every run of the check: a changed constant or kind makes the
  `decide +kernel` checks below fail to build).

  Factors are symbolic (`Sym` = rational × power of π), so `rad` is exact.  The kernel checks run on
  pairs of naturals (`SymN`, cross-multiplication); the statements are lifted to `Sym` by lemmas, and
  reflexivity / inverse / transitivity follow algebraically from `factor u v = size v / size u`.
-/
namespace Grass.Units
open Grass.Generated Grass.Num

theorem KU.mem_all (u : KU) : u ∈ KU.all := by cases u <;> decide +kernel

/-! ## facts about every unit, from one evaluation

  A statement about all known units (or all pairs) is written as a Boolean `KU.all.all …`, proved by kernel
  evaluation (`decide +kernel`), and read off for a given unit through the next two lemmas. -/

theorem KU.forall_of_all {P : KU → Bool} (h : (KU.all.all fun t => P t) = true) (t : KU) : P t = true :=
  List.all_eq_true.1 h t (KU.mem_all t)

theorem KU.forall₂_of_all {P : KU → KU → Bool} (h : (KU.all.all fun t => KU.all.all fun f => P t f) = true)
    (t f : KU) : P t f = true :=
  KU.forall_of_all (P := fun f => P t f) (KU.forall_of_all (P := fun t => KU.all.all fun f => P t f) h t) f

/-! ## `Sym` algebra -/
theorem Sym.ext' {a b : Sym} (hq : a.q = b.q) (hk : a.k = b.k) : a = b := by
  cases a; cases b; simp_all

theorem Sym.mul_comm (a b : Sym) : a.mul b = b.mul a := by
  apply Sym.ext' <;> simp only [Sym.mul] <;> grind
theorem Sym.mul_assoc (a b c : Sym) : (a.mul b).mul c = a.mul (b.mul c) := by
  apply Sym.ext' <;> simp only [Sym.mul] <;> grind
theorem Sym.mul_one (a : Sym) : a.mul Sym.one = a := by
  apply Sym.ext' <;> simp only [Sym.mul, Sym.one] <;> grind
theorem Sym.one_mul (a : Sym) : Sym.one.mul a = a := by
  apply Sym.ext' <;> simp only [Sym.mul, Sym.one] <;> grind
theorem Sym.mul_inv_cancel (a : Sym) (h : a.q ≠ 0) : a.mul a.inv = Sym.one := by
  apply Sym.ext' <;> simp only [Sym.mul, Sym.inv, Sym.one] <;> grind
theorem Sym.div_mul_cancel (a b : Sym) (hb : b.q ≠ 0) : (a.div b).mul b = a := by
  rw [Sym.div, Sym.mul_assoc, Sym.mul_comm b.inv, Sym.mul_inv_cancel b hb, Sym.mul_one]

theorem Sym.mul_left_comm (a b c : Sym) : a.mul (b.mul c) = b.mul (a.mul c) := by
  apply Sym.ext' <;> simp only [Sym.mul] <;> grind
theorem Sym.inv_mul (a b : Sym) : (a.mul b).inv = a.inv.mul b.inv := by
  apply Sym.ext' <;> simp only [Sym.mul, Sym.inv] <;> grind
theorem Sym.mul_q_ne (a b : Sym) (ha : a.q ≠ 0) (hb : b.q ≠ 0) : (a.mul b).q ≠ 0 := by
  simp only [Sym.mul]; grind
theorem Sym.inv_q_ne (a : Sym) (ha : a.q ≠ 0) : a.inv.q ≠ 0 := by
  simp only [Sym.inv]; grind
theorem Sym.mul_right_cancel (a b c : Sym) (hc : c.q ≠ 0) (h : a.mul c = b.mul c) : a = b := by
  have := congrArg (fun x => x.mul c.inv) h
  simp only [Sym.mul_assoc, Sym.mul_inv_cancel c hc, Sym.mul_one] at this
  exact this

/-! ## naturals to rationals -/
theorem natdiv_eq (a b c d : Nat) (hb : b ≠ 0) (hd : d ≠ 0) (h : a * d = c * b) :
    (a : Rat) / (b : Rat) = (c : Rat) / (d : Rat) := by
  have hb' : (b : Rat) ≠ 0 := by intro e; rw [Rat.natCast_eq_zero_iff] at e; exact hb e
  have hd' : (d : Rat) ≠ 0 := by intro e; rw [Rat.natCast_eq_zero_iff] at e; exact hd e
  have hc : (a : Rat) * (d : Rat) = (c : Rat) * (b : Rat) := by
    have := congrArg (fun n : Nat => (n : Rat)) h
    simpa [Rat.natCast_mul] using this
  grind

theorem natdiv_ne (a b : Nat) (ha : a ≠ 0) (hb : b ≠ 0) : (a : Rat) / (b : Rat) ≠ 0 := by
  have ha' : (a : Rat) ≠ 0 := by intro e; rw [Rat.natCast_eq_zero_iff] at e; exact ha e
  have hb' : (b : Rat) ≠ 0 := by intro e; rw [Rat.natCast_eq_zero_iff] at e; exact hb e
  grind

theorem SymN.ok_iff (a : SymN) : a.ok = true ↔ a.n ≠ 0 ∧ a.d ≠ 0 := by
  simp [SymN.ok]

theorem SymN.toSym_q_ne (a : SymN) (h : a.ok = true) : a.toSym.q ≠ 0 := by
  rw [SymN.ok_iff] at h; exact natdiv_ne _ _ h.1 h.2

theorem SymN.toSym_mul (a b : SymN) (ha : a.ok = true) (hb : b.ok = true) :
    (a.mul b).toSym = a.toSym.mul b.toSym := by
  rw [SymN.ok_iff] at ha hb
  have h1 : (a.d : Rat) ≠ 0 := by intro e; rw [Rat.natCast_eq_zero_iff] at e; exact ha.2 e
  have h2 : (b.d : Rat) ≠ 0 := by intro e; rw [Rat.natCast_eq_zero_iff] at e; exact hb.2 e
  apply Sym.ext'
  · simp only [SymN.toSym, SymN.mul, Sym.mul, Rat.natCast_mul]; grind
  · rfl

theorem SymN.toSym_div (a b : SymN) (ha : a.ok = true) (hb : b.ok = true) :
    (a.div b).toSym = a.toSym.div b.toSym := by
  rw [SymN.ok_iff] at ha hb
  have h1 : (a.d : Rat) ≠ 0 := by intro e; rw [Rat.natCast_eq_zero_iff] at e; exact ha.2 e
  have h2 : (b.d : Rat) ≠ 0 := by intro e; rw [Rat.natCast_eq_zero_iff] at e; exact hb.2 e
  have h3 : (b.n : Rat) ≠ 0 := by intro e; rw [Rat.natCast_eq_zero_iff] at e; exact hb.1 e
  apply Sym.ext'
  · simp only [SymN.toSym, SymN.div, Sym.div, Sym.mul, Sym.inv, Rat.natCast_mul]; grind
  · simp only [SymN.toSym, SymN.div, Sym.div, Sym.mul, Sym.inv]; omega

theorem SymN.ok_mul (a b : SymN) (ha : a.ok = true) (hb : b.ok = true) : (a.mul b).ok = true := by
  rw [SymN.ok_iff] at *; simp only [SymN.mul]
  exact ⟨Nat.mul_ne_zero ha.1 hb.1, Nat.mul_ne_zero ha.2 hb.2⟩
theorem SymN.ok_div (a b : SymN) (ha : a.ok = true) (hb : b.ok = true) : (a.div b).ok = true := by
  rw [SymN.ok_iff] at *; simp only [SymN.div]
  exact ⟨Nat.mul_ne_zero ha.1 hb.2, Nat.mul_ne_zero ha.2 hb.1⟩

theorem symNOf_spec (e : CExpr) (h : cexprOk e = true) : (symNOf e).ok = true ∧ symOf e = (symNOf e).toSym := by
  induction e with
  | lit n d => exact ⟨by simpa [cexprOk, symNOf, SymN.ok] using h, rfl⟩
  | pi => exact ⟨by decide, by decide +kernel⟩
  | mul a b iha ihb =>
    simp only [cexprOk, Bool.and_eq_true] at h
    obtain ⟨oa, ea⟩ := iha h.1; obtain ⟨ob, eb⟩ := ihb h.2
    exact ⟨SymN.ok_mul _ _ oa ob, by simp only [symOf, symNOf]; rw [SymN.toSym_mul _ _ oa ob, ea, eb]⟩
  | div a b iha ihb =>
    simp only [cexprOk, Bool.and_eq_true] at h
    obtain ⟨oa, ea⟩ := iha h.1; obtain ⟨ob, eb⟩ := ihb h.2
    exact ⟨SymN.ok_div _ _ oa ob, by simp only [symOf, symNOf]; rw [SymN.toSym_div _ _ oa ob, ea, eb]⟩

theorem SymN.eqv_toSym (a b : SymN) (ha : a.ok = true) (hb : b.ok = true) (h : a.eqv b = true) : a.toSym = b.toSym := by
  rw [SymN.ok_iff] at ha hb
  simp only [SymN.eqv, Bool.and_eq_true, beq_iff_eq] at h
  apply Sym.ext'
  · exact natdiv_eq _ _ _ _ ha.2 hb.2 h.1
  · exact h.2

/-! ## kernel checks over the generated table: `Nat` arithmetic only -/
def tableOk : Bool := KU.all.all fun t => (tableRow t).all fun e => cexprOk e.2
def sizesOk : Bool := KU.all.all fun u => match cssSizeN u with | some p => p.2.ok | none => true
def tableCheckN : Bool := KU.all.all fun t => KU.all.all fun f =>
  match tableGet t f, cssSpecN t f with
  | some e, some s => (symNOf e).eqv s
  | none, none => true
  | _, _ => false

theorem tableOk_true : tableOk = true := by decide +kernel
theorem sizesOk_true : sizesOk = true := by decide +kernel
theorem tableCheckN_true : tableCheckN = true := by decide +kernel

theorem KU.ofIdx_idx (u : KU) : KU.ofIdx u.idx = u := by cases u <;> rfl

theorem KU.idx_inj {u v : KU} (h : u.idx = v.idx) : u = v := by
  rw [← KU.ofIdx_idx u, ← KU.ofIdx_idx v, h]

theorem lookupRow_mem (f : KU) (e : CExpr) : ∀ row, lookupRow f row = some e → (f, e) ∈ row := by
  intro row
  induction row with
  | nil => intro h; cases h
  | cons x r ih =>
    obtain ⟨f', e'⟩ := x
    intro h
    unfold lookupRow at h
    split at h
    · rename_i hc
      injection h with h; subst h
      have : f' = f := KU.idx_inj (by simpa using hc)
      subst this; simp
    · exact List.mem_cons_of_mem _ (ih h)

theorem table_cexprOk (t f : KU) (e : CExpr) (h : tableGet t f = some e) : cexprOk e = true := by
  have hm := lookupRow_mem f e _ h
  have h1 := KU.forall_of_all (P := fun t => (tableRow t).all fun e => cexprOk e.2) tableOk_true t
  exact List.all_eq_true.1 h1 _ hm

theorem cssSizeN_ok (u : KU) (d : Dim) (s : SymN) (h : cssSizeN u = some (d, s)) : s.ok = true := by
  have := KU.forall_of_all (P := fun u => match cssSizeN u with | some p => p.2.ok | none => true) sizesOk_true u
  rw [h] at this; exact this

theorem cssSpecN_ok (t f : KU) (s : SymN) (h : cssSpecN t f = some s) : s.ok = true := by
  unfold cssSpecN at h
  cases h1 : cssSizeN t with
  | none => simp [h1] at h
  | some p =>
    cases h2 : cssSizeN f with
    | none => simp [h1, h2] at h
    | some q =>
      obtain ⟨d1, s1⟩ := p; obtain ⟨d2, s2⟩ := q
      simp only [h1, h2] at h
      split at h
      · injection h with h; subst h
        exact SymN.ok_div _ _ (cssSizeN_ok f d2 s2 h2) (cssSizeN_ok t d1 s1 h1)
      · cases h

theorem cssSpec_eq (t f : KU) : cssSpec t f = (cssSpecN t f).map SymN.toSym := by
  unfold cssSpec cssSpecN cssSize
  cases h1 : cssSizeN t with
  | none => simp
  | some p =>
    cases h2 : cssSizeN f with
    | none => simp
    | some q =>
      obtain ⟨d1, s1⟩ := p; obtain ⟨d2, s2⟩ := q
      simp only [Option.map_some]
      by_cases hd : d1 = d2
      · simp only [hd, if_true, Option.map_some]
        rw [SymN.toSym_div _ _ (cssSizeN_ok f d2 s2 h2) (cssSizeN_ok t d1 s1 h1)]
      · simp [hd]

/-! ## the table is the CSS table -/

/-- HashMap semantics: no key is inserted twice into a row (the translator also rejects duplicate rows). -/
theorem C08_table_keys_nodup (t : KU) : ((tableRow t).map fun e => e.1.idx).Nodup :=
  of_decide_eq_true (KU.forall_of_all (P := fun t => decide ((tableRow t).map fun e => e.1.idx).Nodup) (by decide +kernel) t)

/-- **Every entry of the generated table equals the ratio of the property statement, and the table
    has an entry exactly where the CSS ratios define one** (both directions: `none = none` too). -/
theorem C08_table_eq_css (t f : KU) : factorSym t f = cssSpec t f := by
  have hc := KU.forall₂_of_all (P := fun t f => match tableGet t f, cssSpecN t f with
    | some e, some s => (symNOf e).eqv s
    | none, none => true
    | _, _ => false) tableCheckN_true t f
  rw [cssSpec_eq]
  unfold factorSym
  cases h1 : tableGet t f with
  | none =>
    cases h2 : cssSpecN t f with
    | none => rfl
    | some s => simp [h1, h2] at hc
  | some e =>
    cases h2 : cssSpecN t f with
    | none => simp [h1, h2] at hc
    | some s =>
      simp only [h1, h2] at hc
      obtain ⟨oe, ee⟩ := symNOf_spec e (table_cexprOk t f e h1)
      simp only [Option.map_some]
      rw [ee, SymN.eqv_toSym _ _ oe (cssSpecN_ok t f s h2) hc]
example : factorSym .In .Cm = some ⟨50 / 127, 0⟩ ∧ factorSym .Deg .Rad = some ⟨180, -1⟩ ∧
    factorSym .Px .Em = none := by decide +kernel

/-! ## coherence of the factors — algebraically, from `factor u v = size v / size u` -/

theorem cssSize_q_ne (u : KU) (d : Dim) (s : Sym) (h : cssSize u = some (d, s)) : s.q ≠ 0 := by
  unfold cssSize at h
  cases h1 : cssSizeN u with
  | none => simp [h1] at h
  | some p =>
    simp only [h1, Option.map_some, Option.some.injEq, Prod.mk.injEq] at h
    rw [← h.2]
    exact SymN.toSym_q_ne _ (cssSizeN_ok u p.1 p.2 h1)

theorem factor_some_iff (u v : KU) (x : Sym) :
    factorSym u v = some x ↔ ∃ d su sv, cssSize u = some (d, su) ∧ cssSize v = some (d, sv) ∧ x = sv.div su := by
  rw [C08_table_eq_css]
  unfold cssSpec
  cases h1 : cssSize u with
  | none => simp
  | some p =>
    cases h2 : cssSize v with
    | none => simp
    | some q =>
      obtain ⟨d1, s1⟩ := p; obtain ⟨d2, s2⟩ := q
      simp only
      by_cases hd : d1 = d2
      · subst hd
        simp only [if_true, Option.some.injEq]
        constructor
        · intro h; exact ⟨d1, s1, s2, rfl, rfl, h.symm⟩
        · rintro ⟨d, su, sv, h3, h4, h5⟩
          injection h3 with h3 h3'; injection h4 with h4 h4'
          subst h3'; subst h4'; exact h5.symm
      · simp only [hd, if_false]
        constructor
        · intro h; cases h
        · rintro ⟨d, su, sv, h3, h4, _⟩
          injection h3 with h3; injection h4 with h4
          injection h3 with h3 _; injection h4 with h4 _
          exact absurd (h3.trans h4.symm) hd

/-- converting a convertible unit to itself is the identity -/
theorem C08_factor_refl (u : KU) (h : (factorSym u u).isSome = true) : factorSym u u = some Sym.one := by
  obtain ⟨x, hx⟩ := Option.isSome_iff_exists.1 h
  obtain ⟨d, su, sv, h1, h2, h3⟩ := (factor_some_iff u u x).1 hx
  rw [h1] at h2; injection h2 with h2; injection h2 with _ h2; subst h2
  rw [hx, h3, Sym.div, Sym.mul_inv_cancel su (cssSize_q_ne u d su h1)]

/-- there and back is the identity -/
theorem C08_factor_inverse (u v : KU) (a b : Sym) (h1 : factorSym u v = some a) (h2 : factorSym v u = some b) :
    a.mul b = Sym.one := by
  obtain ⟨d, su, sv, e1, e2, e3⟩ := (factor_some_iff u v a).1 h1
  obtain ⟨d', sv', su', f1, f2, f3⟩ := (factor_some_iff v u b).1 h2
  rw [e2] at f1; rw [e1] at f2
  injection f1 with f1; injection f2 with f2
  injection f1 with _ f1; injection f2 with _ f2
  subst f1; subst f2; subst e3; subst f3
  have hu := cssSize_q_ne u d su e1
  have hv := cssSize_q_ne v d sv e2
  apply Sym.ext' <;> simp only [Sym.div, Sym.mul, Sym.inv, Sym.one]
  · grind
  · omega

/-- entries come in pairs: `u ← v` exists iff `v ← u` exists -/
theorem C08_factor_pairs (u v : KU) : (factorSym u v).isSome = (factorSym v u).isSome := by
  have key : ∀ u v, (factorSym u v).isSome = true → (factorSym v u).isSome = true := by
    intro u v h
    obtain ⟨x, hx⟩ := Option.isSome_iff_exists.1 h
    obtain ⟨d, su, sv, e1, e2, _⟩ := (factor_some_iff u v x).1 hx
    exact Option.isSome_iff_exists.2 ⟨_, (factor_some_iff v u _).2 ⟨d, sv, su, e2, e1, rfl⟩⟩
  cases h1 : (factorSym u v).isSome <;> cases h2 : (factorSym v u).isSome <;> simp_all

/-- conversion is transitive: `u ← v` composed with `v ← w` is `u ← w` -/
theorem C08_factor_transitive (u v w : KU) (a b : Sym) (h1 : factorSym u v = some a) (h2 : factorSym v w = some b) :
    factorSym u w = some (a.mul b) := by
  obtain ⟨d, su, sv, e1, e2, e3⟩ := (factor_some_iff u v a).1 h1
  obtain ⟨d', sv', sw, f1, f2, f3⟩ := (factor_some_iff v w b).1 h2
  rw [e2] at f1
  injection f1 with f1; injection f1 with fd f1
  subst f1; subst fd; subst e3; subst f3
  apply (factor_some_iff u w _).2
  refine ⟨d, su, sw, e1, f2, ?_⟩
  have hv := cssSize_q_ne v d sv e2
  apply Sym.ext' <;> simp only [Sym.div, Sym.mul, Sym.inv]
  · grind
  · omega
example : (factorSym .In .Cm, factorSym .Cm .Q, factorSym .In .Q) =
    (some ⟨50 / 127, 0⟩, some ⟨1 / 40, 0⟩, some ⟨5 / 508, 0⟩) := by decide +kernel

/-! ## compatibility predicate = table keys = same convertible kind -/

theorem isSome_factorSym (u v : KU) : (factorSym u v).isSome = (tableGet u v).isSome := by
  unfold factorSym; cases tableGet u v <;> rfl

theorem kind_ne_none (u : KU) : u.kind ≠ Kind.none :=
  of_decide_eq_true (KU.forall_of_all (P := fun u => decide (u.kind ≠ Kind.none)) (by decide +kernel) u)

theorem comparable_known (u v : KU) :
    comparable (.one (.known u)) (.one (.known v)) =
      if selfOnly u.kind then decide (u = v) else decide (v.kind = u.kind) := by
  have hk : ∀ k : KU, (U.one (.known k)).kind = k.kind := fun _ => rfl
  simp only [comparable, hk, kind_ne_none u, reduceCtorEq, if_false, U.one.injEq, AU.known.injEq]

theorem selfOnly_eq_canonical (k : Kind) (h : k ≠ Kind.none) : selfOnly k = k.canonical.isNone := by
  cases k <;> first | rfl | exact absurd rfl h

/-- The table has an entry exactly for two units of the same kind when that kind has a
    canonical unit (absolute lengths, angles, times, frequencies, resolutions). -/
theorem C08_entry_iff_same_kind (u v : KU) :
    (factorSym u v).isSome = (decide (u.kind = v.kind) && u.kind.canonical.isSome) := by
  rw [isSome_factorSym]
  have := KU.forall₂_of_all (P := fun u v => (tableGet u v).isSome == (decide (u.kind = v.kind) && u.kind.canonical.isSome))
    (by decide +kernel) u v
  exact beq_iff_eq.1 this

/-- `Unit::comparable` on two known units is true exactly when they are equal or the table has an
    entry (the predicate is written separately from the table in the Rust source). -/
theorem C08_comparable_iff_entry (u v : KU) :
    comparable (.one (.known u)) (.one (.known v)) = (decide (u = v) || (factorSym u v).isSome) := by
  rw [comparable_known, C08_entry_iff_same_kind, selfOnly_eq_canonical _ (kind_ne_none u)]
  cases u.kind.canonical with
  | none => simp
  | some c =>
    by_cases h : u = v
    · simp [h]
    · simp [h, eq_comm]

/-- the code's predicate agrees with convertibility by the CSS ratios -/
theorem C08_comparable_eq_spec (u v : KU) :
    comparable (.one (.known u)) (.one (.known v)) = specComparable (.one (.known u)) (.one (.known v)) := by
  rw [C08_comparable_iff_entry, C08_table_eq_css]
  by_cases h : u = v <;> simp [specComparable, h]
example : comparable (.one (.known .Px)) (.one (.known .In)) = true ∧
    comparable (.one (.known .Px)) (.one (.known .Em)) = false ∧
    comparable (.one (.known .Em)) (.one (.known .Em)) = true := by decide +kernel

theorem comparable_other (a b : U) (ha : a.kind = Kind.other) :
    comparable a b = (decide (b = .none) || decide (a = b)) := by
  by_cases hb : b = .none <;> simp [comparable, hb, ha, selfOnly]

theorem comparable_known_other (u : KU) (b : U) (hb : b.kind = Kind.other) (hne : U.one (.known u) ≠ b) :
    comparable (.one (.known u)) b = false := by
  have hn : b ≠ .none := by rintro rfl; exact absurd hb (by decide)
  have hs : ¬ selfOnly u.kind = true → Kind.other ≠ u.kind := fun h e => h (by rw [← e]; rfl)
  have hk : (U.one (.known u)).kind = u.kind := rfl
  simp only [comparable, hn, hne, hb, hk, kind_ne_none u, if_false, decide_false]
  split
  · rfl
  · exact decide_eq_false (hs ‹_›)

/-- **`math.compatible` = convertibility by the CSS ratios, for ALL units** (known, unknown, unitless,
    compound): `Unit::comparable` is true exactly when one side is unitless, the units are identical, or
    both are known units that the hand-written ratio table relates. -/
theorem C08_compatible_eq_spec_all (a b : U) : comparable a b = specComparable a b := by
  rcases a with _ | ⟨u | n⟩ | ⟨n, d⟩
  · by_cases hb : b = .none <;> simp [comparable, specComparable, hb, U.kind, kindOfNone, selfOnly]
  · rcases b with _ | ⟨v | m⟩ | ⟨n', d'⟩
    · rfl
    · exact C08_comparable_eq_spec u v
    · rw [comparable_known_other u _ rfl (by simp)]; rfl
    · rw [comparable_known_other u _ rfl (by simp)]; rfl
  · rw [comparable_other _ b rfl]; by_cases hb : b = .none <;> simp [specComparable, hb]
  · rw [comparable_other _ b rfl]; by_cases hb : b = .none <;> simp [specComparable, hb]
example : comparable (.one (.unknown 0)) (.one (.unknown 0)) = true ∧ comparable (.one (.unknown 0)) (.one (.unknown 1)) = false ∧
    comparable (.complex [.known .Px] [.known .S]) (.one (.known .Px)) = false ∧ comparable .none (.one (.known .Em)) = true := by
  decide +kernel

/-- **`comparable` is symmetric** on all units (known, unknown, unitless, compound): the specification
    is, the table having its entries in pairs. -/
theorem C08_comparable_symm (a b : U) : comparable a b = comparable b a := by
  rw [C08_compatible_eq_spec_all, C08_compatible_eq_spec_all]
  rcases a with _ | ⟨u | n⟩ | ⟨n, d⟩ <;> rcases b with _ | ⟨v | m⟩ | ⟨n', d'⟩ <;>
    simp [specComparable, eq_comm, ← C08_table_eq_css, C08_factor_pairs]

/-! ## result units and errors -/

theorem resultUnit_eq (a b : U) : resultUnit a b = if a = .none then b else a := by
  unfold resultUnit
  split
  · rename_i h; subst h; split <;> rfl
  · rfl

theorem map_eq_ok {ε α β : Type} {x : Except ε α} {f : α → β} {r : β} (h : x.map f = .ok r) :
    ∃ v, x = .ok v ∧ f v = r := by
  cases x with
  | error e => cases h
  | ok v => exact ⟨v, rfl, by injection h⟩

/-- `+`/`−`: the result takes the left operand's unit, the other operand's when the left is unitless. -/
theorem C08_result_unit_left_wins (sub : Bool) (a b r : SN) (h : addSub sub a b = .ok r) :
    r.unit = if a.unit = U.none then b.unit else a.unit := by
  unfold addSub at h
  split at h
  · cases h
  · simp only at h
    split at h
    · obtain ⟨v, _, rfl⟩ := map_eq_ok h
      exact resultUnit_eq _ _
    · rename_i hc
      split at h
      · obtain ⟨v, _, rfl⟩ := map_eq_ok h
        rw [if_neg (fun e => hc (Or.inr (Or.inl e)))]
      · cases h

/-- `%` follows the same rule -/
theorem C08_rem_result_unit (a b r : SN) (h : rem a b = .ok r) :
    r.unit = if a.unit = U.none then b.unit else a.unit := by
  unfold rem at h
  split at h
  · cases h
  · split at h
    · obtain ⟨v, _, rfl⟩ := map_eq_ok h
      exact resultUnit_eq _ _
    · cases h
example : (addSub false ⟨.fin 1, .none⟩ ⟨.fin 1, .one (.known .Px)⟩).toOption = some ⟨.fin 2, .one (.known .Px)⟩ := by
  decide +kernel

/-- **Operations on inconvertible units are errors, never silently computed**; `==` is `false`. -/
theorem C08_incomparable_is_error (a b : SN) (h : comparable a.unit b.unit = false) :
    addSub false a b = .error .incompatible ∧ addSub true a b = .error .incompatible ∧
    rem a b = .error .incompatible ∧ cmpSN a b = .error .incompatible ∧
    minMax false b a = .error .incompatible ∧ minMax true b a = .error .incompatible ∧
    eqSN a b = .ok false := by
  refine ⟨?_, ?_, ?_, ?_, ?_, ?_, ?_⟩ <;> simp [addSub, rem, cmpSN, minMax, eqSN, h]
example : comparable (.one (.known .Px)) (.one (.known .Em)) = false ∧
    comparable (.one (.known .Px)) (.one (.unknown 0)) = false := by decide +kernel

/-- `min`/`max` with the operands in the other order are errors as well (by symmetry). -/
theorem C08_incomparable_minmax (isMax : Bool) (a b : SN) (h : comparable a.unit b.unit = false) :
    minMax isMax a b = .error .incompatible := by
  have h' : comparable b.unit a.unit = false := by rw [C08_comparable_symm]; exact h
  simp [minMax, cmpSN, h']

/-! ## compound units -/

/-- numbers with compound units cannot be emitted as CSS -/
theorem C08_complex_not_serialisable (compressed : Bool) (n : SN) (h : n.unit.isComplex = true) :
    printSN false compressed n = .error .notCss := by
  simp [printSN, h]

/-- multiplying two single units never cancels: the product has the compound unit `u*v` -/
theorem C08_mul_single_units (x y : D) (u v : AU) (p : D) (hp : D.mul x y = some p) :
    mulSN ⟨x, .one u⟩ ⟨y, .one v⟩ = .ok ⟨p, .complex [u, v] []⟩ := by
  simp [mulSN, hp, multiplyUnits, multiplyUnitsG, U.parts, cancelLoopG, removeFirstG, U.mk]

/-- dividing by the same unit cancels it -/
theorem C08_div_same_unit_cancels (x y : D) (u : AU) (p : D) (hp : D.div x y = some p)
    (hq : D.div p (.fin 1) = some p) :
    divSN ⟨x, .one u⟩ ⟨y, .one u⟩ = .ok ⟨p, .none⟩ := by
  simp [divSN, hp, multiplyUnits, multiplyUnitsG, U.parts, U.invert, U.mk, cancelLoopG, removeFirstG, convFactorF,
    divByF, hq, anyConvertible, comparable]
example : (divSN ⟨.fin 1, .one (.known .In)⟩ ⟨.fin 1, .one (.known .Cm)⟩).toOption = some ⟨.fin (rnd53 (127/50)), .none⟩ := by
  decide +kernel

/-! ## value preservation of multiplication and division (exact factors)

  The executed algebra divides f64 magnitudes by f64 table constants; its rounding is outside these
  theorems.  They are about the same code (`multiplyUnitsG`, shared with the executed instance)
  instantiated with the symbolic factors: `C08_mul_value_preserving`, `C08_div_value_preserving`.
  `C08_mul_div_units_agree` ties the two instances: they always produce the same units. -/

/-- what magnitudes are assigned to: the base unit of each convertible dimension and every other
    (relative, unknown, `%`, `fr`) atomic unit -/
inductive Base where
  | dim (d : Dim)
  | opaque (a : AU)
  deriving DecidableEq

abbrev Assignment := Base → Rat

/-- the quantity one atomic unit denotes: its CSS size times the magnitude of its base -/
def auDen (ρ : Assignment) (a : AU) : Sym :=
  match a with
  | .known k =>
    match cssSize k with
    | some (d, s) => s.mul ⟨ρ (.dim d), 0⟩
    | none => ⟨ρ (.opaque a), 0⟩
  | .unknown _ => ⟨ρ (.opaque a), 0⟩

def prodDen (ρ : Assignment) : List AU → Sym
  | [] => Sym.one
  | a :: l => (auDen ρ a).mul (prodDen ρ l)

def unitDen (ρ : Assignment) (u : U) : Sym := (prodDen ρ u.parts.1).div (prodDen ρ u.parts.2)

/-- the quantity a number with (compound) units denotes under `ρ` -/
def denote (ρ : Assignment) (x : SX) : Sym := x.val.mul (unitDen ρ x.unit)

theorem auDen_q_ne (ρ : Assignment) (hρ : ∀ b, 0 < ρ b) (a : AU) : (auDen ρ a).q ≠ 0 := by
  unfold auDen
  cases a with
  | unknown n => simp only; have := hρ (.opaque (.unknown n)); grind
  | known k =>
    simp only
    cases h : cssSize k with
    | none => simp only; have := hρ (.opaque (.known k)); grind
    | some p =>
      obtain ⟨d, s⟩ := p
      simp only [Sym.mul]
      have h1 := cssSize_q_ne k d s h
      have h2 := hρ (.dim d)
      intro e
      have : s.q = 0 ∨ ρ (.dim d) = 0 := by
        rcases Rat.mul_eq_zero.1 e with h | h
        · exact Or.inl h
        · exact Or.inr h
      grind

theorem prodDen_q_ne (ρ : Assignment) (hρ : ∀ b, 0 < ρ b) (l : List AU) : (prodDen ρ l).q ≠ 0 := by
  induction l with
  | nil => simp [prodDen, Sym.one]
  | cons a l ih => exact Sym.mul_q_ne _ _ (auDen_q_ne ρ hρ a) ih

theorem prodDen_append (ρ : Assignment) (l₁ l₂ : List AU) :
    prodDen ρ (l₁ ++ l₂) = (prodDen ρ l₁).mul (prodDen ρ l₂) := by
  induction l₁ with
  | nil => simp [prodDen, Sym.one_mul]
  | cons a l ih => simp only [List.cons_append, prodDen, ih, Sym.mul_assoc]

theorem factor_den (ρ : Assignment) (d n : AU) (f : Sym) (h : convFactorS d n = some f) :
    auDen ρ d = f.mul (auDen ρ n) ∧ f.q ≠ 0 := by
  unfold convFactorS at h
  by_cases e : d = n
  · subst e
    simp only [if_true] at h
    injection h with h; subst h
    exact ⟨(Sym.one_mul _).symm, by simp [Sym.one]⟩
  · simp only [e, if_false] at h
    cases d with
    | unknown _ => simp at h
    | known kd =>
      cases n with
      | unknown _ => simp at h
      | known kn =>
        simp only at h
        obtain ⟨dim, sn, sd, h1, h2, h3⟩ := (factor_some_iff kn kd f).1 h
        have hn := cssSize_q_ne kn dim sn h1
        have hd := cssSize_q_ne kd dim sd h2
        subst h3
        constructor
        · simp only [auDen, h1, h2]
          apply Sym.ext' <;> simp only [Sym.div, Sym.mul, Sym.inv]
          · grind
          · omega
        · simp only [Sym.div, Sym.mul, Sym.inv]; grind

theorem removeFirst_spec (ρ : Assignment) (n : AU) : ∀ (ds ds' : List AU) (f : Sym),
    removeFirstG convFactorS n ds = some (f, ds') →
    prodDen ρ ds = (f.mul (auDen ρ n)).mul (prodDen ρ ds') ∧ f.q ≠ 0 := by
  intro ds
  induction ds with
  | nil => intro ds' f h; cases h
  | cons d ds ih =>
    intro ds' f h
    unfold removeFirstG at h
    cases hc : convFactorS d n with
    | some g =>
      simp only [hc] at h
      injection h with h; injection h with h1 h2; subst h1; subst h2
      obtain ⟨e1, e2⟩ := factor_den ρ d n g hc
      exact ⟨by simp only [prodDen, e1], e2⟩
    | none =>
      simp only [hc] at h
      cases hr : removeFirstG convFactorS n ds with
      | none => simp [hr] at h
      | some p =>
        simp only [hr, Option.map_some] at h
        injection h with h; injection h with h1 h2; subst h1; subst h2
        obtain ⟨e1, e2⟩ := ih p.2 p.1 (by rw [hr])
        refine ⟨?_, e2⟩
        simp only [prodDen, e1]
        rw [Sym.mul_left_comm]

/-- invariant of one cancellation loop, cross-multiplied (no inverses) -/
theorem cancelLoop_inv (ρ : Assignment) : ∀ (ns ds : List AU) (num : Sym) (acc : List AU),
    let r := cancelLoopG convFactorS Sym.div ns ds num acc
    num.mul ((prodDen ρ acc).mul ((prodDen ρ ns).mul (prodDen ρ r.2.2))) =
      r.1.mul ((prodDen ρ r.2.1).mul (prodDen ρ ds)) := by
  intro ns
  induction ns with
  | nil => intro ds num acc; simp [cancelLoopG, prodDen, Sym.one_mul]
  | cons n ns ih =>
    intro ds num acc
    unfold cancelLoopG
    cases hr : removeFirstG convFactorS n ds with
    | some p =>
      obtain ⟨f, ds1⟩ := p
      obtain ⟨e1, e2⟩ := removeFirst_spec ρ n ds ds1 f hr
      have h := congrArg (Sym.mul (f.mul (auDen ρ n))) (ih ds1 (num.div f) acc)
      simp only at h ⊢
      generalize cancelLoopG convFactorS Sym.div ns ds1 (num.div f) acc = r at *
      rw [e1, ← Sym.div_mul_cancel num f e2]
      simp only [prodDen, Sym.mul_comm, Sym.mul_left_comm] at h ⊢
      exact h
    | none =>
      have h := ih ds num (acc ++ [n])
      simp only at h ⊢
      generalize cancelLoopG convFactorS Sym.div ns ds num (acc ++ [n]) = r at *
      rw [← h, prodDen_append]
      simp only [prodDen, Sym.mul_one, Sym.mul_assoc]

theorem U.mk_parts (n d : List AU) : (U.mk n d).parts = (n, d) := by
  unfold U.mk
  split
  · rfl
  · rfl
  · rfl

/-- `multiply_units` with exact factors, cross-multiplied: result · (old denominators) =
    input · (old numerators) · (new denominator), as quantities -/
theorem multiplyUnits_inv (ρ : Assignment) (su ou : U) (num : Sym)
    (hou : ou.parts.1 ≠ [] ∨ ou.parts.2 ≠ []) :
    let r := multiplyUnitsG convFactorS Sym.div su num ou
    r.1.mul ((prodDen ρ r.2.parts.1).mul ((prodDen ρ su.parts.2).mul (prodDen ρ ou.parts.2))) =
      num.mul ((prodDen ρ su.parts.1).mul ((prodDen ρ ou.parts.1).mul (prodDen ρ r.2.parts.2))) := by
  unfold multiplyUnitsG
  simp only
  generalize su.parts.1 = nu
  generalize su.parts.2 = du
  generalize ou.parts.1 = on at *
  generalize ou.parts.2 = od at *
  -- the three shortcuts of `multiply_units` apply when the lists that could cancel are empty
  split
  · simp_all [U.mk_parts, prodDen, Sym.mul_one, Sym.one_mul]
  split
  · simp_all [U.mk_parts, prodDen, Sym.one_mul]
  split
  · simp_all [U.mk_parts, prodDen, Sym.one_mul]
  · have i1 := cancelLoop_inv ρ nu od num []
    simp only at i1
    generalize cancelLoopG convFactorS Sym.div nu od num [] = r1 at *
    have i2 := cancelLoop_inv ρ on du r1.1 r1.2.1
    simp only at i2
    generalize cancelLoopG convFactorS Sym.div on du r1.1 r1.2.1 = r2 at *
    -- the second invariant times `od`, then the first times `on · du'`
    have j2 := congrArg (Sym.mul (prodDen ρ od)) i2
    have j1 := congrArg (Sym.mul ((prodDen ρ on).mul (prodDen ρ r2.2.2))) i1
    simp only [U.mk_parts, prodDen_append, prodDen, Sym.one_mul, Sym.mul_comm, Sym.mul_left_comm] at j1 j2 ⊢
    rw [← j2, ← j1]

theorem unitDen_q_ne (ρ : Assignment) (hρ : ∀ b, 0 < ρ b) (u : U) : (unitDen ρ u).q ≠ 0 :=
  Sym.mul_q_ne _ _ (prodDen_q_ne ρ hρ _) (Sym.inv_q_ne _ (prodDen_q_ne ρ hρ _))

theorem multiplyUnits_denote (ρ : Assignment) (hρ : ∀ b, 0 < ρ b) (su ou : U) (num : Sym)
    (hou : ou.parts.1 ≠ [] ∨ ou.parts.2 ≠ []) :
    let r := multiplyUnitsG convFactorS Sym.div su num ou
    r.1.mul (unitDen ρ r.2) = (num.mul (unitDen ρ su)).mul (unitDen ρ ou) := by
  have h := multiplyUnits_inv ρ su ou num hou
  simp only at h ⊢
  generalize multiplyUnitsG convFactorS Sym.div su num ou = r at *
  have n1 := prodDen_q_ne ρ hρ r.2.parts.2
  have n2 := prodDen_q_ne ρ hρ su.parts.2
  have n3 := prodDen_q_ne ρ hρ ou.parts.2
  -- write every numerator as quotient times denominator and cancel the three denominators
  rw [← Sym.div_mul_cancel (prodDen ρ r.2.parts.1) _ n1, ← Sym.div_mul_cancel (prodDen ρ su.parts.1) _ n2,
    ← Sym.div_mul_cancel (prodDen ρ ou.parts.1) _ n3] at h
  apply Sym.mul_right_cancel _ _ _ (Sym.mul_q_ne _ _ n1 (Sym.mul_q_ne _ _ n2 n3))
  simp only [unitDen, Sym.mul_assoc, Sym.mul_comm, Sym.mul_left_comm] at h ⊢
  exact h

theorem unitDen_none (ρ : Assignment) : unitDen ρ .none = Sym.one :=
  Sym.mul_inv_cancel Sym.one (by decide)

theorem U.invert_parts (u : U) : u.invert.parts = (u.parts.2, u.parts.1) := U.mk_parts _ _

theorem unitDen_invert (ρ : Assignment) (hρ : ∀ b, 0 < ρ b) (u : U) : unitDen ρ u.invert = (unitDen ρ u).inv := by
  unfold unitDen
  rw [U.invert_parts]
  simp only
  have n1 := prodDen_q_ne ρ hρ u.parts.1
  have n2 := prodDen_q_ne ρ hρ u.parts.2
  generalize prodDen ρ u.parts.1 = N at *
  generalize prodDen ρ u.parts.2 = D at *
  apply Sym.ext' <;> simp only [Sym.div, Sym.mul, Sym.inv]
  · grind
  · omega

/-- the second operand really carries a unit (never `Unit::None` in disguise): what `mul`/`div` guarantee
    before they call `multiply_units` -/
def U.proper (u : U) : Prop := u = .none ∨ u.parts.1 ≠ [] ∨ u.parts.2 ≠ []

/-- **Multiplication preserves the denoted quantity** (exact factors): under every assignment of positive
    magnitudes to the base unit of each dimension and to every inconvertible unit, the product of two
    numbers with (compound) units denotes the product of what they denote — including the cancellation
    of convertible units across numerator and denominator with the CSS ratios (`multiply_units`). -/
theorem C08_mul_value_preserving (ρ : Assignment) (hρ : ∀ b, 0 < ρ b) (a b : SX) (hb : b.unit.proper) :
    denote ρ (mulSX a b) = (denote ρ a).mul (denote ρ b) := by
  unfold mulSX denote
  by_cases hn : b.unit = .none
  · simp only [hn, if_true, unitDen_none, Sym.mul_one]
    apply Sym.ext' <;> simp only [Sym.mul] <;> grind
  · simp only [hn, if_false]
    have hou : b.unit.parts.1 ≠ [] ∨ b.unit.parts.2 ≠ [] := by
      rcases hb with h | h
      · exact absurd h hn
      · exact h
    rw [multiplyUnits_denote ρ hρ a.unit b.unit _ hou]
    apply Sym.ext' <;> simp only [Sym.mul] <;> grind

/-- **Division preserves the denoted quantity** (exact factors). -/
theorem C08_div_value_preserving (ρ : Assignment) (hρ : ∀ b, 0 < ρ b) (a b : SX) (hb : b.unit.proper) :
    denote ρ (divSX a b) = (denote ρ a).div (denote ρ b) := by
  unfold divSX denote
  by_cases hn : b.unit = .none
  · simp only [hn, if_true, unitDen_none, Sym.mul_one]
    apply Sym.ext' <;> simp only [Sym.mul, Sym.div, Sym.inv]
    · grind
    · omega
  · simp only [hn, if_false]
    have hou : b.unit.invert.parts.1 ≠ [] ∨ b.unit.invert.parts.2 ≠ [] := by
      rw [U.invert_parts]
      rcases hb with h | h | h
      · exact absurd h hn
      · exact Or.inr h
      · exact Or.inl h
    rw [multiplyUnits_denote ρ hρ a.unit b.unit.invert _ hou, unitDen_invert ρ hρ]
    simp only [Sym.div, Sym.inv_mul]
    apply Sym.ext' <;> simp only [Sym.mul, Sym.inv]
    · grind
    · omega

example : denote (fun _ => 1) (mulSX (divSX ⟨Sym.one, .none⟩ ⟨Sym.one, .one (.known .Cm)⟩) ⟨Sym.one, .one (.known .In)⟩)
    = ⟨127 / 50, 0⟩ := by decide +kernel
example : (mulSX (divSX ⟨Sym.one, .none⟩ ⟨Sym.one, .one (.known .Cm)⟩) ⟨Sym.one, .one (.known .In)⟩)
    = ⟨⟨127 / 50, 0⟩, .none⟩ := by decide +kernel

/-! ### the executed (f64) algebra produces the same units as the exact one -/

theorem convFactor_isSome (d n : AU) : (convFactorF d n).isSome = (convFactorS d n).isSome := by
  unfold convFactorF convFactorS
  by_cases e : d = n
  · simp [e]
  · simp only [e, if_false]
    cases d <;> cases n <;> simp [factorF64, factorSym]

theorem removeFirst_agree (n : AU) (ds : List AU) :
    (removeFirstG convFactorF n ds).map (·.2) = (removeFirstG convFactorS n ds).map (·.2) := by
  induction ds with
  | nil => rfl
  | cons d ds ih =>
    have hs := convFactor_isSome d n
    unfold removeFirstG
    cases h1 : convFactorF d n <;> cases h2 : convFactorS d n <;> rw [h1, h2] at hs
    · have h := congrArg (Option.map (d :: ·)) ih
      simp only [Option.map_map] at h ⊢
      exact h
    · cases hs
    · cases hs
    · rfl

theorem cancelLoop_agree {α β : Type} (da : α → Rat → α) (db : β → Sym → β) (ns ds : List AU) (x : α) (y : β)
    (acc : List AU) :
    (cancelLoopG convFactorF da ns ds x acc).2 = (cancelLoopG convFactorS db ns ds y acc).2 := by
  induction ns generalizing ds x y acc with
  | nil => rfl
  | cons n ns ih =>
    have ha := removeFirst_agree n ds
    unfold cancelLoopG
    cases h1 : removeFirstG convFactorF n ds <;> cases h2 : removeFirstG convFactorS n ds <;> rw [h1, h2] at ha
    · exact ih ds x y _
    · cases ha
    · cases ha
    · injection ha with ha
      simp only at ha ⊢
      rw [ha]
      exact ih _ _ _ acc

theorem multiplyUnits_unit_agree {α β : Type} (da : α → Rat → α) (db : β → Sym → β) (su ou : U) (x : α) (y : β) :
    (multiplyUnitsG convFactorF da su x ou).2 = (multiplyUnitsG convFactorS db su y ou).2 := by
  unfold multiplyUnitsG
  simp only
  split
  · rfl
  · split
    · rfl
    · split
      · rfl
      · simp only
        have h1 := cancelLoop_agree da db su.parts.1 ou.parts.2 x y []
        generalize cancelLoopG convFactorF da su.parts.1 ou.parts.2 x [] = r1 at *
        generalize cancelLoopG convFactorS db su.parts.1 ou.parts.2 y [] = s1 at *
        have e1 : r1.2.1 = s1.2.1 := congrArg Prod.fst h1
        have e2 : r1.2.2 = s1.2.2 := congrArg Prod.snd h1
        have h2 := cancelLoop_agree da db ou.parts.1 su.parts.2 r1.1 s1.1 r1.2.1
        rw [e1] at h2 ⊢
        rw [e2]
        generalize cancelLoopG convFactorF da ou.parts.1 su.parts.2 r1.1 s1.2.1 = r2 at *
        generalize cancelLoopG convFactorS db ou.parts.1 su.parts.2 s1.1 s1.2.1 = s2 at *
        have e3 : r2.2.1 = s2.2.1 := congrArg Prod.fst h2
        have e4 : r2.2.2 = s2.2.2 := congrArg Prod.snd h2
        rw [e3, e4]

theorem multiplyUnits_ok_unit (su ou : U) (p : D) (y : Sym) (r : SN) (h : multiplyUnits su p ou = .ok r) :
    r.unit = (multiplyUnitsG convFactorS Sym.div su y ou).2 := by
  unfold multiplyUnits at h
  simp only at h
  split at h
  · injection h with h; rw [← h]; exact multiplyUnits_unit_agree divByF Sym.div su ou (some p) y
  · cases h

/-- **Tie between the executed and the exact algebra**: whenever the f64 model of `*` / `math.div` succeeds,
    its result unit is the unit of the exact product / quotient, whatever the magnitudes. -/
theorem C08_mul_div_units_agree (a b r : SN) (s t : Sym) :
    (mulSN a b = .ok r → r.unit = (mulSX ⟨s, a.unit⟩ ⟨t, b.unit⟩).unit) ∧
    (divSN a b = .ok r → r.unit = (divSX ⟨s, a.unit⟩ ⟨t, b.unit⟩).unit) := by
  constructor <;> intro h
  · unfold mulSN at h
    unfold mulSX
    split at h
    · cases h
    · split at h
      · rename_i hn; injection h with h; rw [if_pos hn, ← h]
      · rename_i hn; rw [if_neg hn]; exact multiplyUnits_ok_unit _ _ _ _ r h
  · unfold divSN at h
    unfold divSX
    split at h
    · cases h
    · split at h
      · rename_i hn; injection h with h; rw [if_pos hn, ← h]
      · rename_i hn; rw [if_neg hn]; exact multiplyUnits_ok_unit _ _ _ _ r h

/-! ## unknown units -/

theorem comparable_self (a : U) : comparable a a = true := by
  rw [C08_compatible_eq_spec_all]; simp [specComparable]

/-- unknown units: identical spellings are compatible, different ones (also the same letters in another
    case, which are different `Unknown` payloads) are not, and no known unit is compatible with one. -/
theorem C08_unknown_units (n m : Nat) (k : KU) :
    comparable (.one (.unknown n)) (.one (.unknown m)) = decide (n = m) ∧
    comparable (.one (.unknown n)) (.one (.known k)) = false ∧
    comparable (.one (.known k)) (.one (.unknown n)) = false := by
  refine ⟨?_, ?_, ?_⟩ <;> rw [C08_compatible_eq_spec_all] <;> simp [specComparable]
example : (addSub false ⟨.fin 1, .one (.unknown 0)⟩ ⟨.fin 1, .one (.unknown 0)⟩).toOption = some ⟨.fin 2, .one (.unknown 0)⟩ ∧
    (addSub false ⟨.fin 1, .one (.unknown 0)⟩ ⟨.fin 1, .one (.unknown 1)⟩).toOption = none := by decide +kernel

/-! ## order relations across convertible units -/

/-- **Trichotomy**: whenever two numbers can be compared, exactly one of `<`, equal-after-conversion
    (within the Sass tolerance), `>` holds, `<=` is `<` or equal, `>=` is `>` or equal. -/
theorem C08_cmp_trichotomy (a b : SN) (o : Ordering) (h : cmpSN a b = .ok (some o)) :
    relSN .lt a b = .ok (o == .lt) ∧ relSN .gt a b = .ok (o == .gt) ∧
    relSN .le a b = .ok (o == .lt || o == .eq) ∧ relSN .ge a b = .ok (o == .gt || o == .eq) ∧
    ((o == .lt).toNat + (o == .eq).toNat + (o == .gt).toNat = 1) := by
  cases o <;> simp [relSN, h, Except.map, relHolds]
example : (cmpSN ⟨.fin 1, .one (.known .In)⟩ ⟨.fin 2, .one (.known .Cm)⟩).toOption = some (some .gt) := by decide +kernel

/-- **`<` `<=` `>` `>=` across two different convertible units compare the left magnitude with the right
    one converted into the LEFT unit** by the table constant `TABLE[left][right]` (whose exact value is the
    CSS ratio: `C08_table_eq_css`). -/
theorem C08_cmp_converts_right_operand (x y y' : D) (u v : KU) (c : Rat) (huv : u ≠ v)
    (hf : factorF64 u v = some c) (hm : D.mul y (.fin c) = some y') :
    cmpSN ⟨x, .one (.known u)⟩ ⟨y, .one (.known v)⟩ = .ok (cmpD false x y') := by
  have hc : comparable (.one (.known u)) (.one (.known v)) = true := by
    rw [C08_comparable_iff_entry]
    have : (factorSym u v).isSome = true := by
      rw [isSome_factorSym]; unfold factorF64 at hf; cases h : tableGet u v <;> simp_all
    simp [this]
  have hvu : v ≠ u := fun h => huv h.symm
  simp [cmpSN, hc, convert, hf, hm, huv, hvu]
example : factorF64 .In .Cm = some (rnd53 (1 / rnd53 (127 / 50))) := by decide +kernel

theorem convert_not_incompatible (n : D) (f t : U) : convert n f t ≠ .error .incompatible := by
  unfold convert
  repeat' split
  all_goals (intro h; cases h)

/-- "Incompatible units" is raised by `a < b` exactly when it is raised by `b < a` -/
theorem C08_cmp_error_symm (a b : SN) : (cmpSN a b = .error .incompatible) ↔ (cmpSN b a = .error .incompatible) := by
  have key : ∀ a b : SN, cmpSN a b = .error .incompatible → comparable a.unit b.unit = false := by
    intro a b h
    cases hc : comparable a.unit b.unit with
    | false => rfl
    | true =>
      exfalso
      unfold cmpSN at h
      simp only [hc, Bool.not_true, Bool.false_eq_true, if_false] at h
      split at h
      · cases h
      · have := convert_not_incompatible b.num b.unit a.unit
        cases hv : convert b.num b.unit a.unit with
        | ok c => rw [hv] at h; cases h
        | error e => rw [hv] at h; simp only at h; injection h with h; subst h; exact this hv
  constructor
  · intro h; have := key a b h; rw [C08_comparable_symm] at this; simp [cmpSN, this]
  · intro h; have := key b a h; rw [C08_comparable_symm] at this; simp [cmpSN, this]

/-! ## `math.min` / `math.max` -/

/-- **`math.min`/`math.max` of two numbers return one of the ORIGINAL operands** (magnitude and unit
    untouched — nothing is converted in the result); the second is chosen exactly when it compares
    strictly below / above the first after conversion into its own unit. -/
theorem C08_minmax_returns_operand (isMax : Bool) (a b r : SN) (h : minMax isMax a b = .ok r) :
    ∃ o, cmpSN b a = .ok o ∧
      r = (if o = some (if isMax then Ordering.gt else Ordering.lt) then b else a) ∧ (r = a ∨ r = b) := by
  unfold minMax at h
  cases hc : cmpSN b a with
  | error e => rw [hc] at h; cases h
  | ok o =>
    rw [hc] at h
    simp only at h
    injection h with h
    refine ⟨o, rfl, h.symm, ?_⟩
    rw [← h]
    by_cases hh : o = some (if isMax = true then Ordering.gt else Ordering.lt)
    · exact Or.inr (by simp [hh])
    · exact Or.inl (by simp [hh])
example : (minMax false ⟨.fin 1, .one (.known .In)⟩ ⟨.fin 2, .one (.known .Cm)⟩).toOption = some ⟨.fin 2, .one (.known .Cm)⟩ ∧
    (minMax true ⟨.fin 1, .one (.known .In)⟩ ⟨.fin 2, .one (.known .Cm)⟩).toOption = some ⟨.fin 1, .one (.known .In)⟩ := by
  decide +kernel

/-! ## `math.is-unitless` of a quotient of single units -/

theorem convFactorF_isSome_iff (u v : AU) : (convFactorF v u).isSome = comparable (.one u) (.one v) := by
  by_cases e : v = u
  · subst e; simp [convFactorF, comparable_self]
  · have e' : u ≠ v := fun h => e h.symm
    cases u with
    | known ku =>
      cases v with
      | known kv =>
        have e2 : ku ≠ kv := fun h => e' (by rw [h])
        rw [C08_comparable_iff_entry, isSome_factorSym]
        simp only [convFactorF, e, if_false, factorF64, e2, decide_false, Bool.false_or]
        cases tableGet ku kv <;> rfl
      | unknown m => rw [(C08_unknown_units m m ku).2.2]; simp [convFactorF, e]
    | unknown n =>
      cases v with
      | known kv => rw [(C08_unknown_units n n kv).2.1]; simp [convFactorF, e]
      | unknown m =>
        rw [(C08_unknown_units n m .Px).1]
        have : n ≠ m := fun h => e' (by rw [h])
        simp [convFactorF, e, this]

/-- **Dividing two single-unit numbers gives a unitless number exactly when the units are convertible**
    (`math.is-unitless(math.div(a, b)) == math.compatible(a, b)` for single units). -/
theorem C08_div_single_units_unitless_iff (x y : D) (u v : AU) (r : SN)
    (h : divSN ⟨x, .one u⟩ ⟨y, .one v⟩ = .ok r) : isUnitless r = comparable (.one u) (.one v) := by
  have hf := convFactorF_isSome_iff u v
  unfold divSN at h
  cases hp : D.div x y with
  | none => simp [hp] at h
  | some p =>
    simp only [hp] at h
    cases hc : comparable (.one u) (.one v) with
    | false =>
      simp [multiplyUnits, multiplyUnitsG, U.parts, U.invert, U.mk, anyConvertible, hc] at h
      rw [← h]; simp [isUnitless]
    | true =>
      rw [hc] at hf
      obtain ⟨f, hf⟩ := Option.isSome_iff_exists.1 hf
      simp [multiplyUnits, multiplyUnitsG, U.parts, U.invert, U.mk, anyConvertible, hc, cancelLoopG, removeFirstG, hf] at h
      split at h
      · injection h with h; rw [← h]; simp [isUnitless]
      · cases h
example : (divSN ⟨.fin 1, .one (.known .In)⟩ ⟨.fin 1, .one (.known .Em)⟩).toOption =
    some ⟨.fin 1, .complex [.known .In] [.known .Em]⟩ := by decide +kernel

/-- `1foo * 1bar / 1foo`: the unit that was multiplied in cancels again, whatever the units are. -/
theorem C08_mul_then_div_cancels (x y z p q : D) (a b : AU) (hp : D.mul x y = some p) (hq : D.div p z = some q)
    (hq1 : D.div q (.fin 1) = some q) :
    (mulSN ⟨x, .one a⟩ ⟨y, .one b⟩).bind (fun r => divSN r ⟨z, .one a⟩) = .ok ⟨q, .one b⟩ := by
  rw [C08_mul_single_units x y a b p hp]
  have hs : comparable (.one a) (.one a) = true := comparable_self _
  simp [Except.bind, divSN, hq, multiplyUnits, multiplyUnitsG, U.parts, U.invert, U.mk, anyConvertible, hs,
    cancelLoopG, removeFirstG, convFactorF, divByF, hq1]
example : ((mulSN ⟨.fin 1, .one (.unknown 0)⟩ ⟨.fin 1, .one (.unknown 2)⟩).bind
    (fun r => divSN r ⟨.fin 1, .one (.unknown 0)⟩)).toOption = some ⟨.fin 1, .one (.unknown 2)⟩ := by decide +kernel

/-! ## the f64 constants -/

theorem tableF64Close_true : tableF64Close = true := by decide +kernel
theorem tableRoundtripClose_true : tableRoundtripClose = true := by decide +kernel

/-- **Every executed constant of the generated table** (each literal and each `*` `/` of the Rust constant
    expression rounded to f64, `PI` the f64 constant, in evaluation order) **is positive and within a relative
    2⁻⁵¹ of the exact value of the expression** (π by a 30-digit enclosure), for the whole table. -/
theorem C08_table_f64_close (t f : KU) (e : CExpr) (h : tableGet t f = some e) : f64EntryClose e = true := by
  have hm := lookupRow_mem f e _ h
  have h1 := KU.forall_of_all (P := fun t => (tableRow t).all fun p => f64EntryClose p.2) tableF64Close_true t
  exact List.all_eq_true.1 h1 (f, e) hm
example : (tableGet .Rad .Turn).map f64Of = some (884279719003555 / 140737488355328) := by decide +kernel

/-- the two executed constants of every convertible pair multiply to 1 within 2⁻⁵² -/
theorem C08_table_f64_pair_product (t f : KU) (a b : Rat) (h1 : factorF64 t f = some a) (h2 : factorF64 f t = some b) :
    absQ (a * b - 1) * 4503599627370496 ≤ 1 := by
  have := KU.forall₂_of_all (P := roundtripPairClose) tableRoundtripClose_true t f
  simpa [roundtripPairClose, h1, h2] using this

theorem roundtrip_bound (x a b : Rat) (hab : absQ (a * b - 1) * 4503599627370496 ≤ 1) :
    absQ (rnd53 (rnd53 (x * a) * b) - x) * 1125899906842624 ≤ absQ x := by
  have r1 : absQ ((rnd53 (x * a) - x * a) * b) * 9007199254740992 ≤ absQ (x * (a * b)) := by
    have := Rat.mul_le_mul_of_nonneg_right (rnd53_relative (x * a)) (absQ_nonneg b)
    rw [← Rat.mul_assoc, absQ_mul (x * a), absQ_mul _ b]; grind
  have r2 := rnd53_relative (rnd53 (x * a) * b)
  have w : absQ (x * (a * b - 1)) * 4503599627370496 ≤ absQ x := by
    have := Rat.mul_le_mul_of_nonneg_left hab (absQ_nonneg x)
    rw [absQ_mul]; grind
  generalize rnd53 (x * a) = y at *
  generalize rnd53 (y * b) = z at *
  -- z − x = (z − y·b) + ((y − x·a)·b + x·(a·b − 1)), and y·b and x·(a·b) are bounded alike
  have t1 := absQ_sub_le z (y * b) x
  have t2 := absQ_add_le ((y - x * a) * b) (x * (a * b - 1))
  have t3 := absQ_add_le ((y - x * a) * b) (x * (a * b))
  have t4 := absQ_add_le (x * (a * b - 1)) x
  have e2 : (y - x * a) * b + x * (a * b - 1) = y * b - x := by grind
  have e3 : (y - x * a) * b + x * (a * b) = y * b := by grind
  have e4 : x * (a * b - 1) + x = x * (a * b) := by grind
  rw [e2] at t2; rw [e3] at t3; rw [e4] at t4
  have nx := absQ_nonneg x
  generalize absQ (z - x) = E at *
  generalize absQ (z - y * b) = E2 at *
  generalize absQ (y * b) = YB at *
  generalize absQ (y * b - x) = YX at *
  generalize absQ ((y - x * a) * b) = R at *
  generalize absQ (x * (a * b - 1)) = W at *
  generalize absQ (x * (a * b)) = Q at *
  generalize absQ x = X at *
  grind

theorem convert_fin (x y : Rat) (f t : KU) (hft : f ≠ t)
    (h : convert (.fin x) (.one (.known f)) (.one (.known t)) = .ok (.fin y)) :
    ∃ a, factorF64 t f = some a ∧ y = rnd53 (x * a) := by
  simp only [convert, reduceCtorEq, U.one.injEq, AU.known.injEq, hft, or_self, if_false] at h
  cases ha : factorF64 t f with
  | none => simp [ha] at h
  | some a =>
    cases hm : D.mul (.fin x) (.fin a) with
    | none => simp [ha, hm] at h
    | some r =>
      simp only [ha, hm] at h
      injection h with h; subst h
      exact ⟨a, rfl, ofExact_fin_eq (x * a) _ y hm⟩

/-- **There and back in floating point**: converting a finite `x` from a unit into a different convertible
    unit and back with the executed f64 table constants (two rounded multiplications,
    `Number::convert`) changes it by at most `2⁻⁵⁰·|x|`; for `|x| ≤ 10⁴` that is less than the `10⁻¹¹` distance
    tolerance of Sass equality.  (Sass `==` additionally compares `10⁻¹¹` buckets; bucket boundaries are not
    covered by this bound.) -/
theorem C08_roundtrip_f64_within_tolerance (u v : KU) (huv : u ≠ v) (x y z : Rat)
    (h1 : convert (.fin x) (.one (.known u)) (.one (.known v)) = .ok (.fin y))
    (h2 : convert (.fin y) (.one (.known v)) (.one (.known u)) = .ok (.fin z)) :
    absQ (z - x) * 1125899906842624 ≤ absQ x ∧ (absQ x ≤ 10000 → absQ (z - x) * 100000000000 < 1) := by
  obtain ⟨a, ha, hy⟩ := convert_fin x y u v huv h1
  obtain ⟨b, hb, hz⟩ := convert_fin y z v u (fun h => huv h.symm) h2
  have key := roundtrip_bound x a b (C08_table_f64_pair_product v u a b ha hb)
  rw [← hy, ← hz] at key
  refine ⟨key, fun hx => ?_⟩
  generalize absQ (z - x) = E at *
  generalize absQ x = X at *
  grind

theorem toOption_ok {ε α : Type} {e : Except ε α} {a : α} (h : e.toOption = some a) : e = .ok a := by
  cases e <;> simp_all [Except.toOption]

/-- hypotheses satisfiable: 3cm → in → cm comes back exactly … -/
example : convert (.fin 3) (.one (.known .Cm)) (.one (.known .In)) = .ok (.fin (rnd53 (3 * rnd53 (1 / rnd53 (127 / 50))))) ∧
    convert (.fin (rnd53 (3 * rnd53 (1 / rnd53 (127 / 50))))) (.one (.known .In)) (.one (.known .Cm)) = .ok (.fin 3) :=
  ⟨toOption_ok (by decide +kernel), toOption_ok (by decide +kernel)⟩
/-- … while 1in → cm → in comes back as 1 − 2⁻⁵³ (the bound is about a real rounding error) -/
example : convert (.fin 1) (.one (.known .In)) (.one (.known .Cm)) = .ok (.fin (rnd53 (127 / 50))) ∧
    convert (.fin (rnd53 (127 / 50))) (.one (.known .Cm)) (.one (.known .In)) = .ok (.fin (9007199254740991 / 9007199254740992)) :=
  ⟨toOption_ok (by decide +kernel), toOption_ok (by decide +kernel)⟩

end Grass.Units
