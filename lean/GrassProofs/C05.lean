import GrassProofs.Lemmas.SerializeEmbed
import GrassProofs.Lemmas.SerializeAlphabet
import GrassProofs.Lemmas.SerializeUtf8
/-
  C05 — Output is well-formed, Sass-free CSS and a fixed point of the compiler.

  The P̂ predicates (`wellFormed`, `quotedOk`, `unescape`, `hasCharsetOrBom`, `sassFree`) and the guard
  `treeOk` are defined in the model file `Grass/Serialize.lean` and are the functions the driver
  evaluates on grass's own output.

  Full statement (kept visible; what is proved below is marked):
    for every flattened tree t made of CSS-representable leaves, every style st and charset flag cs,
    with out = serialize st cs t:
      (1) wellFormed out                                   — PROVED  (C05_blocks_balanced)
      (2) every quoted string token is closed, has no raw control character / newline, escapes its
          own quote, and reads back to the original string — PROVED  (C05_quoted_wellformed, C05_quoted_roundtrip)
      (3) hasCharsetOrBom out ↔ cs ∧ body has a non-ASCII char — PROVED (C05_charset_iff)
      (4) invisible nodes write nothing; both loops skip the same nodes — PROVED (C05_no_invisible_output_*)
      (5) Sass-freeness: the serializer introduces none of `& $ % #` (so no `&`, `$var`, `%placeholder`,
          `#{…}`) — PROVED for the model alphabet (C05_sass_free, C05_sass_free_partial); the scanner
          predicate `sassFree` (which also rejects Sass at-rule NAMES, which can only come from the opaque
          name of an unknown at-rule) is evaluated by the driver on grass's output, not proved.
      (6) readTree (serialize st cs t) = some (canon st t): print → read round trip of the model
                                                            — PROVED (C05_read_roundtrip) for every readable tree;
          the fixed point of grass's REAL parser is checked (recompilation), not proved.
      (7) byte level: the bytes handed to `String::from_utf8_unchecked` (`serializeB`: the encoded buffer
          finished by the byte-level `finish`) are valid UTF-8 and are the encoding of the text model
                                                            — PROVED (C05_output_valid_utf8, C05_bytes_are_encoded_text);
          every split point of a text is a character boundary of its encoding (C05_char_boundary); the
          slice `condition["(not ".len()..len-1]` (serializer.rs:535) stays on boundaries
          (C05_not_slice_on_boundaries, C05_media_query_bytes); `write_comment`'s two slices of the SOURCE
          text (:1006, :1008) are not modelled, `col` is an input of the model;
          `str::len` = `byteLen` (C05_byte_len); the charset clause over BYTES (C05_charset_iff_bytes,
          C05_charset_predicate_bytes).  The other writers are not re-modelled on bytes: they only append
          whole texts / ASCII bytes, for which `encodeUtf8 (a ++ b) = encodeUtf8 a ++ encodeUtf8 b`
          (C05_encode_append) is the whole argument.
-/
namespace Grass.Serialize

def C05_full : Prop :=
  ∀ (st : Style) (cs : Bool) (t : List Stmt), treeOk st t = true →
    wellFormed (serialize st cs t) = true ∧ sassFree (serialize st cs t) = true

/-- Reading back what `visit_quoted_string` wrote gives the original string — for EVERY string
    (quotes of both kinds, backslashes, control characters, non-ASCII). -/
theorem C05_quoted_roundtrip (s : Str) : unescape (quote s) = some s := by
  unfold quote
  cases h : quoteFlags false false s with
  | none => simp [unescape, List.getLast?_append, unescapeBody_escBody]
  | some hd => cases hd <;> simp [unescape, List.getLast?_append, unescapeBody_escBody]

example : unescape (quote ['a', '"', '\'', '\\', '\n', 'f', '\x01', ' ', 'é']) =
    some ['a', '"', '\'', '\\', '\n', 'f', '\x01', ' ', 'é'] := by decide +kernel

/-- The token written for a quoted string starts and ends with the same quote character and, in
    between, contains no raw control character that must be escaped (so no raw newline) and no
    occurrence of its own quote or of a backslash that is not part of an escape. -/
theorem C05_quoted_wellformed (s : Str) : quotedOk (quote s) = true := quotedOk_quote s

example : quote ['"', '\'', '\n', '1'] = ['"', '\\', '"', '\'', '\\', 'a', ' ', '1', '"'] := by decide +kernel

/-- A quoted string is one closed string token for the scanner, whatever it contains (braces,
    comment openers, quotes …). -/
theorem C05_quoted_scans_closed (s : Str) (d : Nat) :
    run ⟨.normal, d⟩ (quote s) = some ⟨.normal, d⟩ := N_quote s d

/-- The header decision of `finish` (serializer.rs:636): the output starts with `@charset "UTF-8";`
    (expanded) or a BOM (compressed) exactly when charset output is allowed and the body written
    before `finish` contains a non-ASCII character — guard: the body itself does not start with a
    BOM or `@charset` (grass never writes one: the evaluator drops `@charset`). -/
theorem C05_charset_iff (st : Style) (cs : Bool) (t : List Stmt)
    (hg : hasCharsetOrBom (finish st false (topLoop st Top.init t)) = false) :
    hasCharsetOrBom (serialize st cs t) = (cs && (body st t).any isNonAscii) := by
  unfold serialize body
  rw [finish_header]
  cases cs && (topLoop st Top.init t).buf.any isNonAscii
  · exact hg
  · exact hasCharsetOrBom_header st _

example : hasCharsetOrBom (serialize .compressed true
    [.rule true [⟨false, [.compound [.text ['a']]]⟩] (.cons (.decl ['b'] false (.atom (.quoted ['é']))) .nil)]) = true := by
  decide +kernel

/-- Every `{` is closed, every string and comment is closed, no `}` is unmatched — for every tree
    whose opaque leaf texts are themselves balanced (`treeOk`; quoted strings are unconstrained),
    both styles, with or without the charset header.  By mutual induction on the tree. -/
theorem C05_blocks_balanced (st : Style) (cs : Bool) (t : List Stmt) (h : treeOk st t = true) :
    wellFormed (serialize st cs t) = true := by
  have hN : N (serialize st cs t) := finish_N st cs _ (topLoop_N st t Top.init N_nil h)
  simp [wellFormed, hN 0]

example : treeOk .compressed
    [.media false [⟨none, some ['x'], [], true⟩]
      (.cons (.rule true [⟨false, [.compound [.text ['a']]]⟩]
        (.cons (.decl ['b'] false (.atom (.quoted ['{', '/', '*', '"']))) .nil)) .nil)] = true := by decide +kernel

/-- An invisible node (empty rule, placeholder-only selector, all-invisible at-rule body, blank
    value) writes no bytes and reports `did_write = false`. -/
theorem C05_no_invisible_output_stmt (st : Style) (ind : Nat) (s : Stmt) (h : s.isInvisible = true) :
    visitStmt st ind s = (false, []) := visit_invisible st ind s h

/-- … and a visible one always reports `did_write = true`: the `is_invisible` test of the top-level
    loop (lib.rs:210) and the `did_write` test of `write_children` select the same nodes. -/
theorem C05_no_invisible_output_agree (st : Style) (ind : Nat) (s : Stmt) :
    (visitStmt st ind s).1 = !s.isInvisible := visit_fst st ind s

/-- Top level: removing an invisible node anywhere does not change the output. -/
theorem C05_no_invisible_output_top (st : Style) (cs : Bool) (a b : List Stmt) (s : Stmt)
    (h : s.isInvisible = true) : serialize st cs (a ++ s :: b) = serialize st cs (a ++ b) := by
  unfold serialize
  rw [topLoop_append, topLoop_append]
  simp [topLoop, h]

/-- Inside a block: an invisible child contributes nothing in front of its siblings. -/
theorem C05_no_invisible_output_children (st : Style) (ind : Nat) (s : Stmt) (ss : Stmts)
    (h : s.isInvisible = true) : childrenLoop st ind (.cons s ss) = childrenLoop st ind ss := by
  conv => lhs; unfold childrenLoop
  simp [visit_invisible st ind s h]

example : (Stmt.rule true [⟨false, [.compound [.placeholder ['p']]]⟩]
    (.cons (.decl ['b'] false (.atom (.raw ['c']))) .nil)).isInvisible = true := by decide +kernel

/-- Caveat made explicit (the code as it stands, serializer.rs:1041-1081): `write_children` decides
    "last child" before looking at visibility, so an invisible LAST child leaves the `;` of the
    declaration before it in compressed output (`a{b:c;}` instead of `a{b:c}`).  Harmless (the `;`
    is optional) but it is why `C05_no_invisible_output_children` is stated for a leading node. -/
theorem C05_trailing_invisible_keeps_semicolon :
    childrenLoop .compressed 2 (.cons (.decl ['b'] false (.atom (.raw ['c'])))
      (.cons (.decl ['d'] false (.atom (.raw []))) .nil)) = ['b', ':', 'c', ';'] ∧
    childrenLoop .compressed 2 (.cons (.decl ['b'] false (.atom (.raw ['c']))) .nil) = ['b', ':', 'c'] := by
  decide +kernel

/-- PARTIAL Sass-freeness, for the model alphabet: a placeholder selector `%name` is never printed —
    no `%` reaches the output of a selector unless one of its opaque texts (`selTexts`: the text of
    the visible simple selectors and the combinator characters) contains one.  The other Sass-only
    constructs (`&`, `$var`, `#{…}`, Sass at-rules) have no constructor in the flattened tree, so the
    model cannot print them except from opaque texts; the full scanner predicate `sassFree` is
    evaluated by the driver on grass's output, not proved. -/
theorem C05_sass_free_partial (st : Style) (sel : Selector) (h : ∀ s ∈ selTexts sel, '%' ∉ s) :
    '%' ∉ selectorOut st sel := ni_selectorOut '%' (by decide) st sel h

example : selTexts [⟨false, [.compound [.text ['a']]]⟩, ⟨false, [.compound [.placeholder ['p']], .compound [.text ['b']]]⟩]
      = [['a'], ['b']] ∧
    selectorOut .expanded [⟨false, [.compound [.text ['a']]]⟩,
      ⟨false, [.compound [.placeholder ['p']], .compound [.text ['b']]]⟩] = ['a'] := by decide +kernel

/-- print → read round trip for the WHOLE serialised subset (style rules with selector lists,
    declarations with quoted strings and space/comma/slash lists, custom properties, @media,
    @supports, unknown at-rules with and without block, @keyframes, @import, comments): the Lean
    reader `readTree` returns exactly the canonical tree `canonTop st t` of the model tree — for both
    styles, with or without the charset header.
    Guards (decidable, evaluated by the driver for every generated tree): `treeReadable st t` — every
    header / declaration text, as printed in style `st`, is flat (no `{ } ;` outside strings, comments
    and escapes; ends outside them) and starts with neither whitespace nor `/`; comments are
    `/* … */` tokens whose loudness shows in the printed text — and the body does not itself start
    with a BOM / `@charset` line.  (`treeOk` alone is not enough: a selector text `a{}b` is balanced
    but cannot be told from a block.) -/
theorem C05_read_roundtrip (st : Style) (cs : Bool) (t : List Stmt) (h : treeReadable st t = true)
    (hg : hasCharsetOrBom (serialize st false t) = false) :
    readTree (serialize st cs t) = some (canonTop st t) := readTree_serialize st cs t h hg

example : treeReadable .expanded
    [.media false [⟨none, some ['x'], [], true⟩]
      (.cons (.rule true [⟨false, [.compound [.text ['a']]]⟩, ⟨true, [.compound [.text ['b']], .comb '>', .compound [.text ['c']]]⟩]
        (.cons (.decl ['k'] false (.list .comma [.quoted ['{', ';', '"'], .raw ['v']]))
          (.cons (.comment ['/', '*', '!', 'x', '*', '/'] 4) .nil))) .nil),
     .import ['"', 'u', '"'] none] = true := by decide +kernel

/-- Fixed point of print ∘ read for the model.  Take the tree `c` the reader returns for the output
    of `t`, turn it back into statements (`embedTop`: a block becomes an unknown at-rule or a style
    rule with one opaque selector, an item a body-less at-rule or a verbatim declaration, a comment
    a comment), serialise again — in any style, with or without header — and read again: the same
    tree `c` comes back.  So `serialize st cs (embedTop (readTree (serialize st cs t)))` is in the
    same text class as `serialize st cs t`: both read as `canonTop st t`.
    Guards: `treeReadable st t`; `embedOk (canonTop st t)` (every canonical text is flat, already
    normalised, without raw newline and starts with a non-blank character other than `/`; a block that
    is not an at-rule has a visible child — a style rule whose only children are dropped comments is
    printed as `a{}` by the compressed serializer but an empty rule is invisible; declarations have a
    name and a value; comments are single `/*! … */` tokens that `commentOut · 0` leaves unchanged);
    and no BOM/`@charset` at the start of either body. -/
theorem C05_fixed_point_model (st st' : Style) (cs cs' : Bool) (t : List Stmt) (h : treeReadable st t = true)
    (hg : hasCharsetOrBom (serialize st false t) = false)
    (he : (canonTop st t).embedOk = true)
    (hg' : hasCharsetOrBom (serialize st' false (embedTop (canonTop st t))) = false) :
    (readTree (serialize st cs t)).bind (fun c => readTree (serialize st' cs' (embedTop c))) =
      readTree (serialize st cs t) := by
  rw [readTree_serialize st cs t h hg]
  simp only [Option.bind_some]
  obtain ⟨h1, h2⟩ := embed_top st' _ he
  rw [readTree_serialize st' cs' _ h1 hg', h2]

example : (canonTop .compressed
    [.rule true [⟨false, [.compound [.text ['a']], .comb '>', .compound [.text ['b']]]⟩]
      (.cons (.decl ['k'] false (.list .comma [.quoted ['{', ';'], .raw ['v']])) .nil),
     .unknown false ['f'] ['x'] true .nil, .import ['"', 'u', '"'] none]).embedOk = true := by decide +kernel

/-- Sass-freeness at full strength for the model alphabet: the serializer never writes `&`, `$`,
    `%` or `#` on its own.  If no opaque leaf of the tree (selector texts and combinators, property
    names, unquoted and quoted atoms, rendered queries, at-rule names/parameters, keyframe selectors,
    import url/modifiers, rendered comments — `treeLeafFree c t`) contains the character, neither does
    the output: in particular no `&`, no `$variable`, no `%placeholder` (placeholder selectors are
    never printed, whatever their name) and no `#{` can appear that was not already text of a leaf.
    Both styles, with or without header. -/
theorem C05_sass_free (c : Char) (hc : sassChar c = true) (st : Style) (cs : Bool) (t : List Stmt)
    (h : treeLeafFree c t = true) : c ∉ serialize st cs t := by
  have hT := topLoop_NI c hc st t Top.init (by simp [Top.init]) h
  unfold serialize
  rw [finish_header, finish_false]
  refine ni_append ?_ (ni_append (ni_append hT (ni_semi c hc _)) ?_)
  · split
    · split
      · have hb : c ≠ bom := by intro e; subst e; revert hc; decide
        simpa using hb
      · exact ni_of_plain c hc _ (by decide)
    · exact ni_nil c
  · split
    · exact ni_optNl c hc st
    · exact ni_nil c

example : treeLeafFree '%'
    [.rule true [⟨false, [.compound [.text ['a']]]⟩, ⟨false, [.compound [.placeholder ['p']], .comb '>', .compound [.text ['b']]]⟩]
      (.cons (.decl ['k'] false (.list .comma [.quoted ['{', '&'], .raw ['v']])) .nil)] = true := by decide +kernel

/-! ## byte level -/

/-- The encoder is a homomorphism: appending whole texts (all the serializer does outside the sites
    below: `extend_from_slice(x.as_bytes())`, `push(b';')`, `write!`) never splits a character. -/
theorem C05_encode_append (a b : Str) : encodeUtf8 (a ++ b) = encodeUtf8 a ++ encodeUtf8 b :=
  encodeUtf8_append a b

/-- The encoding of ANY text is valid UTF-8 (no overlong form, no surrogate, nothing above U+10FFFF,
    no truncated sequence) — astral and combining characters included. -/
theorem C05_encode_valid (s : Str) : validUtf8 (encodeUtf8 s) = true := by
  have := utf8Run_encode s []
  simp only [List.append_nil] at this
  unfold validUtf8; rw [this]; rfl

example : encodeUtf8 ['a', 'é', '✓', '\u0301', Char.ofNat 0x1F600, Char.ofNat 0xFEFF] =
    [0x61, 0xC3, 0xA9, 0xE2, 0x9C, 0x93, 0xCC, 0x81, 0xF0, 0x9F, 0x98, 0x80, 0xEF, 0xBB, 0xBF] := by decide +kernel
/-- (the validator does reject: overlong `/`, a surrogate, a truncated sequence, a lone continuation) -/
example : validUtf8 [0xC0, 0xAF] = false ∧ validUtf8 [0xED, 0xA0, 0x80] = false ∧
    validUtf8 [0xE2, 0x9C] = false ∧ validUtf8 [0x80] = false ∧ validUtf8 [0xF4, 0x90, 0x80, 0x80] = false := by decide +kernel

/-- The bytes of the finished output — the top-level buffer as bytes, finished by the BYTE-level
    `finish` (non-ASCII test on bytes, `;`/newline pushed as bytes, BOM / `@charset` inserted at byte
    index 0) — are exactly the encoding of the text model's output … -/
theorem C05_bytes_are_encoded_text (st : Style) (cs : Bool) (t : List Stmt) :
    serializeB st cs t = encodeUtf8 (serialize st cs t) := by
  unfold serializeB serialize
  exact finishB_encode st cs _

/-- … hence valid UTF-8: the argument of `String::from_utf8_unchecked` (serializer.rs:648) satisfies
    what `from_utf8` would have checked, for every tree, both styles, with or without header. -/
theorem C05_output_valid_utf8 (st : Style) (cs : Bool) (t : List Stmt) :
    validUtf8 (serializeB st cs t) = true := by
  rw [C05_bytes_are_encoded_text]; exact C05_encode_valid _

example : serializeB .compressed true
    [.rule true [⟨false, [.compound [.text ['a']]]⟩] (.cons (.decl ['b'] false (.atom (.quoted [Char.ofNat 0x1F600]))) .nil)] =
    [0xEF, 0xBB, 0xBF, 0x61, 0x7B, 0x62, 0x3A, 0x22, 0xF0, 0x9F, 0x98, 0x80, 0x22, 0x7D] := by decide +kernel

/-- Every split point of a text is a character boundary (`str::is_char_boundary`) of its encoding. -/
theorem C05_char_boundary (a b : Str) :
    isCharBoundary (encodeUtf8 (a ++ b)) (encodeUtf8 a).length = true := by
  rw [encodeUtf8_append]
  unfold isCharBoundary
  split
  · rfl
  · cases b with
    | nil => simp [encodeUtf8]
    | cons c cs =>
      obtain ⟨b0, r, he, hb⟩ := encodeChar_head c
      simp only [encodeUtf8, he, List.cons_append]
      rw [List.getElem?_append_right (Nat.le_refl _)]
      simp only [Nat.sub_self, List.getElem?_cons_zero]
      unfold isContByte
      split at hb
      · have := hb.1; simp; omega
      · simp; omega

example : isCharBoundary (encodeUtf8 ['é', '✓']) 2 = true ∧ isCharBoundary (encodeUtf8 ['é', '✓']) 1 = false ∧
    isCharBoundary (encodeUtf8 ['é', '✓']) 3 = false := by decide +kernel

/-- `str::len` (used by `write_comment`, serializer.rs:1020) is the model's `byteLen`. -/
theorem C05_byte_len (s : Str) : byteLen s = (encodeUtf8 s).length := by
  induction s with
  | nil => rfl
  | cons c cs ih =>
    simp only [byteLen, List.map_cons, List.sum_cons, encodeUtf8, List.length_append, encodeChar_length] at *
    rw [ih]

/-- The byte-indexed slice of written text, `condition["(not ".len()..condition.len() - 1]`
    (serializer.rs:535): when the condition starts with `(not `, has a character after it and its last character is
    one byte long (`notSliceOk`; it is the closing parenthesis) the range is well-ordered, both ends
    are character boundaries (no panic) and the bytes cut out are the encoding of the text model's
    `(c.drop 5).dropLast`. -/
theorem C05_not_slice_on_boundaries (c : Str) (hp : startsWith c (lit "(not ") = true) (hk : notSliceOk c = true) :
    notPrefixB.length ≤ (encodeUtf8 c).length - 1 ∧
    isCharBoundary (encodeUtf8 c) notPrefixB.length = true ∧
    isCharBoundary (encodeUtf8 c) ((encodeUtf8 c).length - 1) = true ∧
    sliceB (encodeUtf8 c) notPrefixB.length ((encodeUtf8 c).length - 1) = encodeUtf8 ((c.drop 5).dropLast) := by
  simp only [notSliceOk, Bool.and_eq_true, decide_eq_true_eq] at hk
  obtain ⟨hlen, hla⟩ := hk
  have hc : lit "(not " ++ c.drop 5 = c := List.prefix_iff_eq_append.mp (List.isPrefixOf_iff_prefix.mp hp)
  generalize htd : c.drop 5 = t at hc
  have htl : t.length = c.length - 5 := by rw [← htd]; simp
  have htne : t ≠ [] := by intro h; rw [h] at htl; simp at htl; omega
  have hsplit : t = t.dropLast ++ [t.getLast htne] := (List.dropLast_concat_getLast htne).symm
  generalize t.dropLast = m at hsplit
  generalize t.getLast htne = x at hsplit
  subst hsplit
  subst hc
  have hx : x.toNat < 0x80 := by
    have e : (lit "(not " ++ (m ++ [x])).getLast? = some x := by
      rw [← List.append_assoc, List.getLast?_concat]
    simpa [lastAscii, e] using hla
  obtain ⟨bx, rx, hex, hbx⟩ := encodeChar_head x
  rw [if_pos hx] at hbx
  obtain ⟨_, hrx⟩ := hbx
  subst hrx
  have hL : (encodeUtf8 (lit "(not " ++ (m ++ [x]))).length - 1 = notPrefixB.length + (encodeUtf8 m).length := by
    simp [encodeUtf8_append, encodeUtf8, hex, notPrefixB]
  rw [hL]
  refine ⟨by omega, ?_, ?_, ?_⟩
  · exact C05_char_boundary (lit "(not ") (m ++ [x])
  · have := C05_char_boundary (lit "(not " ++ m) [x]
    simp only [encodeUtf8_append, List.length_append, List.append_assoc] at this ⊢
    exact this
  · have := slice_encode (lit "(not ") m [x]
    simp only [List.append_assoc] at this
    exact this

example : notSliceOk (lit "(not (é: ✓))") = true ∧ notSliceOk (lit "(not ") = false ∧
    notSliceOk (lit "(not é") = false := by decide +kernel

/-- `write_media_query` run on BYTES (prefix test and slice with byte indices) writes the encoding of
    what the text model writes — guard `sliceOk` as above (vacuous unless the query is a single
    `(not …` condition). -/
theorem C05_media_query_bytes (q : Query) (h : q.sliceOk = true) :
    queryOutB q.toB = encodeUtf8 (queryOut q) := by
  obtain ⟨md, mt, conds, conj⟩ := q
  unfold queryOutB queryOut Query.toB
  simp only [encodeUtf8_append]
  congr 1
  · congr 1
    · cases md <;> simp [encodeUtf8_append, encodeUtf8] <;> rfl
    · cases mt with
      | none => rfl
      | some t =>
        simp only [Option.map_some, encodeUtf8_append, List.isEmpty_map]
        congr 1
        split <;> rfl
  · match conds, h with
    | [], _ => cases conj <;> rfl
    | [c], h =>
      simp only [List.map_cons, List.map_nil]
      have hpe : notPrefixB.isPrefixOf (encodeUtf8 c) = startsWith c (lit "(not ") := by
        unfold notPrefixB startsWith; exact prefix_encode _ _ (by decide)
      rw [hpe]
      cases hp : startsWith c (lit "(not ")
      · simp
      · simp only [Query.sliceOk, hp, Bool.not_true, Bool.false_or] at h
        have := (C05_not_slice_on_boundaries c hp h).2.2.2
        simp only [if_true, encodeUtf8_append]
        rw [this]
    | c :: d :: r, _ =>
      have := joinWithB_encode (if conj = true then lit " and " else lit " or ") (c :: d :: r)
      rw [← this]
      cases conj <;> rfl

example : queryOutB (Query.toB ⟨none, some (lit "screen"), [lit "(not (é))"], true⟩) =
    encodeUtf8 (lit "screen and not (é)") := by decide +kernel

/-- The charset clause over BYTES: the output bytes start with EF BB BF (compressed) or with the
    bytes of `@charset "UTF-8";\n` (expanded) exactly when charset output is allowed and the buffer
    contains a byte ≥ 0x80 (`is_not_ascii`, serializer.rs:637) — guard: the bytes written without
    header do not themselves start with a BOM / `@charset` rule. -/
theorem C05_charset_iff_bytes (st : Style) (cs : Bool) (t : List Stmt)
    (hg : hasCharsetOrBomB (serializeB st false t) = false) :
    hasCharsetOrBomB (serializeB st cs t) = (cs && (encodeUtf8 (body st t)).any nonAsciiB) := by
  rw [C05_bytes_are_encoded_text, hasCharsetOrBomB_encode] at *
  rw [any_nonAscii]
  exact C05_charset_iff st cs t hg

example : hasCharsetOrBomB (serializeB .expanded true
    [.rule true [⟨false, [.compound [.text ['a']]]⟩] (.cons (.decl ['b'] false (.atom (.quoted ['é']))) .nil)]) = true ∧
    hasCharsetOrBomB (serializeB .expanded false
    [.rule true [⟨false, [.compound [.text ['a']]]⟩] (.cons (.decl ['b'] false (.atom (.quoted ['é']))) .nil)]) = false := by
  decide +kernel

/-- The byte-level P̂ the driver evaluates on grass's own bytes is the text-level P̂ of the decoded
    text: header tests, the non-ASCII test and the header removal can all be done on bytes. -/
theorem C05_charset_predicate_bytes (cs : Bool) (s : Str) :
    charsetOkB cs (encodeUtf8 s) = charsetOk cs s ∧ hasCharsetOrBomB (encodeUtf8 s) = hasCharsetOrBom s ∧
    (encodeUtf8 s).any nonAsciiB = s.any isNonAscii := by
  refine ⟨?_, hasCharsetOrBomB_encode s, any_nonAscii s⟩
  unfold charsetOkB charsetOk
  simp only [hasCharsetOrBomB_encode]
  have hp : charsetPrefixB.isPrefixOf (encodeUtf8 s) = startsWith s charsetPrefix := by
    unfold charsetPrefixB startsWith; exact prefix_encode _ _ (by decide)
  rw [hp, bom_prefix]
  have hrest : (if startsWith s charsetPrefix = true then (encodeUtf8 s).drop charsetPrefixB.length
        else if (s.head? == some bom) = true then (encodeUtf8 s).drop 3 else encodeUtf8 s)
      = encodeUtf8 (if startsWith s charsetPrefix = true then s.drop charsetPrefix.length
        else if s.head? = some bom then s.drop 1 else s) := by
    split
    · next h =>
      have hc : charsetPrefix ++ s.drop charsetPrefix.length = s :=
        List.prefix_iff_eq_append.mp (List.isPrefixOf_iff_prefix.mp h)
      conv => lhs; rw [← hc]
      exact drop_prefix_encode _ _
    · split
      · next h =>
        have h' : s.head? = some bom := by simpa using h
        rw [if_pos h']
        cases s with
        | nil => simp at h'
        | cons c r =>
          simp only [List.head?_cons, Option.some.injEq] at h'
          subst h'
          simp only [encodeUtf8, encode_bom, List.drop_one, List.tail_cons]
          rfl
      · next h =>
        have h' : ¬ s.head? = some bom := by simpa using h
        rw [if_neg h']
  rw [hrest, any_nonAscii]
  generalize hasCharsetOrBom s = x
  generalize List.any _ isNonAscii = y
  cases x <;> cases cs <;> cases y <;> rfl

example : charsetOkB true (encodeUtf8 (bom :: lit "a{b:é}")) = true ∧ charsetOkB true (encodeUtf8 (lit "a{b:é}")) = false := by
  decide +kernel

end Grass.Serialize
