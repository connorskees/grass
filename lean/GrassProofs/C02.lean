import Grass.Interner
import Grass.Generated.GlobalState
/-
  C02 — A result is a pure function of source, options and visible files.

  PARTIAL by design.  The theorems are about the state that survives a compilation — the
  thread-local interner and the two process-wide id counters — and a small language of what a
  compilation may do with identifiers and ids (Grass/Interner.lean): used only through key
  equality, `resolve`, insertion-ordered iteration and id equality, they give the same output
  after every history, counter value and interleaving.  The two leaks (key-ordered and
  hash-ordered iteration reaching the output, D13) are `ordered true` and `hashed π` and break
  the property (`C02_asFound_…`); named arguments and merged member views are insertion-ordered
  in /repo since adef70c and d156cce, module member maps and `with` configurations are still
  key-ordered.  `C02_full` is tested, not proved: tools/props/c02.py runs real grass after
  adversarial histories, on concurrent threads and in fresh processes.
-/
namespace Grass.Interner

/-! ### general facts about lists and remainders -/

theorem nodup_getElem?_inj {α} {l : List α} (h : l.Nodup) {i j : Nat} {x : α}
    (hi : l[i]? = some x) (hj : l[j]? = some x) : i = j :=
  (List.getElem?_inj (List.getElem?_eq_some_iff.mp hi).1 h).mp (hi.trans hj.symm)

theorem nodup_getElem?_beq {l : List Nat} (h : l.Nodup) {i j a b : Nat}
    (hi : l[i]? = some a) (hj : l[j]? = some b) : (a == b) = (i == j) := by
  rw [Bool.eq_iff_iff, beq_iff_eq, beq_iff_eq]
  constructor
  · intro e; subst e; exact nodup_getElem?_inj h hi hj
  · intro e; subst e; exact Option.some.inj (hi.symm.trans hj)

theorem getElem?_of_length_eq {α} {l₁ l₂ : List α} (h : l₁.length = l₂.length) (i : Nat) :
    (l₁[i]? = none ∧ l₂[i]? = none) ∨ ∃ a b, l₁[i]? = some a ∧ l₂[i]? = some b := by
  rcases Nat.lt_or_ge i l₁.length with hi | hi
  · exact .inr ⟨_, _, List.getElem?_eq_getElem hi, List.getElem?_eq_getElem (h ▸ hi)⟩
  · exact .inl ⟨List.getElem?_eq_none hi, List.getElem?_eq_none (h ▸ hi)⟩

theorem nodup_map_of_injOn {α β} {f : α → β} {l : List α}
    (hf : ∀ a ∈ l, ∀ b ∈ l, f a = f b → a = b) (h : l.Nodup) : (l.map f).Nodup :=
  List.pairwise_map.mpr (h.imp_of_mem fun ha hb hne e => hne (hf _ ha _ hb e))

theorem filterMap_getElem?_range {α} (xs : List α) :
    (List.range xs.length).filterMap (xs[·]?) = xs := by
  induction xs with
  | nil => rfl
  | cons x xs ih =>
    rw [List.length_cons, List.range_succ_eq_map, List.filterMap_cons]
    simp only [List.getElem?_cons_zero, List.filterMap_map]
    congr 1

theorem filterMap_getElem?_inj {α} {l : List α} (hl : l.Nodup) {v w : List Nat}
    (hv : ∀ x ∈ v, x < l.length) (hw : ∀ x ∈ w, x < l.length)
    (h : v.filterMap (l[·]?) = w.filterMap (l[·]?)) : v = w := by
  induction v generalizing w with
  | nil =>
    cases w with
    | nil => rfl
    | cons b w => simp [List.getElem?_eq_getElem (hw b (by simp))] at h
  | cons a v ih =>
    have ha := List.getElem?_eq_getElem (hv a (by simp))
    cases w with
    | nil => simp [ha] at h
    | cons b w =>
      have hb := List.getElem?_eq_getElem (hw b (by simp))
      simp only [List.filterMap_cons, ha, hb, List.cons.injEq] at h
      rw [nodup_getElem?_inj hl ha (hb.trans (congrArg some h.1.symm)),
        ih (fun x hx => hv x (by simp [hx])) (fun x hx => hw x (by simp [hx])) h.2]

theorem le_of_add_mod_eq {m c i j : Nat} (hi : i < m) (e : (c + i) % m = (c + j) % m) :
    i ≤ j := by
  have := Nat.sub_mod_eq_zero_of_mod_eq e
  rw [Nat.add_sub_add_left, Nat.mod_eq_of_lt (Nat.lt_of_le_of_lt (Nat.sub_le i j) hi)] at this
  exact Nat.le_of_sub_eq_zero this

/-! ### the table -/

theorem find?_eq_findIdx? (s : Str) (st : Interner) : find? s st = st.findIdx? (· = s) := by
  induction st with
  | nil => rfl
  | cons t ts ih => simp [find?, List.findIdx?_cons, ih]

theorem find?_some_get {s : Str} {st : Interner} {k : Nat} (h : find? s st = some k) :
    st[k]? = some s := by
  rw [find?_eq_findIdx?, List.findIdx?_eq_some_iff_getElem] at h
  obtain ⟨hk, e, _⟩ := h
  simpa [List.getElem?_eq_getElem hk] using e

theorem find?_none_not_mem {s : Str} {st : Interner} (h : find? s st = none) : s ∉ st := by
  rw [find?_eq_findIdx?, List.findIdx?_eq_none_iff] at h
  intro hm
  simpa using h s hm

theorem find?_append_self {s : Str} {st : Interner} (h : find? s st = none) :
    find? s (st ++ [s]) = some st.length := by
  rw [find?_eq_findIdx?] at *
  simp [List.findIdx?_append, h]

/-! ### interner laws -/

theorem intern_fst (st : Interner) (s : Str) :
    (intern st s).1 = if s ∈ st then st else st ++ [s] := by
  unfold intern
  cases h : find? s st with
  | none => simp [find?_none_not_mem h]
  | some k => simp [List.mem_of_getElem? (find?_some_get h)]

/-- Resolving the key returned by `get_or_intern s` gives back `s`, in every state. -/
theorem C02_resolve_intern (st : Interner) (s : Str) :
    resolve (intern st s).1 (intern st s).2 = some s := by
  unfold intern resolve
  cases h : find? s st with
  | none => simp
  | some k => simpa using find?_some_get h

theorem C02_intern_idempotent (st : Interner) (s : Str) :
    intern (intern st s).1 s = intern st s := by
  unfold intern
  cases h : find? s st with
  | none => simp [find?_append_self h]
  | some k => simp [h]

theorem C02_keys_stable (st : Interner) (s t : Str) (k : Nat) (h : resolve st k = some t) :
    resolve (intern st s).1 k = some t := by
  rw [intern_fst]
  split
  · exact h
  · exact (List.getElem?_append_left (List.getElem?_eq_some_iff.mp h).1).trans h

theorem C02_keys_stable_history (h : List Str) : ∀ (st : Interner) (t : Str) (k : Nat),
    resolve st k = some t → resolve (internAll st h) k = some t := by
  induction h with
  | nil => intro st t k hk; exact hk
  | cons s ss ih => intro st t k hk; exact ih _ t k (C02_keys_stable st s t k hk)

theorem C02_wf_intern (st : Interner) (s : Str) (h : Wf st) : Wf (intern st s).1 := by
  rw [intern_fst]
  split
  · exact h
  · rename_i hs
    refine List.nodup_append.mpr ⟨h, by simp, fun a ha b hb e => hs ?_⟩
    rwa [← List.mem_singleton.mp hb, ← e]

theorem C02_wf_history (h : List Str) : ∀ st, Wf st → Wf (internAll st h) := by
  induction h with
  | nil => intro st w; exact w
  | cons s ss ih => intro st w; exact ih _ (C02_wf_intern st s w)

theorem wf_nil : Wf [] := by simp [Wf]

theorem C02_wf_reachable (h : List Str) : Wf (internAll [] h) := C02_wf_history h [] wf_nil

/-- Key equality is string equality: two valid keys of one table are equal exactly when the
    strings they stand for are equal. -/
theorem C02_keyEq_iff_streq (st : Interner) (w : Wf st) (a b : Nat) (x y : Str)
    (ha : resolve st a = some x) (hb : resolve st b = some y) :
    keyEq a b = true ↔ x = y := by
  unfold keyEq resolve at *
  rw [beq_iff_eq]
  constructor
  · intro e
    subst e; rw [ha] at hb; cases hb; rfl
  · intro e; subst e
    exact nodup_getElem?_inj w ha hb

/-! ### key-renaming simulation -/

/-- Two keys of two tables stand for the same string. -/
def KRel (st₁ st₂ : Interner) (a b : Nat) : Prop :=
  ∃ s, resolve st₁ a = some s ∧ resolve st₂ b = some s

/-- Register files related position by position. -/
inductive RRel (st₁ st₂ : Interner) : List Nat → List Nat → Prop
  | nil : RRel st₁ st₂ [] []
  | cons {a b as bs} : KRel st₁ st₂ a b → RRel st₁ st₂ as bs → RRel st₁ st₂ (a :: as) (b :: bs)

theorem KRel.mono {st₁ st₂ a b} (s t : Str) (h : KRel st₁ st₂ a b) :
    KRel (intern st₁ s).1 (intern st₂ t).1 a b := by
  obtain ⟨x, h1, h2⟩ := h
  exact ⟨x, C02_keys_stable _ _ _ _ h1, C02_keys_stable _ _ _ _ h2⟩

theorem RRel.mono {st₁ st₂ r₁ r₂} (s t : Str) (h : RRel st₁ st₂ r₁ r₂) :
    RRel (intern st₁ s).1 (intern st₂ t).1 r₁ r₂ := by
  induction h with
  | nil => exact .nil
  | cons hk _ ih => exact .cons (hk.mono s t) ih

theorem RRel.snoc {st₁ st₂ r₁ r₂ a b} (h : RRel st₁ st₂ r₁ r₂) (hk : KRel st₁ st₂ a b) :
    RRel st₁ st₂ (r₁ ++ [a]) (r₂ ++ [b]) := by
  induction h with
  | nil => exact .cons hk .nil
  | cons hk' _ ih => exact .cons hk' ih

theorem RRel.get {st₁ st₂ r₁ r₂} (h : RRel st₁ st₂ r₁ r₂) (i : Nat) :
    (r₁[i]? = none ∧ r₂[i]? = none) ∨ ∃ a b, r₁[i]? = some a ∧ r₂[i]? = some b ∧ KRel st₁ st₂ a b := by
  induction h generalizing i with
  | nil => exact .inl ⟨rfl, rfl⟩
  | cons hk _ ih =>
    cases i with
    | zero => exact .inr ⟨_, _, rfl, rfl, hk⟩
    | succ i => exact ih i

theorem KRel.eq_iff {st₁ st₂ a b a' b'} (w₁ : Wf st₁) (w₂ : Wf st₂)
    (h : KRel st₁ st₂ a b) (h' : KRel st₁ st₂ a' b') : a = a' ↔ b = b' := by
  obtain ⟨x, h1, h2⟩ := h
  obtain ⟨y, h1', h2'⟩ := h'
  have e1 := C02_keyEq_iff_streq st₁ w₁ a a' x y h1 h1'
  have e2 := C02_keyEq_iff_streq st₂ w₂ b b' x y h2 h2'
  simp only [keyEq, beq_iff_eq] at e1 e2
  rw [e1, e2]

theorem KRel.keyEq_eq {st₁ st₂ a b a' b'} (w₁ : Wf st₁) (w₂ : Wf st₂)
    (h : KRel st₁ st₂ a b) (h' : KRel st₁ st₂ a' b') : keyEq a a' = keyEq b b' := by
  rw [keyEq, keyEq, Bool.eq_iff_iff, beq_iff_eq, beq_iff_eq]
  exact KRel.eq_iff w₁ w₂ h h'

theorem evalS_rel {st₁ st₂ r₁ r₂} (h : RRel st₁ st₂ r₁ r₂) (e : SExpr) :
    evalS st₁ r₁ e = evalS st₂ r₂ e := by
  induction e with
  | lit s => rfl
  | res r =>
    unfold evalS
    rcases h.get r with ⟨h1, h2⟩ | ⟨a, b, h1, h2, x, hx1, hx2⟩
    · simp [h1, h2]
    · simp [h1, h2, hx1, hx2]
  | cat a b iha ihb => unfold evalS; rw [iha, ihb]

theorem getAll_rel {st₁ st₂ r₁ r₂} (h : RRel st₁ st₂ r₁ r₂) (rs : List Nat) :
    (getAll r₁ rs = none ∧ getAll r₂ rs = none) ∨
    ∃ k₁ k₂, getAll r₁ rs = some k₁ ∧ getAll r₂ rs = some k₂ ∧ RRel st₁ st₂ k₁ k₂ := by
  induction rs with
  | nil => right; exact ⟨[], [], rfl, rfl, .nil⟩
  | cons r rs ih =>
    unfold getAll at *
    unfold mapOpt
    rcases h.get r with ⟨h1, h2⟩ | ⟨a, b, h1, h2, hk⟩
    · left; simp [h1, h2]
    · rcases ih with ⟨i1, i2⟩ | ⟨k₁, k₂, i1, i2, hr⟩
      · left; simp [h1, h2, i1, i2]
      · right; exact ⟨a :: k₁, b :: k₂, by simp [h1, i1], by simp [h2, i2], .cons hk hr⟩

theorem filter_rel {st₁ st₂ l₁ l₂} (h : RRel st₁ st₂ l₁ l₂) (p q : Nat → Bool)
    (hpq : ∀ a b, KRel st₁ st₂ a b → p a = q b) :
    RRel st₁ st₂ (l₁.filter p) (l₂.filter q) := by
  induction h with
  | nil => exact .nil
  | cons hk _ ih =>
    simp only [List.filter_cons]
    rw [hpq _ _ hk]
    split
    · exact .cons hk ih
    · exact ih

theorem firstOcc_rel {st₁ st₂ l₁ l₂} (w₁ : Wf st₁) (w₂ : Wf st₂) (h : RRel st₁ st₂ l₁ l₂) :
    RRel st₁ st₂ (firstOcc l₁) (firstOcc l₂) := by
  induction h with
  | nil => exact .nil
  | cons hk _ ih =>
    exact .cons hk (filter_rel ih _ _ fun a b hab =>
      decide_eq_decide.mpr (not_congr (KRel.eq_iff w₁ w₂ hab hk)))

theorem resolveAll_rel {st₁ st₂ l₁ l₂} (h : RRel st₁ st₂ l₁ l₂) :
    mapOpt (resolve st₁) l₁ = mapOpt (resolve st₂) l₂ := by
  induction h with
  | nil => rfl
  | cons hk _ ih =>
    obtain ⟨x, h1, h2⟩ := hk
    unfold mapOpt
    rw [h1, h2, ih]

/-- The simulation: a disciplined program started on related register files in two well-formed
    tables produces the same output (and gets stuck in the same places). -/
theorem run_rel (p : Prog) {st₁ st₂ : Interner} {r₁ r₂ ids sup : List Nat}
    (w₁ : Wf st₁) (w₂ : Wf st₂) (hr : RRel st₁ st₂ r₁ r₂) (hd : p.disciplined = true) :
    run p st₁ r₁ ids sup = run p st₂ r₂ ids sup := by
  induction p generalizing st₁ st₂ r₁ r₂ ids sup with
  | halt => rfl
  | intern e k ih =>
    unfold run
    rw [evalS_rel hr e]
    cases evalS st₂ r₂ e with
    | none => rfl
    | some s =>
      exact ih (C02_wf_intern _ _ w₁) (C02_wf_intern _ _ w₂)
        ((hr.mono s s).snoc ⟨s, C02_resolve_intern st₁ s, C02_resolve_intern st₂ s⟩) hd
  | emit e k ih =>
    unfold run
    rw [evalS_rel hr e, ih w₁ w₂ hr hd]
  | ifKeyEq a b t e iht ihe =>
    simp only [Prog.disciplined, Bool.and_eq_true] at hd
    unfold run
    rcases hr.get a with ⟨a1, a2⟩ | ⟨x₁, x₂, a1, a2, hka⟩
    · rw [a1, a2]
    · rcases hr.get b with ⟨b1, b2⟩ | ⟨y₁, y₂, b1, b2, hkb⟩
      · rw [a1, a2, b1, b2]
      · rw [a1, a2, b1, b2]
        simp only
        rw [KRel.keyEq_eq w₁ w₂ hka hkb, iht w₁ w₂ hr hd.1, ihe w₁ w₂ hr hd.2]
  | ordered byKey rs k ih =>
    simp only [Prog.disciplined, Bool.and_eq_true, Bool.not_eq_true'] at hd
    obtain ⟨rfl, hd⟩ := hd
    unfold run
    rcases getAll_rel hr rs with ⟨g1, g2⟩ | ⟨k₁, k₂, g1, g2, hk⟩
    · rw [g1, g2]
    · rw [g1, g2]
      simp only [Bool.false_eq_true, if_false]
      rw [resolveAll_rel (firstOcc_rel w₁ w₂ hk), ih w₁ w₂ hr hd]
  | hashed π rs k ih => cases hd
  | fresh k ih =>
    unfold run
    cases sup with
    | nil => rfl
    | cons i sup' => exact ih w₁ w₂ hr hd
  | ifIdEq i j t e iht ihe =>
    simp only [Prog.disciplined, Bool.and_eq_true] at hd
    unfold run
    rw [iht w₁ w₂ hr hd.1, ihe w₁ w₂ hr hd.2]

/-- **Non-interference of the interner.**  A compilation that uses identifiers only through key
    equality, `resolve` and insertion-ordered iteration produces the same output from any two
    initial interner states — whatever the thread compiled before. -/
theorem C02_noninterference_eq_resolve (p : Prog) (hd : p.disciplined = true)
    (st₁ st₂ : Interner) (w₁ : Wf st₁) (w₂ : Wf st₂) (supply : List Nat) :
    compile p st₁ supply = compile p st₂ supply :=
  run_rel p w₁ w₂ .nil hd

/-- The same, phrased over histories: the output does not depend on the sequence of strings the
    thread interned before this compilation. -/
theorem C02_history_independent (p : Prog) (hd : p.disciplined = true) (h₁ h₂ : List Str)
    (supply : List Nat) :
    compile p (internAll [] h₁) supply = compile p (internAll [] h₂) supply :=
  C02_noninterference_eq_resolve p hd _ _ (C02_wf_reachable h₁) (C02_wf_reachable h₂) supply

/-! ### ids: only their equality pattern matters -/

/-- A program cannot tell two supplies of pairwise distinct ids apart: in a list without
    repetition, two registers hold equal ids exactly when they are the same register. -/
theorem run_ids_invariant (p : Prog) {st : Interner} {regs ids₁ ids₂ sup₁ sup₂ : List Nat}
    (hl : ids₁.length = ids₂.length) (n₁ : (ids₁ ++ sup₁).Nodup) (n₂ : (ids₂ ++ sup₂).Nodup)
    (d₁ : p.draws ≤ sup₁.length) (d₂ : p.draws ≤ sup₂.length) :
    run p st regs ids₁ sup₁ = run p st regs ids₂ sup₂ := by
  induction p generalizing st regs ids₁ ids₂ sup₁ sup₂ with
  | halt => rfl
  | intern e k ih =>
    unfold run
    cases evalS st regs e with
    | none => rfl
    | some s => exact ih hl n₁ n₂ d₁ d₂
  | emit e k ih => unfold run; rw [ih hl n₁ n₂ d₁ d₂]
  | ordered byKey rs k ih => unfold run; rw [ih hl n₁ n₂ d₁ d₂]
  | hashed π rs k ih => unfold run; rw [ih hl n₁ n₂ d₁ d₂]
  | ifKeyEq a b t e iht ihe =>
    obtain ⟨t₁, e₁⟩ := Nat.max_le.mp d₁
    obtain ⟨t₂, e₂⟩ := Nat.max_le.mp d₂
    unfold run
    rw [iht hl n₁ n₂ t₁ t₂, ihe hl n₁ n₂ e₁ e₂]
  | fresh k ih =>
    unfold run
    cases sup₁ with
    | nil => cases d₁
    | cons i₁ s₁ =>
      cases sup₂ with
      | nil => cases d₂
      | cons i₂ s₂ =>
        exact ih (by simp [hl]) (by simpa using n₁) (by simpa using n₂)
          (Nat.le_of_succ_le_succ d₁) (Nat.le_of_succ_le_succ d₂)
  | ifIdEq i j t e iht ihe =>
    obtain ⟨t₁, e₁⟩ := Nat.max_le.mp d₁
    obtain ⟨t₂, e₂⟩ := Nat.max_le.mp d₂
    unfold run
    rcases getElem?_of_length_eq hl i with ⟨a1, a2⟩ | ⟨x₁, x₂, a1, a2⟩
    · rw [a1, a2]
    · rcases getElem?_of_length_eq hl j with ⟨b1, b2⟩ | ⟨y₁, y₂, b1, b2⟩
      · rw [a1, a2, b1, b2]
      · rw [a1, a2, b1, b2]
        simp only
        rw [nodup_getElem?_beq (List.nodup_append.mp n₁).1 a1 b1,
          nodup_getElem?_beq (List.nodup_append.mp n₂).1 a2 b2,
          iht hl n₁ n₂ t₁ t₂, ihe hl n₁ n₂ e₁ e₂]

/-- Outputs that use ids only through equality are the same for any two supplies of pairwise
    distinct ids (any program: ids and identifiers do not interact). -/
theorem C02_idEq_supply_invariant (p : Prog) (st : Interner) (sup₁ sup₂ : List Nat)
    (n₁ : sup₁.Nodup) (n₂ : sup₂.Nodup) (d₁ : p.draws ≤ sup₁.length) (d₂ : p.draws ≤ sup₂.length) :
    compile p st sup₁ = compile p st sup₂ :=
  run_ids_invariant p rfl (by simpa using n₁) (by simpa using n₂) d₁ d₂

/-! ### the counters -/

theorem seqSupply_eq_map (m n c : Nat) :
    seqSupply m c n = (List.range n).map fun i => (c + i) % m := by
  induction n generalizing c with
  | zero => rfl
  | succ n ih =>
    rw [seqSupply, ih, List.range_succ_eq_map, List.map_cons, List.map_map]
    simp [Function.comp_def, Nat.add_assoc, Nat.add_comm 1]

/-- Without wrap-around (at most `m` draws) consecutive `fetch_add`s return pairwise distinct ids,
    whatever the counter's initial value. -/
theorem seqSupply_nodup (m n c : Nat) (h : n ≤ m) : (seqSupply m c n).Nodup := by
  rw [seqSupply_eq_map]
  refine nodup_map_of_injOn (fun i hi j hj e => ?_) List.nodup_range
  rw [List.mem_range] at hi hj
  exact Nat.le_antisymm (le_of_add_mod_eq (Nat.lt_of_lt_of_le hi h) e)
    (le_of_add_mod_eq (Nat.lt_of_lt_of_le hj h) e.symm)

theorem seqSupply_length (m n c : Nat) : (seqSupply m c n).length = n := by
  simp [seqSupply_eq_map]

theorem seqSupply_mod (m n c : Nat) : seqSupply m (c % m) n = seqSupply m c n := by
  simp [seqSupply_eq_map, Nat.mod_add_mod]

/-- A schedule pairs its threads, in order, with the ids of `schedule.length` consecutive
    `fetch_add`s: the interleaving decides who gets which id, never the set of ids. -/
theorem runSchedule_eq_zip (m : Nat) (sched : List Nat) (c : Nat) :
    runSchedule m c sched = sched.zip (seqSupply m c sched.length) := by
  induction sched generalizing c with
  | nil => rfl
  | cons t ts ih =>
    simp only [runSchedule, fetchAdd, List.length_cons, seqSupply, List.zip_cons_cons, ih, seqSupply_mod]

theorem runSchedule_ids (m : Nat) (sched : List Nat) (c : Nat) :
    (runSchedule m c sched).map (·.2) = seqSupply m c sched.length := by
  rw [runSchedule_eq_zip, List.map_snd_zip (by rw [seqSupply_length]; exact Nat.le_refl _)]

/-- **Offset invariance.**  A compilation that uses ids only through `idEq` gives the same output
    whatever values the process-wide counter holds when it starts (guard: it draws at most
    `m = 2^32` ids, so no id repeats by wrap-around). -/
theorem C02_freshId_offset_invariant (p : Prog) (st : Interner) (m c₁ c₂ n : Nat)
    (hn : n ≤ m) (hp : p.draws ≤ n) :
    compile p st (seqSupply m c₁ n) = compile p st (seqSupply m c₂ n) :=
  C02_idEq_supply_invariant p st _ _ (seqSupply_nodup m n c₁ hn) (seqSupply_nodup m n c₂ hn)
    (by rw [seqSupply_length]; exact hp) (by rw [seqSupply_length]; exact hp)

/-- **Interleavings.**  For every interleaving of the threads' `fetch_add` requests (at most `m`
    in total) all ids handed out are pairwise distinct — across threads and, in particular,
    within each thread. -/
theorem C02_interleaving_distinct (m c : Nat) (sched : List Nat) (h : sched.length ≤ m) :
    ((runSchedule m c sched).map (·.2)).Nodup ∧ ∀ t, (observed m c sched t).Nodup := by
  have all : ((runSchedule m c sched).map (·.2)).Nodup := by
    rw [runSchedule_ids]; exact seqSupply_nodup m _ c h
  refine ⟨all, fun t => ?_⟩
  unfold observed
  exact List.Pairwise.sublist (List.Sublist.map _ List.filter_sublist) all

theorem C02_observed_length (m : Nat) (t : Nat) : ∀ (sched : List Nat) (c : Nat),
    (observed m c sched t).length = sched.count t := by
  intro sched c
  have h : (runSchedule m c sched).map (·.1) = sched := by
    rw [runSchedule_eq_zip, List.map_fst_zip (by rw [seqSupply_length]; exact Nat.le_refl _)]
  rw [observed, List.length_map, List.count_eq_countP, List.countP_eq_length_filter]
  conv => rhs; rw [← h, List.filter_map, List.length_map]
  rfl

/-- **Schedule invariance.**  What a thread computes from its ids through `idEq` does not depend
    on how the other threads' requests are interleaved with its own, nor on the counter's
    initial value (guard: at most `m` requests per schedule). -/
theorem C02_schedule_invariant (p : Prog) (st : Interner) (m c₁ c₂ t : Nat) (s₁ s₂ : List Nat)
    (h₁ : s₁.length ≤ m) (h₂ : s₂.length ≤ m)
    (d₁ : p.draws ≤ s₁.count t) (d₂ : p.draws ≤ s₂.count t) :
    compile p st (observed m c₁ s₁ t) = compile p st (observed m c₂ s₂ t) :=
  C02_idEq_supply_invariant p st _ _ ((C02_interleaving_distinct m c₁ s₁ h₁).2 t)
    ((C02_interleaving_distinct m c₂ s₂ h₂).2 t)
    (by rw [C02_observed_length]; exact d₁) (by rw [C02_observed_length]; exact d₂)

/-! ### the combined statement (partial) and the full property -/

/-- Everything outside one compilation that the model lets it read: what the thread interned
    before, the ids its `fetch_add`s return (counter values × interleaving with other threads). -/
structure Ambient where
  history : List Str
  supply  : List Nat

/-- The full property, for an arbitrary compiler `impl` reading its source and an ambient state:
    the observation is a function of the source alone.  For grass itself (`impl` = the real
    `from_path` with its thread-local, process-wide and per-hasher state) this is NOT proved here;
    it is what the metamorphic run of tools/props/c02.py tests. -/
def C02_full (Src : Type) (impl : Src → Ambient → Option (List Str)) : Prop :=
  ∀ (src : Src) (a₁ a₂ : Ambient), impl src a₁ = impl src a₂

/-- **Proved part.**  For compilations expressed in the identifier/id language that respect the
    discipline (identifiers only through key equality, `resolve` and insertion-ordered iteration;
    ids only through equality) the full property holds over all histories and all supplies of
    pairwise distinct ids that are long enough.  Missing for `C02_full` of grass: that every use
    grass makes of `Identifier`, `ComplexSelector::unique_id` and `Builtin` ids has this shape
    (it does not: see the two `C02_asFound_…` theorems and the site list in evidence), and every
    other place the compiler could keep state. -/
theorem C02_noninterference_partial (p : Prog) (hd : p.disciplined = true) (a₁ a₂ : Ambient)
    (n₁ : a₁.supply.Nodup) (n₂ : a₂.supply.Nodup)
    (d₁ : p.draws ≤ a₁.supply.length) (d₂ : p.draws ≤ a₂.supply.length) :
    compile p (internAll [] a₁.history) a₁.supply = compile p (internAll [] a₂.history) a₂.supply := by
  rw [C02_history_independent p hd a₁.history a₂.history a₁.supply]
  exact C02_idEq_supply_invariant p _ _ _ n₁ n₂ d₁ d₂

/-! ### the specified iteration order is history-independent; the as-found ones are not -/

theorem foldr_intern_disciplined (k : Prog) (hk : k.disciplined = true) : ∀ (names : List Str),
    (names.foldr (fun s k => Prog.intern (.lit s) k) k).disciplined = true := by
  intro names; induction names with
  | nil => exact hk
  | cons s ss ih => simpa [Prog.disciplined] using ih

/-- **The code as it stands** (`byKey = false`: named arguments in an `IndexMap`, fix adef70c):
    `keywords()` lists the names in the same order after every history. -/
theorem C02_keywords_insertionOrder_history_independent (names h₁ h₂ : List Str) :
    compile (keywordsProg false names) (internAll [] h₁) [] =
    compile (keywordsProg false names) (internAll [] h₂) [] :=
  C02_history_independent _ (foldr_intern_disciplined _ (by simp [Prog.disciplined]) names) h₁ h₂ []

/-- Key-ordered iteration (`byKey = true`: `BTreeMap<Identifier, _>`): one program, two histories,
    two different outputs.  This was `keywords()` on the pinned tree (D13 a1, repaired by adef70c)
    and is still `meta.module-variables()` of a module's own members (D13 a3, `moduleMembersProg true`). -/
theorem C02_asFound_orderedIterate_history_dependent :
    ∃ (names h₁ h₂ : List Str),
      compile (keywordsProg true names) (internAll [] h₁) [] = some ["zq", "yq"] ∧
      compile (keywordsProg true names) (internAll [] h₂) [] = some ["yq", "zq"] :=
  ⟨["zq", "yq"], [], ["yq", "zq"], by decide +kernel, by decide +kernel⟩

/-- Pinned-tree variant of “No arguments named …” (args.rs `BTreeSet<Identifier>`, D13 a2, repaired
    by adef70c); the last conjunct is the code as it stands. -/
theorem C02_asFound_unknownNames_history_dependent :
    unknownNames true (internAll [] []) ["a"] ["a", "zq", "yq"] = some ["zq", "yq"] ∧
    unknownNames true (internAll [] ["yq", "zq"]) ["a"] ["a", "zq", "yq"] = some ["yq", "zq"] ∧
    unknownNames false (internAll [] ["yq", "zq"]) ["a"] ["a", "zq", "yq"] = some ["zq", "yq"] := by
  decide +kernel

/-- Pinned-tree variant (`HashSet<Identifier>` in `MergedMapView`, D13 b, repaired by d156cce):
    one program, one history, two hasher states, two different outputs. -/
theorem C02_asFound_hashIterate_perm_dependent :
    ∃ (names : List Str) (π₁ π₂ : List Nat),
      π₁.Perm (List.range names.length) ∧ π₂.Perm (List.range names.length) ∧
      compile (mergedKeysProg π₁ names) [] [] ≠ compile (mergedKeysProg π₂ names) [] [] :=
  ⟨["zq", "yq"], [0, 1], [1, 0], by decide +kernel, by decide +kernel, by decide +kernel⟩

/-- As the code stands: the own members of a module are listed in key order, so the listing depends
    on the thread's history (known finding D13 a3) — and so does which variable a `with` error
    names (D13 a4). -/
theorem C02_asFound_moduleMembers_history_dependent :
    compile (moduleMembersProg true ["zq", "yq"]) (internAll [] []) [] = some ["zq", "yq"] ∧
    compile (moduleMembersProg true ["zq", "yq"]) (internAll [] ["yq", "zq"]) [] = some ["yq", "zq"] ∧
    configFirst true (internAll [] []) ["zq", "yq"] = some "zq" ∧
    configFirst true (internAll [] ["yq", "zq"]) ["zq", "yq"] = some "yq" := by
  decide +kernel

/-- With insertion order both would be history-independent (what a repair has to achieve). -/
theorem C02_moduleMembers_insertionOrder_history_independent (names h₁ h₂ : List Str) :
    compile (moduleMembersProg false names) (internAll [] h₁) [] =
    compile (moduleMembersProg false names) (internAll [] h₂) [] ∧
    configFirst false (internAll [] h₁) names = configFirst false (internAll [] h₂) names := by
  have h := C02_keywords_insertionOrder_history_independent names h₁ h₂
  exact ⟨h, by unfold configFirst; rw [h]⟩

/-- Whatever the hasher does, the members listed are a rearrangement of the same members: sorting
    the listing (or iterating in insertion order) would make it independent of the hasher. -/
theorem C02_hashed_is_permutation {α} (π : List Nat) (xs : List α)
    (hπ : π.Perm (List.range xs.length)) : (permuteBy π xs).Perm xs := by
  unfold permuteBy
  have := hπ.filterMap (xs[·]?)
  rwa [filterMap_getElem?_range] at this

/-! ### unique-id() -/

theorem isAlnum_isNameChar (c : Char) (h : isAlnum c = true) : isNameChar c = true := by
  unfold isAlnum at h; unfold isNameChar isNameStart
  rcases Bool.or_eq_true _ _ |>.mp h with h | h <;> simp [h]

/-- Every `unique-id()` result (“id-” followed by alphanumerics) is a valid CSS identifier. -/
theorem C02_uniqueId_valid_ident (rnd : List Char) (h : rnd.all isAlnum = true) :
    isIdent (uniqueId rnd) = true := by
  have h1 : ('i' == '-') = false := by decide
  have h2 : isNameStart 'i' = true := by decide
  have h3 : isNameChar 'd' = true := by decide
  have h4 : isNameChar '-' = true := by decide
  simp only [uniqueId, isIdent, h1, h2, h3, h4, List.all_cons, Bool.true_and, Bool.false_eq_true, if_false]
  rw [List.all_eq_true] at *
  exact fun c hc => isAlnum_isNameChar c (h c hc)

/-- Distinct samples give distinct ids (that the 12-character samples are distinct is a
    probabilistic fact about `rand`, outside the model; the check tests it). -/
theorem C02_uniqueId_distinct (rnds : List (List Char)) (h : rnds.Nodup) :
    (rnds.map uniqueId).Nodup :=
  nodup_map_of_injOn (fun _ _ _ _ e => by simpa [uniqueId] using e) h

/-! ### unique-id(): how the id is drawn (string.rs:240-249 over rand's `Alphanumeric`)

  Distinctness is PROBABILISTIC in the code: each call draws twelve fresh characters, nothing is
  remembered between calls.  What is proved: every result has the shape `id-` + 12 charset
  characters and is a valid identifier whatever the generator returns and from whatever evaluation
  context it is called (`C02_uniqueIdDraws_valid`); an id determines its twelve accepted words
  (`C02_uniqueIdOfWords_injective`), so two calls collide IFF they draw the same 12-word vector:
  for a uniform independent generator that is probability exactly 62^-12 per pair, hence at most
  N(N-1)/2 · 62^-12 (< N² · 1.6e-22) for N calls in one compilation (union bound; the uniformity of
  `thread_rng` is outside the model). -/

theorem alnumCharset_spec :
    alnumCharset.length = 62 ∧ alnumCharset.Nodup ∧ ∀ c ∈ alnumCharset, isAlnum c = true := by
  decide +kernel

theorem sampleAlnum_mem {ws : List Nat} {c : Char} {ws' : List Nat}
    (h : sampleAlnum ws = some (c, ws')) : c ∈ alnumCharset := by
  induction ws with
  | nil => cases h
  | cons w ws ih =>
    rw [sampleAlnum] at h
    cases hc : alnumCharset[w]? with
    | none => rw [hc] at h; exact ih h
    | some c' =>
      rw [hc] at h
      cases h
      exact List.mem_of_getElem? hc

theorem sampleAlnums_spec {n : Nat} {ws : List Nat} {cs : List Char} {ws' : List Nat} :
    sampleAlnums n ws = some (cs, ws') → cs.length = n ∧ ∀ c ∈ cs, c ∈ alnumCharset := by
  fun_induction sampleAlnums n ws generalizing cs with
  | case1 ws => rintro ⟨⟩; simp
  | case2 n ws h => intro h; cases h
  | case3 n ws c ws1 h1 h2 => intro h; cases h
  | case4 n ws c ws1 h1 cs1 ws2 h2 ih =>
    rintro ⟨⟩
    obtain ⟨hl, hm⟩ := ih h2
    exact ⟨congrArg (· + 1) hl, List.forall_mem_cons.mpr ⟨sampleAlnum_mem h1, hm⟩⟩

/-- One call: whatever words the generator returns, the result is `id-` + twelve charset characters,
    a valid CSS identifier of length 15. -/
theorem C02_uniqueIdDraw_shape (ws ws' : List Nat) (id : List Char) (h : uniqueIdDraw ws = some (id, ws')) :
    isDrawShape id = true ∧ isIdent id = true ∧ id.length = 15 := by
  unfold uniqueIdDraw at h
  split at h
  · cases h
  · rename_i cs ws1 h1
    simp only [Option.some.injEq, Prod.mk.injEq] at h
    obtain ⟨rfl, _⟩ := h
    obtain ⟨hl, hm⟩ := sampleAlnums_spec h1
    refine ⟨?_, ?_, by simp [uniqueId, hl]⟩
    · simp only [isDrawShape, uniqueId, List.take, List.drop, hl, beq_self_eq_true, Bool.true_and, List.all_eq_true]
      intro c hc
      exact List.contains_iff_mem.mpr (hm c hc)
    · apply C02_uniqueId_valid_ident
      rw [List.all_eq_true]
      exact fun c hc => alnumCharset_spec.2.2 c (hm c hc)

/-- Any number of calls within one compilation, from whatever contexts (the generator is the
    thread's, not a copied field): `n` results, each of the drawn shape and a valid identifier. -/
theorem C02_uniqueIdDraws_valid : ∀ (n : Nat) (ws : List Nat) (ids : List (List Char)),
    uniqueIdDraws n ws = some ids →
    ids.length = n ∧ ids.all isIdent = true ∧ ids.all isDrawShape = true := by
  intro n ws
  fun_induction uniqueIdDraws n ws with
  | case1 ws => rintro ids ⟨⟩; simp
  | case2 n ws h => intro ids h; cases h
  | case3 n ws id ws1 h1 h2 => intro ids h; cases h
  | case4 n ws id ws1 h1 ids1 h2 ih =>
    rintro ids ⟨⟩
    obtain ⟨hl, hv, hs⟩ := ih _ h2
    obtain ⟨s1, s2, _⟩ := C02_uniqueIdDraw_shape _ _ _ h1
    simp [hl, hv, hs, s1, s2]

/-- An id determines the accepted words it was made from: two calls return the same id IFF they
    drew the same twelve words (per pair: one vector out of 62^12). -/
theorem C02_uniqueIdOfWords_injective (v w : List Nat) (hv : ∀ x ∈ v, x < 62) (hw : ∀ x ∈ w, x < 62)
    (h : uniqueIdOfWords v = uniqueIdOfWords w) : v = w := by
  rw [← alnumCharset_spec.1] at hv hw
  apply filterMap_getElem?_inj alnumCharset_spec.2.1 hv hw
  simpa [uniqueIdOfWords, uniqueId] using h

/-- P̂ holds of calls that draw pairwise distinct word vectors. -/
theorem C02_uniqueIdOfWords_ok (vs : List (List Nat)) (hlt : ∀ v ∈ vs, ∀ x ∈ v, x < 62) (hnd : vs.Nodup) :
    uniqueIdsOk (vs.map uniqueIdOfWords) = true := by
  simp only [uniqueIdsOk, Bool.and_eq_true, decide_eq_true_eq, List.all_eq_true]
  refine ⟨fun id hid => ?_, nodup_map_of_injOn (fun u hu v hv e =>
    C02_uniqueIdOfWords_injective u v (hlt u hu) (hlt v hv) e) hnd⟩
  obtain ⟨v, _, rfl⟩ := List.mem_map.mp hid
  refine C02_uniqueId_valid_ident _ (List.all_eq_true.mpr fun c hc => ?_)
  obtain ⟨x, _, hx⟩ := List.mem_filterMap.mp hc
  exact alnumCharset_spec.2.2 c (List.mem_of_getElem? hx)

-- non-vacuity: words ≥ 62 are rejected (63 and 62 skipped); two calls; shapes; injectivity premise met
example : uniqueIdDraws 2 ([63, 0, 26, 62, 52, 1, 2, 3, 4, 5, 6, 7, 8, 9] ++ List.replicate 12 61)
    = some ["id-Aa0BCDEFGHIJ".toList, "id-999999999999".toList] := by decide +kernel
example : uniqueIdsOk ([[0, 1, 2, 3, 4, 5, 6, 7, 8, 9, 10, 11], [0, 1, 2, 3, 4, 5, 6, 7, 8, 9, 10, 12]].map uniqueIdOfWords) = true := by
  decide +kernel
example : isDrawShape "id-aB3aB3aB3aB3".toList = true ∧ isDrawShape "u00zk3f".toList = false
    ∧ isDrawShape "id-aB3aB3aB3aB".toList = false := by decide +kernel

/-! ### random($limit): argument validation and range (math.rs:89-120) -/

/-- Whatever the generator samples (`r` from `gen_range(0..n)`, i.e. `r < n`; `num/10^scale` from
    `gen_range(0.0..1.0)`, i.e. `num < 10^scale`), the result of `random` lies in the range the
    specification gives for its argument: [0,1) without a limit, 1 for limit 1, an integer in
    1..limit for an integer limit ≥ 2, an error of the right class otherwise. -/
theorem C02_random_in_range (a : RandArg) (r num scale : Nat)
    (hr : ∀ n, randomSpec a = .oneTo n → (r : Int) < n) (hu : (num : Int) < pow10 scale) :
    randomOk (randomSpec a) (randomResult a r num scale) = true := by
  have p0 : pow10 0 = 1 := by decide
  unfold randomResult
  cases hs : randomSpec a with
  | unit01 =>
    simp only [randomOk, Bool.and_eq_true, decide_eq_true_eq]
    exact ⟨Int.natCast_nonneg _, hu⟩
  | exactly1 => simp [randomOk, p0]
  | oneTo n =>
    have := hr n hs
    simp only [randomOk, p0, Bool.and_eq_true, decide_eq_true_eq]
    omega
  | errNumber => simp [randomOk]
  | errInt => simp [randomOk]
  | errPositive => simp [randomOk]

/-- The validation accepts exactly the integer limits ≥ 1 (and the absent limit). -/
theorem C02_random_accepts_iff (m : Int) (s : Nat) :
    (randomSpec (.number m s) = .exactly1 ∨ ∃ n, randomSpec (.number m s) = .oneTo n) ↔
    (m % pow10 s = 0 ∧ 1 ≤ m / pow10 s) := by
  by_cases h1 : m % pow10 s = 0
  · by_cases h2 : m / pow10 s = 1
    · simp [randomSpec, h1, h2]
    · by_cases h3 : m / pow10 s ≤ 0
      · have h4 : ¬ (1 ≤ m / pow10 s) := by omega
        simp [randomSpec, h1, h2, h3, h4]
      · have h4 : 1 ≤ m / pow10 s := by omega
        simp [randomSpec, h1, h2, h3, h4]
  · simp [randomSpec, h1]

example : randomSpec (.number 50 1) = .oneTo 5 ∧ randomSpec (.number 15 1) = .errInt ∧ randomSpec (.number 0 0) = .errPositive
    ∧ randomSpec (.number (-3) 0) = .errPositive ∧ randomSpec (.number 10 1) = .exactly1 ∧ randomSpec .absent = .unit01 := by decide +kernel
example : randomOk (.oneTo 5) (.value 5 0) = true ∧ randomOk (.oneTo 5) (.value 6 0) = false ∧ randomOk (.oneTo 5) (.value 25 1) = false
    ∧ randomOk .unit01 (.value 9999 4) = true ∧ randomOk .unit01 (.value 1 0) = false := by decide +kernel
example : randomOk (randomSpec (.number 7 0)) (randomResult (.number 7 0) 6 0 0) = true := by decide +kernel

/-! ### static tie: the state that can outlive a compilation

  `Grass.Generated.GlobalState.globalState` is regenerated on every run from the Rust source
  (tools/translate_iter_sites.py `scan_globals`): every `static` / `thread_local!` / `lazy_static!`
  item of the workspace with a class read off its declared type.  The survivors modelled in
  Grass/Interner.lean are the interner (`STRINGS`: `Interner`) and the two counters
  (`FUNCTION_COUNT`, `COMPLEX_SELECTOR_UNIQUE_ID`: `fetchAdd`/`runSchedule`). -/

open Grass.Generated.GlobalState in
/-- The modelled survivors, with the class the table must give them. -/
def modelledSurvivors : List (String × Grass.Generated.GlobalState.GlobalClass) :=
  [("STRINGS", .threadLocal), ("FUNCTION_COUNT", .counter), ("COMPLEX_SELECTOR_UNIQUE_ID", .counter)]

open Grass.Generated.GlobalState in
/-- Every item of the generated table is either never written after initialisation (no interior
    mutability in its declared type) or one of the modelled survivors with the modelled class; no
    item is of unknown class; and every modelled survivor is in the table.  A new `static`,
    `thread_local!`, atomic or `static mut` in the source makes this fail until it is modelled. -/
theorem C02_survivors_modelled :
    (∀ g ∈ globalState, g.cls = .constAfterInit ∨ (g.name, g.cls) ∈ modelledSurvivors) ∧
    (∀ m ∈ modelledSurvivors, ∃ g ∈ globalState, (g.name, g.cls) = m) := by
  decide +kernel

example : Grass.Generated.GlobalState.globalState.length ≥ 3 := by decide +kernel

/-! ### non-vacuity -/

/-- interns `b`, `a`, `b`; compares keys 0 and 2 (equal) and 0 and 1 (different); lists the three
    in insertion order; draws two ids and compares them. -/
private def demo : Prog :=
  .intern (.lit "b") <| .intern (.lit "a") <| .intern (.cat (.lit "") (.res 0)) <|
  .ifKeyEq 0 2
    (.ifKeyEq 0 1 (.emit (.lit "wrong") .halt)
      (.ordered false [0, 1, 2] <| .fresh <| .fresh <|
        .ifIdEq 0 1 (.emit (.lit "same-id") .halt) (.emit (.cat (.res 1) (.res 2)) .halt)))
    (.emit (.lit "wrong") .halt)

example : demo.disciplined = true ∧ demo.draws = 2 := by decide +kernel
example : compile demo (internAll [] []) (seqSupply 4 3 2) = some ["b", "a", "ab"] := by decide +kernel
example : compile demo (internAll [] ["a", "x", "b"]) (observed 8 7 [1, 0, 1, 0, 0] 0) = some ["b", "a", "ab"] := by decide +kernel
example : Wf (internAll [] ["a", "x", "a", "b"]) ∧ internAll [] ["a", "x", "a", "b"] = ["a", "x", "b"] :=
  ⟨C02_wf_reachable _, by decide +kernel⟩
example : intern ["a", "x"] "x" = (["a", "x"], 1) ∧ intern ["a", "x"] "y" = (["a", "x", "y"], 2) := by decide +kernel
-- wrap-around inside the guard (3 draws, modulus 4, counter at 3) and outside it (3 draws, modulus 2)
example : seqSupply 4 3 3 = [3, 0, 1] ∧ seqSupply 2 0 3 = [0, 1, 0] := by decide +kernel
example : runSchedule 8 6 [0, 1, 1, 0] = [(0, 6), (1, 7), (1, 0), (0, 1)] ∧ observed 8 6 [0, 1, 1, 0] 1 = [7, 0] := by decide +kernel
example : permuteBy [2, 0, 1] ["a", "b", "c"] = ["c", "a", "b"] := by decide +kernel
example : uniqueIdsOk ["id-aB3".toList, "id-zzz".toList] = true ∧ uniqueIdsOk ["id-a".toList, "id-a".toList] = false
    ∧ uniqueIdsOk ["1d".toList] = false := by decide +kernel

end Grass.Interner
