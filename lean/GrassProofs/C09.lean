import Grass.Value
import GrassProofs.Lemmas.ValueNum
import GrassProofs.Lemmas.ValueEq
import GrassProofs.Lemmas.ValueEquiv
import GrassProofs.Lemmas.ValueMap
import GrassProofs.Lemmas.ValueExt
import GrassProofs.Lemmas.ValueExtEq
/-
  C09 — Equality is an equivalence consistent with !=, map keys and index().

  `veq sw` is the model of `Value::eq` (Grass/Value.lean); `sw : Sw` selects the variant:
    `Sw.now`       the code as it stands in /repo — since the repairs 312c562 (K1), d046d73 (K2),
                   61f3ffb (K4) it coincides with `Sw.spec`, what the property demands: numbers
                   always compared in the canonical unit of their kind; an argument list compared
                   as the plain unbracketed list of its positional elements with its own
                   separator (e36bfd5), keywords never counting; `map-remove` removing
                   exactly the keys `==` to the probe,
    `Sw.beforeFix` the tree before those three repairs (after D6/D20),
    `Sw.pinned`    the tree as first found (D6, D20).
  Every theorem is stated for an arbitrary `sw` with `sw.canon = true` on the values `inScope sw`
  admits — for `now`/`spec` that is every value (`C09_inScope_now`), so the `…_now` corollaries
  carry no scope condition.  The `C09_asFound_before_fix_…` / `C09_asFound_pinned_…` theorems are
  kernel-checked witnesses that the older variants violated the property (all repaired in /repo;
  the inputs are regression cases of tools/props/c09.py).

  Guards (all decidable, all shown satisfiable by the `example`s, all necessary):
    `noNaN v`    no NaN inside (NaN ≠ NaN in Sass, see `C09_veq_nan_false`)
    `mapWf sw v` the keys of every map inside are pairwise not `==` (every map grass can build is;
                 preservation theorems below) — without it `SassMap::eq` is not symmetric
                 (`C09_mapWf_needed`)
    `inRange v`  colour channels ≤ 255 and alpha ≤ 1 (what the colour constructors clamp to; above
                 that `Rgb::eq` treats all values as equal, which is not transitive together with
                 the fuzzy comparison, `C09_inRange_needed`)
    `inScope sw v` see above.
-/
namespace Grass.Value

/-- The full statement for the code as it stands, on the values grass can build (NaN-free for
    reflexivity, colour channels in range, maps with pairwise unequal keys).  Proved at the end:
    `C09_full_holds`. -/
def C09_full : Prop :=
  (∀ a, noNaN a = true → veq .now a a = true) ∧
  (∀ a b, inRange a = true → inRange b = true → mapWf .now a = true → mapWf .now b = true →
      veq .now a b = veq .now b a) ∧
  (∀ a b c, inRange a = true → inRange b = true → inRange c = true →
      veq .now a b = true → veq .now b c = true → veq .now a c = true) ∧
  (∀ a b, neOp .now a b = !(veq .now a b)) ∧
  (∀ m k, contains .now (remove .now m k) k = false) ∧
  (∀ es, literal .now es = none ↔ ¬ (es.map (·.1)).Pairwise (fun a b => veq .now a b = false))

/-! ## `==` is an equivalence -/

theorem C09_veq_refl (sw : Sw) (a : Value) (h : noNaN a = true) : veq sw a a = true :=
  veq_refl' sw a h

example : noNaN (.map (.cons (.num (.fin 1) .inch) (.list (.cons (.str ['a'] true) .nil) .comma true) .nil)) = true := by
  decide

/-- NaN equals nothing, itself included. -/
theorem C09_veq_nan_false (sw : Sw) (u : U) (b : Value) :
    veq sw (.num .nan u) b = false ∧ veq sw b (.num .nan u) = false := by
  constructor
  · cases b <;> simp only [veq]
    exact numEq_of_isNaN sw _ _ (.inl rfl)
  · cases b <;> simp only [veq]
    exact numEq_of_isNaN sw _ _ (.inr rfl)

theorem C09_veq_symm (sw : Sw) (hc : sw.canon = true) (a b : Value)
    (sa : inScope sw a = true) (sb : inScope sw b = true)
    (ra : inRange a = true) (rb : inRange b = true)
    (wa : mapWf sw a = true) (wb : mapWf sw b = true) :
    veq sw a b = veq sw b a := by
  have oa := ok_of sw a sa ra
  have ob := ok_of sw b sb rb
  exact Bool.eq_iff_iff.2 ⟨veq_symm' sw hc a b oa ob wa, veq_symm' sw hc b a ob oa wb⟩

theorem C09_veq_trans (sw : Sw) (hc : sw.canon = true) (a b c : Value)
    (sa : inScope sw a = true) (sb : inScope sw b = true) (sc : inScope sw c = true)
    (ra : inRange a = true) (rb : inRange b = true) (rc : inRange c = true)
    (h1 : veq sw a b = true) (h2 : veq sw b c = true) : veq sw a c = true :=
  veq_trans' sw hc a b c (ok_of sw a sa ra) (ok_of sw b sb rb) (ok_of sw c sc rc) h1 h2

-- hypotheses satisfiable, non-trivially: 1in == 96px == 2.54cm in the specified variant …
example : let a := Value.num (.fin 1) .inch; let b := Value.num (.fin 96) .px
    let c := Value.num (.fin ((254 : Rat) / 100)) .cm
    inScope .spec a = true ∧ inScope .spec b = true ∧ inScope .spec c = true ∧
    inRange a = true ∧ mapWf .spec a = true ∧ veq .spec a b = true ∧ veq .spec b c = true := by
  decide +kernel
-- … and a map against itself with another entry order
example : let a := Value.map (.cons (.str ['k'] false) (.num (.fin 1) .px) (.cons (.null) (.bool true) .nil))
    let b := Value.map (.cons (.null) (.bool true) (.cons (.str ['k'] true) (.num (.fin 1) .px) .nil))
    inScope .now a = true ∧ inScope .now b = true ∧ inRange a = true ∧ mapWf .now a = true ∧
    mapWf .now b = true ∧ veq .now a b = true := by
  decide +kernel

/-! ## `!=` -/

/-- The `!=` operator is the negation of `==` (visitor.rs:2880 uses Rust's default `ne`). -/
theorem C09_ne_eq_not_veq (sw : Sw) (a b : Value) : neOp sw a b = !(veq sw a b) := rfl

mutual
  /-- The second implementation of inequality, `Value::not_equals` (deleted by /repo 61f3ffb;
      its only caller was `SassMap::remove`), negated `==` only on values without argument lists
      whose numbers carry non-convertible or canonical units.
      (Outside: `C09_asFound_before_fix_remove_…`.) -/
  theorem C09_notEquals_eq_not_veq (sw : Sw) (hc : sw.canon = true) : ∀ (a b : Value),
      unitsCanon a = true → unitsCanon b = true → noArgList a = true → noArgList b = true →
      notEquals sw a b = !(veq sw a b)
    | .null, b, _, _, _, _ | .bool _, b, _, _, _, _ | .color .., b, _, _, _, _ | .map _, b, _, _, _, _ => by
      simp [notEquals]
    | .num n1 u1, b, h1, h2, _, _ => by
      cases b <;> simp only [notEquals, veq]
      simp only [unitsCanon] at h1 h2
      exact numNotEquals_eq sw hc _ _ _ _ h1 h2
    | .str s1 _, b, _, _, _, _ => by cases b <;> simp [notEquals, veq]
    | .arglist .., b, _, _, h, _ => by simp [noArgList] at h
    | .list l1 s1 b1, b, h1, h2, h3, h4 => by
      cases b <;> simp only [notEquals, veq, Bool.not_false]
      · rename_i l2 s2 b2
        simp only [unitsCanon, noArgList] at h1 h2 h3 h4
        split
        · rename_i hne
          cases hv : veqL sw l1 l2
          · simp
          · have := veqL_length sw l1 l2 hv
            rcases hne with hne | hne | hne
            · simp [hne]
            · simp [hne]
            · exact absurd this hne
        · rename_i hne
          simp only [not_or, Decidable.not_not] at hne
          rw [C09_notEqualsL_eq_not_veqL sw hc l1 l2 hne.2.2 h1 h2 h3 h4]
          simp [hne.1, hne.2.1]
      · simp [noArgList] at h4
  theorem C09_notEqualsL_eq_not_veqL (sw : Sw) (hc : sw.canon = true) : ∀ (l1 l2 : VList),
      l1.length = l2.length →
      unitsCanonL l1 = true → unitsCanonL l2 = true → noArgListL l1 = true → noArgListL l2 = true →
      notEqualsL sw l1 l2 = !(veqL sw l1 l2)
    | .nil, l2, hl, _, _, _, _ => by
      cases l2
      · simp [notEqualsL, veqL]
      · simp [VList.length] at hl
    | .cons a t, l2, hl, h1, h2, h3, h4 => by
      cases l2
      · simp [VList.length] at hl
      · rename_i b u
        simp only [VList.length, Nat.add_right_cancel_iff] at hl
        simp only [unitsCanonL, noArgListL, Bool.and_eq_true] at h1 h2 h3 h4
        simp only [notEqualsL, veqL]
        rw [C09_notEquals_eq_not_veq sw hc a b h1.1 h2.1 h3.1 h4.1,
          C09_notEqualsL_eq_not_veqL sw hc t u hl h1.2 h2.2 h3.2 h4.2]
        cases veq sw a b <;> simp
end

example : unitsCanon (.list (.cons (.num (.fin 3) .px) (.cons (.num (.fin 2) .em) .nil)) .space false) = true ∧
    noArgList (.list (.cons (.num (.fin 3) .px) .nil) .space false) = true := by decide

/-! ## keyed operations agree with `==` -/

/-- `map-get` returns the value of the first entry whose key is `==` to the probe. -/
theorem C09_map_get_eq_find (sw : Sw) (m : VPairs) (key : Value) :
    get sw m key = (m.toList.find? (fun e => veq sw e.1 key)).map (·.2) :=
  get_eq_find sw key m

/-- `map-get` finds an entry exactly when some key is `==` to the probe. -/
theorem C09_map_get_iff_exists_key_veq (sw : Sw) (m : VPairs) (key : Value) :
    (get sw m key).isSome = true ↔ ∃ e ∈ m.toList, veq sw e.1 key = true := by
  rw [get_isSome_eq_contains, contains_eq_any, List.any_eq_true]

/-- `map-has-key` likewise, and it agrees with `map-get`. -/
theorem C09_has_key_iff (sw : Sw) (m : VPairs) (key : Value) :
    contains sw m key = true ↔ ∃ e ∈ m.toList, veq sw e.1 key = true := by
  rw [contains_eq_any, List.any_eq_true]

theorem C09_has_key_eq_get_isSome (sw : Sw) (m : VPairs) (key : Value) :
    contains sw m key = (get sw m key).isSome := (get_isSome_eq_contains sw key m).symm

/-- `index()` is the position of the first element `==` to the probe … -/
theorem C09_index_eq_firstTrue (sw : Sw) (v : Value) : ∀ (l : VList),
    indexOf sw l v = firstTrue (l.toList.map (fun e => veq sw e v))
  | .nil => rfl
  | .cons e t => by
    simp only [indexOf, VList.toList, List.map_cons, firstTrue]
    rw [C09_index_eq_firstTrue sw v t]

theorem firstTrue_isSome : ∀ (bs : List Bool), (firstTrue bs).isSome = bs.any id
  | [] => rfl
  | b :: t => by cases b <;> simp [firstTrue, firstTrue_isSome t]

/-- … and finds one exactly when some element is `==` to the probe. -/
theorem C09_index_iff_exists_veq (sw : Sw) (l : VList) (v : Value) :
    (indexOf sw l v).isSome = true ↔ ∃ e ∈ l.toList, veq sw e v = true := by
  rw [C09_index_eq_firstTrue, firstTrue_isSome]
  simp [List.any_map, List.any_eq_true]

/-- `map-remove` keeps exactly the entries whose key satisfies `keeps` (order untouched) … -/
theorem C09_remove_eq_filter (sw : Sw) (m : VPairs) (key : Value) :
    (remove sw m key).toList = m.toList.filter (fun e => keeps sw e.1 key) :=
  remove_toList sw key m

/-- … which in the specified variant are those not `==` to the probe: afterwards no key is. -/
theorem C09_remove_not_contains (sw : Sw) (hr : sw.removeEq = true) (m : VPairs) (key : Value) :
    contains sw (remove sw m key) key = false :=
  contains_remove sw m key (fun _ _ => by simp [keeps, hr])

/-- For the variants that still went by `not_equals` the same held where that negates `==`. -/
theorem C09_remove_not_contains_notEquals (sw : Sw) (hc : sw.canon = true) (m : VPairs) (key : Value)
    (h1 : unitsCanonP m = true) (h2 : unitsCanon key = true)
    (h3 : noArgListP m = true) (h4 : noArgList key = true) :
    contains sw (remove sw m key) key = false := by
  refine contains_remove sw m key (fun e he => ?_)
  have hu := allP_mem (g := unitsCanon) (fun _ _ _ => rfl) m h1 e he
  have hn := allP_mem (g := noArgList) (fun _ _ _ => rfl) m h3 e he
  unfold keeps
  split
  · rfl
  · exact C09_notEquals_eq_not_veq sw hc e.1 key hu.1 h2 hn.1 h4

/-! ## maps keep first-insertion order -/

/-- `map.set` / one step of `map-merge`: an existing key keeps its place (and its stored
    spelling), a new key goes to the end. -/
theorem C09_keys_insert (sw : Sw) (m : VPairs) (k v : Value) :
    (keys (insert sw m k v)).toList =
      if contains sw m k then (keys m).toList else (keys m).toList ++ [k] := by
  cases h : contains sw m k
  · simp [insert_keys_absent sw k v m h]
  · simp [insert_keys_present sw k v m h]

/-- `map-merge`: the keys of the first map in their order, then the new keys of the second in theirs. -/
theorem C09_keys_merge (sw : Sw) (a b : VPairs) (hb : distinctKeys sw b = true) :
    (keys (merge sw a b)).toList =
      (keys a).toList ++ (keys b).toList.filter (fun k => !contains sw a k) :=
  keys_merge sw b a hb

/-- `map-remove` never disturbs the order of the remaining keys. -/
theorem C09_keys_remove (sw : Sw) (m : VPairs) (key : Value) :
    (keys (remove sw m key)).toList = (keys m).toList.filter (fun k => keeps sw k key) := by
  rw [keys_toList, remove_toList, keys_toList, List.filter_map]
  rfl

example : distinctKeys .now (.cons (.str ['a'] false) .null (.cons (.str ['b'] false) .null .nil)) = true := by
  decide +kernel

/-- The same three laws in the form the driver checks on grass's own answers (`orderKept`):
    removal leaves a subsequence of the keys … -/
theorem C09_order_remove (sw : Sw) (m : VPairs) (key : Value) :
    ((keys (remove sw m key)).toList).Sublist (keys m).toList := by
  rw [C09_keys_remove]; exact List.filter_sublist

/-- … `map.set` keeps the old keys as a prefix … -/
theorem C09_order_insert (sw : Sw) (m : VPairs) (k v : Value) :
    (keys m).toList <+: (keys (insert sw m k v)).toList := by
  rw [C09_keys_insert]
  split
  · exact List.prefix_refl _
  · exact List.prefix_append _ _

/-- … and so does `map-merge` (no hypothesis on the merged map needed). -/
theorem C09_order_merge (sw : Sw) : ∀ (b a : VPairs), (keys a).toList <+: (keys (merge sw a b)).toList
  | .nil, a => by simp [merge]
  | .cons k v t, a => by
    simp only [merge]
    exact List.IsPrefix.trans (C09_order_insert sw a k v) (C09_order_merge sw t (insert sw a k v))

/-! ## the container invariant is preserved -/

theorem C09_mapWf_insert (sw : Sw) (m : VPairs) (k v : Value) (h : distinctKeys sw m = true) :
    distinctKeys sw (insert sw m k v) = true := distinct_insert sw k v m h

theorem C09_mapWf_merge (sw : Sw) (a b : VPairs) (h : distinctKeys sw a = true) :
    distinctKeys sw (merge sw a b) = true := distinct_merge sw b a h

theorem C09_mapWf_remove (sw : Sw) (m : VPairs) (key : Value) (h : distinctKeys sw m = true) :
    distinctKeys sw (remove sw m key) = true := distinct_remove sw key m h

/-- A map literal is rejected ("Duplicate key.") exactly when two of its keys are `==` … -/
theorem C09_literal_rejects_duplicates (sw : Sw) (es : List (Value × Value)) :
    literal sw es = none ↔ ¬ (es.map (·.1)).Pairwise (fun a b => veq sw a b = false) := by
  have := (literalFrom_spec sw es .nil (by simp [distinctKeys])).1
  simpa [literal, VPairs.toList] using this

/-- … and otherwise keeps its entries in source order, with pairwise unequal keys. -/
theorem C09_literal_keeps_order (sw : Sw) (es : List (Value × Value)) (m : VPairs)
    (h : literal sw es = some m) : m.toList = es ∧ distinctKeys sw m = true := by
  have hs := literalFrom_spec sw es .nil (by simp [distinctKeys])
  have h1 : m.toList = es := by simpa [VPairs.toList] using hs.2 m h
  refine ⟨h1, ?_⟩
  rw [distinctKeys_iff, h1]
  have : literal sw es ≠ none := by rw [h]; simp
  rw [Ne, C09_literal_rejects_duplicates] at this
  exact Decidable.not_not.1 this

/-! ## the law checkers applied to an implementation's `==` matrix report only real violations -/

theorem C09_lawSymm_sound (m : List (List Bool)) (n i j : Nat) (h : lawSymm m n = some (i, j)) :
    matGet m i j ≠ matGet m j i := by
  have := List.find?_some h
  simpa using this

theorem C09_lawTrans_sound (m : List (List Bool)) (n i j k : Nat) (h : lawTrans m n = some (i, j, k)) :
    matGet m i j = true ∧ matGet m j k = true ∧ matGet m i k = false := by
  have := List.find?_some h
  simpa [and_assoc] using this

theorem C09_lawRefl_sound (m : List (List Bool)) (dom : List Nat) (i : Nat) (h : lawRefl m dom = some i) :
    matGet m i i = false := by
  have := List.find?_some h
  simpa using this

theorem mem_triplesUpTo (n i j k : Nat) (hi : i < n) (hj : j < n) (hk : k < n) :
    (i, j, k) ∈ triplesUpTo n := by
  simp only [triplesUpTo, List.mem_flatMap, List.mem_range, List.mem_map]
  exact ⟨i, hi, j, hj, k, hk, rfl⟩

/-- and they miss none among the indices below `n`. -/
theorem C09_lawTrans_complete (m : List (List Bool)) (n : Nat) (h : lawTrans m n = none)
    (i j k : Nat) (hi : i < n) (hj : j < n) (hk : k < n)
    (h1 : matGet m i j = true) (h2 : matGet m j k = true) : matGet m i k = true := by
  have := List.find?_eq_none.1 h (i, j, k) (mem_triplesUpTo n i j k hi hj hk)
  simp only [h1, h2, Bool.true_and, Bool.not_eq_true', Bool.not_eq_false] at this
  exact this

theorem C09_lawTransAll_sound (m : List (List Bool)) (n i j k : Nat) (h : (i, j, k) ∈ lawTransAll m n) :
    matGet m i j = true ∧ matGet m j k = true ∧ matGet m i k = false := by
  have := (List.mem_filter.1 h).2
  simpa [transPred, and_assoc] using this

theorem C09_lawSymmAll_sound (m : List (List Bool)) (n i j : Nat) (h : (i, j) ∈ lawSymmAll m n) :
    matGet m i j ≠ matGet m j i := by
  have := (List.mem_filter.1 h).2
  simpa [symmPred] using this

/-- The per-pair predicate P̂ (`pairAgrees`, the one the driver evaluates on grass's answers)
    holds of the model's own observation in every variant whose `map-remove` goes by `==`. -/
theorem C09_pairAgrees_model (sw : Sw) (hr : sw.removeEq = true) (a b : Value) :
    pairAgrees (pairObs sw a b) = [] := by
  unfold pairAgrees pairObs
  cases h : veq sw a b <;>
    simp [h, neOp, get, contains, VPairs.any, remove, keeps, hr, merge, insert, VPairs.length,
      literal, literalFrom, indexOf]

/-! ## kernel-checked witnesses: where the variants violate the property -/

def one : Value := .num (.fin 1) .none
def two : Value := .num (.fin 2) .none
def l12 (sep : Sep) (br : Bool) : Value := .list (.cons one (.cons two .nil)) sep br
def args12 : Value := .arglist (.cons one (.cons two .nil)) .nil .comma
def args12k : Value := .arglist (.cons one (.cons two .nil)) (.cons (.str ['k'] false) one .nil) .comma
def inch1 : Value := .num (.fin 1) .inch
def cmB : Value := .num (.fin ((254000000001 : Rat) / 100000000000)) .cm   -- 2.54000000001cm
def px96 : Value := .num (.fin 96) .px
def inchB : Value := .num (.fin ((1000000000004 : Rat) / 1000000000000)) .inch  -- 1.000000000004in
def strX : Value := .str ['x'] false

/-- D6 (fixed in /repo): `$args == (1, 2)` but not `(1, 2) == $args`. -/
theorem C09_asFound_pinned_arglist_asymmetric :
    veq .pinned args12 (l12 .comma false) = true ∧ veq .pinned (l12 .comma false) args12 = false := by
  decide +kernel

/-- D20 (fixed in /repo): the right operand was converted into the left operand's unit:
    `1in == 2.54000000001cm` but not the reverse … -/
theorem C09_asFound_pinned_units_asymmetric :
    veq .pinned inch1 cmB = true ∧ veq .pinned cmB inch1 = false := by
  decide +kernel

/-- … and `96px == 1in`, `1in == 2.54000000001cm`, yet `96px != 2.54000000001cm`. -/
theorem C09_asFound_pinned_units_not_transitive :
    veq .pinned px96 inch1 = true ∧ veq .pinned inch1 cmB = true ∧ veq .pinned px96 cmB = false := by
  decide +kernel

/-- K1 (fixed in /repo since): numbers of one unit are compared at that unit's scale, numbers of different
    units at the canonical unit's: `1.000000000004in == 1in`, `1in == 96px`, but
    `1.000000000004in != 96px`. -/
theorem C09_asFound_before_fix_units_not_transitive :
    veq .beforeFix inchB inch1 = true ∧ veq .beforeFix inch1 px96 = true ∧ veq .beforeFix inchB px96 = false := by
  decide +kernel

/-- K2 (fixed in /repo since): the `ArgList == List` arms ignore the list's brackets:
    `[1, 2] == $args`, `$args == (1, 2)`, but `[1, 2] != (1, 2)`. -/
theorem C09_asFound_before_fix_arglist_brackets_not_transitive :
    veq .beforeFix (l12 .comma true) args12 = true ∧ veq .beforeFix args12 (l12 .comma false) = true ∧
    veq .beforeFix (l12 .comma true) (l12 .comma false) = false := by
  decide +kernel

/-- K3 (fixed in /repo since): keywords count between two argument lists but not against a list:
    `f(1, 2, $k: 1) == (1, 2)`, `(1, 2) == f(1, 2)`, but `f(1, 2, $k: 1) != f(1, 2)`. -/
theorem C09_asFound_before_fix_arglist_keywords_not_transitive :
    veq .beforeFix args12k (l12 .comma false) = true ∧ veq .beforeFix (l12 .comma false) args12 = true ∧
    veq .beforeFix args12k args12 = false := by
  decide +kernel

/-- K4 (fixed in /repo since): `SassMap::remove` uses `not_equals`, which still converts the right operand
    into the left one's unit: `map-remove((1in: x), 2.54000000001cm)` is `()` although
    `1in != 2.54000000001cm` and `map-get`/`map-has-key` do not find the key … -/
theorem C09_asFound_before_fix_remove_unequal_key :
    veq .beforeFix inch1 cmB = false ∧ get .beforeFix (.cons inch1 strX .nil) cmB = none ∧
    (remove .beforeFix (.cons inch1 strX .nil) cmB).length = 0 := by
  decide +kernel

/-- … and treats a list as unequal to every argument list:
    `map-remove(((1, 2): x), $args)` keeps the key although `(1, 2) == $args` and `map-get` finds it. -/
theorem C09_asFound_before_fix_remove_keeps_equal_key :
    veq .beforeFix (l12 .comma false) args12 = true ∧
    (get .beforeFix (.cons (l12 .comma false) strX .nil) args12).isSome = true ∧
    (remove .beforeFix (.cons (l12 .comma false) strX .nil) args12).length = 1 := by
  decide +kernel

/-- None of these survives in the code as it stands (instances of the theorems above). -/
theorem C09_now_repairs_witnesses :
    veq .now inchB inch1 = false ∧
    veq .now (l12 .comma true) args12 = false ∧
    veq .now args12k args12 = true ∧
    (remove .now (.cons inch1 strX .nil) cmB).length = 1 ∧
    (remove .now (.cons (l12 .comma false) strX .nil) args12).length = 0 ∧
    veq .now (l12 .comma false) args12 = true ∧ veq .now args12 (l12 .comma false) = true := by
  decide +kernel

/-- /repo e36bfd5: an argument list made by spreading a space-separated list is the space list of
    its elements: equal to `(1 2)`, to no comma list and to no comma argument list. -/
theorem C09_now_arglist_separator :
    let sargs := Value.arglist (.cons one (.cons two .nil)) (.cons (.str ['k'] false) one .nil) .space
    veq .now sargs (l12 .space false) = true ∧ veq .now (l12 .space false) sargs = true ∧
    veq .now sargs (l12 .comma false) = false ∧ veq .now sargs args12 = false ∧
    veq .now sargs (l12 .space true) = false := by
  decide +kernel

/-- Without `mapWf` map equality is not symmetric (why the guard is there):
    `(1: x, 1: x)` — not constructible in Sass — against `(1: x, 2: x)`. -/
theorem C09_mapWf_needed :
    let a := Value.map (.cons one strX (.cons one strX .nil))
    let b := Value.map (.cons one strX (.cons two strX .nil))
    veq .spec a b = true ∧ veq .spec b a = false ∧ mapWf .spec a = false := by
  decide +kernel

/-- Without `inRange` colour equality is not transitive (why the guard is there): channels
    254.999999999999, 255 and 256. -/
theorem C09_inRange_needed :
    let c (r : Rat) := Value.color r 0 0 1
    veq .spec (c ((254999999999999 : Rat) / 1000000000000)) (c 255) = true ∧ veq .spec (c 255) (c 256) = true ∧
    veq .spec (c ((254999999999999 : Rat) / 1000000000000)) (c 256) = false := by
  decide +kernel

/-! ## the code as it stands -/

theorem C09_inScope_now (v : Value) : inScope .now v = true := by simp [inScope, Sw.now]

/-- `Sw.now`, symmetric on all values grass can build (argument lists included). -/
theorem C09_veq_symm_now (a b : Value) (ra : inRange a = true) (rb : inRange b = true)
    (wa : mapWf .now a = true) (wb : mapWf .now b = true) : veq .now a b = veq .now b a :=
  C09_veq_symm .now rfl a b (C09_inScope_now a) (C09_inScope_now b) ra rb wa wb

/-- `Sw.now`, transitive on all values grass can build (argument lists, every unit). -/
theorem C09_veq_trans_now (a b c : Value)
    (ra : inRange a = true) (rb : inRange b = true) (rc : inRange c = true)
    (h1 : veq .now a b = true) (h2 : veq .now b c = true) : veq .now a c = true :=
  C09_veq_trans .now rfl a b c (C09_inScope_now a) (C09_inScope_now b) (C09_inScope_now c) ra rb rc h1 h2

example : inRange args12k = true ∧ mapWf .now args12k = true ∧ inRange inchB = true ∧
    veq .now args12k (l12 .comma false) = true ∧ veq .now (l12 .comma false) args12 = true := by
  decide +kernel

/-- The full statement holds of the code as it stands.  (It was refuted before the K1/K2/K4
    repairs: `C09_asFound_before_fix_…`.  What remains false without its guard is only what no
    Sass program can build: `C09_mapWf_needed`, `C09_inRange_needed`, and NaN.) -/
theorem C09_full_holds : C09_full :=
  ⟨fun a h => C09_veq_refl .now a h,
   fun a b ra rb wa wb => C09_veq_symm_now a b ra rb wa wb,
   fun a b c ra rb rc h1 h2 => C09_veq_trans_now a b c ra rb rc h1 h2,
   fun a b => C09_ne_eq_not_veq .now a b,
   fun m k => C09_remove_not_contains .now rfl m k,
   fun es => C09_literal_rejects_duplicates .now es⟩

/-! ## the extended universe: compound units, calculations, function references

  `XV` / `xeq` (Grass/Value.lean) is `Value::eq` with every arm of value/mod.rs:48: numbers with
  `Complex` units, `Calculation`, `FunctionRef` besides the kinds above.  The laws are inherited
  through the embedding `enc : XV → Value` (Lemmas/ValueExt.lean), which `xeq` factors through. -/

theorem C09_xeq_enc (sw : Sw) (a b : XV) : xeq sw a b = veq sw (enc a) (enc b) := (enc_eq sw a b).symm

theorem C09_xeq_refl (sw : Sw) (a : XV) (h : xnoNaN a = true) : xeq sw a a = true := by
  rw [C09_xeq_enc]; exact C09_veq_refl sw (enc a) ((noNaN_enc a).trans h)

theorem C09_xeq_symm (a b : XV) (ra : xinRange a = true) (rb : xinRange b = true)
    (wa : xmapWf .now a = true) (wb : xmapWf .now b = true) : xeq .now a b = xeq .now b a := by
  rw [C09_xeq_enc, C09_xeq_enc]
  exact C09_veq_symm_now _ _ ((inRange_enc a).trans ra) ((inRange_enc b).trans rb)
    ((mapWf_enc .now a).trans wa) ((mapWf_enc .now b).trans wb)

theorem C09_xeq_trans (a b c : XV) (ra : xinRange a = true) (rb : xinRange b = true) (rc : xinRange c = true)
    (h1 : xeq .now a b = true) (h2 : xeq .now b c = true) : xeq .now a c = true := by
  rw [C09_xeq_enc] at h1 h2 ⊢
  exact C09_veq_trans_now _ _ _ ((inRange_enc a).trans ra) ((inRange_enc b).trans rb)
    ((inRange_enc c).trans rc) h1 h2

theorem C09_veq_equivalence_ext :
    (∀ a : XV, xnoNaN a = true → xeq .now a a = true) ∧
    (∀ a b : XV, xinRange a = true → xinRange b = true → xmapWf .now a = true → xmapWf .now b = true →
      xeq .now a b = xeq .now b a) ∧
    (∀ a b c : XV, xinRange a = true → xinRange b = true → xinRange c = true →
      xeq .now a b = true → xeq .now b c = true → xeq .now a c = true) :=
  ⟨fun a h => C09_xeq_refl .now a h, C09_xeq_symm, C09_xeq_trans⟩

def xPxEm : XV := .num (.fin 1) (.complex [.px, .em] [])
def xEmPx : XV := .num (.fin 1) (.complex [.em, .px] [])
def xCalcIn : XV := .calc .calc (.cons (.op (.number (.fin 1) (.simple .inch)) .plus (.number (.fin 1) (.simple .percent))) .nil)
def xCalcPx : XV := .calc .calc (.cons (.op (.number (.fin 96) (.simple .px)) .plus (.number (.fin 1) (.simple .percent))) .nil)
def xCalcCm : XV := .calc .calc (.cons (.op (.number (.fin ((254 : Rat) / 100)) (.simple .cm)) .plus (.number (.fin 1) (.simple .percent))) .nil)
def xFn1 : XV := .fn (.user ['f', '1'] 10 12)
def xFn2 : XV := .fn (.user ['f', '2'] 40 42)

-- hypotheses satisfiable, non-trivially: calc(1in + 1%) == calc(96px + 1%) == calc(2.54cm + 1%), inside a map
example : let m (k : XV) : XV := .map (.cons k xPxEm (.cons xFn1 .null .nil))
    xinRange (m xCalcIn) = true ∧ xmapWf .now (m xCalcIn) = true ∧ xnoNaN (m xCalcIn) = true ∧
    xeq .now (m xCalcIn) (m xCalcPx) = true ∧ xeq .now (m xCalcPx) (m xCalcCm) = true ∧
    xeq .now xCalcIn xCalcPx = true := by
  decide +kernel

/-- What the code does with the kinds `Value` lacks (kernel-checked instances of `xeq`): compound units are
    compared as ordered vectors, with no conversion (`px*em ≠ em*px`, `1in/s ≠ 96px/s`); numbers
    inside calculations are compared like numbers; a function reference equals only itself; none of
    these kinds equals a string spelled alike. -/
theorem C09_now_new_kinds :
    xeq .now xPxEm xPxEm = true ∧ xeq .now xPxEm xEmPx = false ∧ xeq .now xEmPx xPxEm = false ∧
    xeq .now (.num (.fin 1) (.complex [.inch] [.s])) (.num (.fin 96) (.complex [.px] [.s])) = false ∧
    xeq .now xPxEm (.num (.fin 1) (.simple .px)) = false ∧ xeq .now (.num (.fin 1) (.simple .none)) xPxEm = false ∧
    xeq .now xCalcIn xCalcPx = true ∧ xeq .now xFn1 xFn1 = true ∧ xeq .now xFn1 xFn2 = false ∧
    xeq .now xFn1 (.fn (.plain ['f', '1'])) = false ∧ xeq .now xFn1 (.str ['f', '1'] false) = false ∧
    xeq .now xCalcIn (.str "calc(1in + 1%)".toList false) = false := by
  decide +kernel

/-- Numbers with a `Complex` unit on either side: equal exactly when the unit structures are
    identical (ordered numerator and denominator) and the values are fuzzily equal; never equal to
    a number with a simple unit or none. -/
theorem C09_xnum_complex (sw : Sw) (n1 n2 : Num) (nu1 de1 nu2 de2 : List U) (u : U) :
    xnumEq sw n1 (.complex nu1 de1) n2 (.complex nu2 de2) =
      (decide (nu1 = nu2) && decide (de1 = de2) && fuzzyN n1 n2) ∧
    xnumEq sw n1 (.simple u) n2 (.complex nu2 de2) = false ∧
    xnumEq sw n1 (.complex nu1 de1) n2 (.simple u) = false :=
  ⟨xnumEq_complex_complex sw _ _ _ _ _ _, xnumEq_simple_complex sw _ _ _ _ _, xnumEq_complex_simple sw _ _ _ _ _⟩

/-- `Value` inside `XV`.  The extension is conservative: along `lift`, `xeq` is `veq`
    (`C09_xeq_conservative`). -/
def lift : Value → XV
  | .null => .null
  | .bool b => .bool b
  | .num n u => .num n (.simple u)
  | .str s q => .str s q
  | .color r g b a => .color r g b a
  | .list es sp br => .list (liftL es) sp br
  | .map ps => .map (liftP ps)
  | .arglist es kw sp => .arglist (liftL es) (liftP kw) sp
where
  liftL : VList → XVList
    | .nil => .nil
    | .cons v t => .cons (lift v) (liftL t)
  liftP : VPairs → XVPairs
    | .nil => .nil
    | .cons k v t => .cons (lift k) (lift v) (liftP t)

theorem liftP_length : ∀ (p : VPairs), (lift.liftP p).length = p.length
  | .nil => rfl
  | .cons k v t => by simp [lift.liftP, VPairs.length, XVPairs.length, liftP_length t]

theorem any_lift (f : XV → XV → Bool) (g : Value → Value → Bool)
    (h : ∀ k2 v2, f (lift k2) (lift v2) = g k2 v2) : ∀ (q : VPairs), (lift.liftP q).any f = q.any g
  | .nil => rfl
  | .cons k v t => by simp [lift.liftP, VPairs.any, XVPairs.any, h, any_lift f g h t]

mutual
  theorem C09_xeq_conservative (sw : Sw) : ∀ (a b : Value), xeq sw (lift a) (lift b) = veq sw a b
    | .null, b | .bool _, b | .str _ _, b | .color .., b => by cases b <;> simp [lift, xeq, veq]
    | .num _ _, b => by cases b <;> simp [lift, xeq, veq, xnumEq]
    | .list l1 _ _, b => by
      cases b <;> simp only [lift, xeq, veq]
      · rename_i l2 _ _; rw [xeqL_lift sw l1 l2]
      · rename_i l2 _ _; rw [xeqL_lift sw l1 l2]
    | .map p1, b => by
      cases b <;> simp only [lift, xeq, veq]
      rename_i p2; rw [liftP_length, liftP_length, xsubP_lift sw p1 p2]
    | .arglist l1 k1 _, b => by
      cases b <;> simp only [lift, xeq, veq]
      · rename_i l2 _ _; rw [xeqL_lift sw l1 l2]
      · rename_i l2 k2 _; rw [xeqL_lift sw l1 l2, xeqKw_lift sw k1 k2]
  termination_by structural a => a
  theorem xeqL_lift (sw : Sw) : ∀ (l1 l2 : VList), xeqL sw (lift.liftL l1) (lift.liftL l2) = veqL sw l1 l2
    | .nil, l2 => by cases l2 <;> simp [lift.liftL, xeqL, veqL]
    | .cons a t, l2 => by
      cases l2
      · simp [lift.liftL, xeqL, veqL]
      · rename_i b u; simp only [lift.liftL, xeqL, veqL, C09_xeq_conservative sw a b, xeqL_lift sw t u]
  termination_by structural l1 => l1
  theorem xeqKw_lift (sw : Sw) : ∀ (k1 k2 : VPairs), xeqKw sw (lift.liftP k1) (lift.liftP k2) = veqKw sw k1 k2
    | .nil, k2 => by cases k2 <;> simp [lift.liftP, xeqKw, veqKw]
    | .cons k v t, k2 => by
      cases k2
      · simp [lift.liftP, xeqKw, veqKw]
      · rename_i k' v' u
        simp only [lift.liftP, xeqKw, veqKw, C09_xeq_conservative sw k k', C09_xeq_conservative sw v v',
          xeqKw_lift sw t u]
  termination_by structural k1 => k1
  theorem xsubP_lift (sw : Sw) : ∀ (p q : VPairs), xsubP sw (lift.liftP p) (lift.liftP q) = subP sw p q
    | .nil, q => by simp [lift.liftP, xsubP, subP]
    | .cons k v t, q => by
      simp only [lift.liftP, xsubP, subP, xsubP_lift sw t q]
      rw [any_lift _ (fun k2 v2 => veq sw k k2 && veq sw v v2)
        (fun k2 v2 => by rw [C09_xeq_conservative sw k k2, C09_xeq_conservative sw v v2]) q]
  termination_by structural p => p
end

example : xeq .now (lift inch1) (lift px96) = true ∧ veq .now inch1 px96 = true := by decide +kernel

/-! ### keyed operations on the extended universe agree with `==` -/

theorem xany_iff (f : XV → XV → Bool) : ∀ (ps : XVPairs),
    ps.any f = true ↔ ∃ e ∈ ps.toList, f e.1 e.2 = true
  | .nil => by simp [XVPairs.any, XVPairs.toList]
  | .cons k v t => by have ih := xany_iff f t; simp [XVPairs.any, XVPairs.toList, ih]

/-- `map-has-key` finds a key exactly when some key is `==` to the probe … -/
theorem C09_x_has_key_iff (sw : Sw) (m : XVPairs) (key : XV) :
    xcontains sw m key = true ↔ ∃ e ∈ m.toList, xeq sw e.1 key = true := by
  unfold xcontains; rw [xany_iff]

/-- … `map-get` agrees with it … -/
theorem C09_x_get_isSome_eq_has_key (sw : Sw) (key : XV) : ∀ (m : XVPairs),
    (xget sw m key).isSome = xcontains sw m key
  | .nil => rfl
  | .cons k v t => by
    have ih := C09_x_get_isSome_eq_has_key sw key t
    unfold xcontains at ih ⊢
    simp only [xget, XVPairs.any]
    cases xeq sw k key <;> simp [ih]

/-- … `index()` finds a position exactly when some element is `==` to the probe … -/
theorem C09_x_index_iff (sw : Sw) (v : XV) : ∀ (l : XVList),
    (xindexOf sw l v).isSome = true ↔ ∃ e ∈ l.toList, xeq sw e v = true
  | .nil => by simp [xindexOf, XVList.toList]
  | .cons e t => by
    have ih := C09_x_index_iff sw v t
    simp only [xindexOf, XVList.toList, List.mem_cons, exists_eq_or_imp]
    cases h : xeq sw e v
    · simp only [Bool.false_eq_true, if_false, Option.isSome_map, false_or]; exact ih
    · simp

/-- … and after `map-remove` no key is `==` to the probe, the other entries staying in order. -/
theorem C09_x_remove (sw : Sw) (key : XV) : ∀ (m : XVPairs),
    (xremove sw m key).toList = m.toList.filter (fun e => !(xeq sw e.1 key))
  | .nil => rfl
  | .cons k v t => by
    simp only [xremove, XVPairs.toList, List.filter_cons]
    cases xeq sw k key <;> simp [XVPairs.toList, C09_x_remove sw key t]

theorem C09_x_remove_not_contains (sw : Sw) (m : XVPairs) (key : XV) :
    xcontains sw (xremove sw m key) key = false := by
  cases h : xcontains sw (xremove sw m key) key
  · rfl
  · obtain ⟨e, he, h2⟩ := (C09_x_has_key_iff sw _ key).1 h
    rw [C09_x_remove] at he
    have := (List.mem_filter.1 he).2
    simp [h2] at this

/-- The per-pair predicate P̂ (`pairAgrees`, evaluated by the driver on grass's answers) holds of the
    model's own observation on the extended universe. -/
theorem C09_x_pairAgrees_model (sw : Sw) (a b : XV) : pairAgrees (xpairObs sw a b) = [] := by
  unfold pairAgrees xpairObs
  cases h : xeq sw a b <;>
    simp [h, xget, xcontains, XVPairs.any, xremove, xmerge, xinsert, XVPairs.length,
      xliteral, xliteralFrom, xindexOf]

example : xeq .now xCalcIn xCalcPx = true ∧ (xget .now (.cons xCalcIn .null .nil) xCalcPx).isSome = true ∧
    xindexOf .now (.cons xFn2 (.cons xPxEm .nil)) xPxEm = some 1 := by decide +kernel

/-! ### map order over arbitrary histories of operations -/

theorem keys_insert_keyAdd (sw : Sw) (m : VPairs) (k v : Value) :
    (keys (insert sw m k v)).toList = keyAdd sw (keys m).toList k := by
  rw [C09_keys_insert, keyAdd, contains_eq_keys]

theorem keys_merge_fold (sw : Sw) : ∀ (b a : VPairs),
    (keys (merge sw a b)).toList = (keys b).toList.foldl (keyAdd sw) (keys a).toList
  | .nil, a => by simp [merge, keys, VList.toList]
  | .cons k v t, a => by
    simp only [merge, keys, VList.toList, List.foldl_cons]
    rw [keys_merge_fold sw t (insert sw a k v), keys_insert_keyAdd]

theorem keys_runOp (sw : Sw) (m : VPairs) (op : MapOp) :
    (keys (runOp sw m op)).toList = keysStep sw (keys m).toList op := by
  cases op with
  | set k v => exact keys_insert_keyAdd sw m k v
  | merge o => exact keys_merge_fold sw o m
  | remove k => simp only [runOp, keysStep]; exact C09_keys_remove sw m k

/-- For EVERY sequence of `map.set` / `map-merge` / `map-remove` operations the key order of the
    result is the one computed from the key sequence alone (`keysHist`): each operation appends the
    keys not `==` to one already there, in the order they arrive, and deletes without reordering —
    values never matter; a key that is overwritten keeps its place and its first spelling. -/
theorem C09_map_order_history (sw : Sw) (ops : List MapOp) : ∀ (m : VPairs),
    (keys (ops.foldl (runOp sw) m)).toList = keysHist sw (keys m).toList ops := by
  induction ops with
  | nil => intro m; rfl
  | cons op t ih =>
    intro m
    simp only [List.foldl_cons, keysHist]
    rw [ih (runOp sw m op), keys_runOp]; rfl

def MapOp.isRemove : MapOp → Bool
  | .remove _ => true
  | _ => false

/-- A history without removals keeps all old keys, in their order, as a prefix … -/
theorem C09_map_order_history_grow (sw : Sw) (ops : List MapOp) (h : ops.all (fun o => !o.isRemove) = true) :
    ∀ (m : VPairs), (keys m).toList <+: (keys (ops.foldl (runOp sw) m)).toList := by
  induction ops with
  | nil => intro m; exact List.prefix_refl _
  | cons op t ih =>
    intro m
    simp only [List.all_cons, Bool.and_eq_true] at h
    simp only [List.foldl_cons]
    refine List.IsPrefix.trans ?_ (ih h.2 (runOp sw m op))
    cases op with
    | set k v => exact C09_order_insert sw m k v
    | merge o => exact C09_order_merge sw o m
    | remove k => simp [MapOp.isRemove] at h

/-- … and a history of removals only leaves a subsequence. -/
theorem C09_map_order_history_shrink (sw : Sw) (ops : List MapOp) (h : ops.all (fun o => o.isRemove) = true) :
    ∀ (m : VPairs), ((keys (ops.foldl (runOp sw) m)).toList).Sublist (keys m).toList := by
  induction ops with
  | nil => intro m; exact List.Sublist.refl _
  | cons op t ih =>
    intro m
    simp only [List.all_cons, Bool.and_eq_true] at h
    simp only [List.foldl_cons]
    refine List.Sublist.trans (ih h.2 (runOp sw m op)) ?_
    cases op with
    | remove k => exact C09_order_remove sw m k
    | set k v => simp [MapOp.isRemove] at h
    | merge o => simp [MapOp.isRemove] at h

/-- Every observer of a map walks the same sequence of entries: `map-keys`, `map-values` and the
    pairs `@each` / `inspect` visit (`SassMap::as_list`) are the projections of one list. -/
theorem C09_observers_same_order (m : VPairs) :
    (keys m).toList = m.toList.map (·.1) ∧ (values m).toList = m.toList.map (·.2) ∧
    (pairsAsList m).toList = m.toList.map (fun e => Value.list (.cons e.1 (.cons e.2 .nil)) .space false) :=
  ⟨keys_toList m, values_toList m, pairsAsList_toList m⟩

-- a history that sets an existing key under another spelling, removes one through a converted unit and re-adds it
example : let a : Value := .str ['a'] false
    let ops := [MapOp.set (.str ['a'] true) .null, MapOp.remove px96, MapOp.merge (.cons inch1 .null (.cons strX .null .nil))]
    veqL .now (VList.ofList (keysHist .now [a, inch1] ops)) (VList.ofList [a, inch1, strX]) = true ∧
    veqL .now (keys (ops.foldl (runOp .now) (.cons a one (.cons inch1 two .nil)))) (VList.ofList [a, inch1, strX]) = true := by
  decide +kernel

end Grass.Value
