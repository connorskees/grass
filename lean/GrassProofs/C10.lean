import Grass.Extend
import GrassProofs.Lemmas.SelSem
import GrassProofs.Lemmas.SelWalk
import GrassProofs.Lemmas.ExtSem
import GrassProofs.Lemmas.ExtComplex
import GrassProofs.C11
/-
  C10 — @extend makes extenders match wherever the target matched, nothing else.

  Theorems are about the specified variant (`Switches.spec`); the as-found switches only appear in
  the `C10_asFound_…` witnesses.  PARTIAL: the theorems cover selectors without selector pseudos and
  extenders that are (lists of) single compounds, applied once or as a chain of re-extensions
  (`C10_extend_chain_n`).  `weave`/`unify_complex` for complex extenders are modelled (`weaveTop`,
  `runX`) and compared with grass, but their soundness is open (`C10_weave_sound_full`);
  `extend_existing_extensions` is modelled in `runX` (chains/cycles of single-compound extenders as whole
  stylesheets, compared as text with grass); `extend_pseudo` is not modelled (`C10_full` below stays open) —
  it is covered by the semantic search on the implementation only.
-/
namespace Grass.Extend
open Grass.Selector

/-- The full property (open): for an arbitrary stylesheet, every rule's final selector matches at most
    the credited original.  (For single-compound extenders the theorems below give "exactly".) -/
def C10_full : Prop :=
  ∀ (items : List Item) (outs : List SelList), run Switches.spec items = .ok outs →
    ∀ (k : Nat) (S O : SelList) (p : Ctx),
      (items.filterMap fun | .rule s _ => some s | _ => none)[k]? = some S → outs[k]? = some O →
      (matchesList O p = true → cList (creditN (extPairs items) (extPairs items).length.succ) S p = true)

/-! ### `trim` keeps the set of matched elements -/

def mF (l : List Flagged) (p : Ctx) : Bool := l.any fun x => matchesComplex x.1 p

theorem mF_congr {l l' : List Flagged} (h : ∀ x, x ∈ l ↔ x ∈ l') (p : Ctx) : mF l p = mF l' p := by
  rw [Bool.eq_iff_iff]
  simp only [mF, List.any_eq_true]
  constructor
  · rintro ⟨x, hx, hm⟩; exact ⟨x, (h x).1 hx, hm⟩
  · rintro ⟨x, hx, hm⟩; exact ⟨x, (h x).2 hx, hm⟩

theorem mF_cons (y : Flagged) (l : List Flagged) (p : Ctx) : mF (y :: l) p = (matchesComplex y.1 p || mF l p) := rfl

theorem mF_dropped {y : Flagged} {earlier result : List Flagged} {p : Ctx}
    (h : matchesComplex y.1 p = true → (mF earlier p || mF result p) = true) :
    (mF earlier p || mF result p) = (mF (y :: earlier) p || mF result p) := by
  rw [mF_cons, Bool.or_assoc]
  cases hy : matchesComplex y.1 p
  · rfl
  · rw [h hy]; rfl

theorem mF_kept (y : Flagged) (earlier result : List Flagged) (p : Ctx) :
    (mF earlier p || mF (y :: result) p) = (mF (y :: earlier) p || mF result p) := by
  simp only [mF_cons, Bool.or_left_comm, Bool.or_assoc]

theorem trimGo_sem (sup : Complex → Complex → Bool) (srcSpec : Simple → Nat) (p : Ctx)
    (hsup : ∀ a b, sup a b = true → matchesComplex b p = true → matchesComplex a p = true)
    (rest result : List Flagged) (n : Nat) :
    mF (trimGo sup srcSpec rest result n) p = (mF rest p || mF result p) := by
  fun_induction trimGo sup srcSpec rest result n with
  | case1 result n => simp [mF]
  | case2 c1 earlier result n f rest' hp ih =>
    obtain ⟨e, hmem⟩ := pullOut_spec c1 n result f rest' hp
    rw [ih, mF_congr hmem p]
    refine mF_dropped fun hc => ?_
    rw [Bool.or_eq_true]
    exact Or.inr (List.any_eq_true.2 ⟨f, (hmem f).1 (List.mem_cons_self ..), e ▸ hc⟩)
  | case3 c1 earlier result n hp ih =>
    rw [ih]
    exact mF_kept ..
  | case4 c1 earlier result n ms covered hcov ih =>
    rw [ih]
    refine mF_dropped fun hm => ?_
    simp only [covered, Bool.or_eq_true, List.any_eq_true, Bool.and_eq_true] at hcov
    simp only [mF, Bool.or_eq_true, List.any_eq_true]
    rcases hcov with ⟨c2, h2, _, hs⟩ | ⟨c2, h2, _, hs⟩
    · exact Or.inr ⟨c2, h2, hsup _ _ hs hm⟩
    · exact Or.inl ⟨c2, h2, hsup _ _ hs hm⟩
  | case5 c1 earlier result n ms covered hcov ih =>
    rw [ih]
    exact mF_kept ..

theorem matchesList_map_fst (l : List Flagged) (p : Ctx) : matchesList (l.map (·.1)) p = mF l p := by
  simp [mF, matchesList, List.any_map, Function.comp_def]

theorem mF_trim (sup : Complex → Complex → Bool) (srcSpec : Simple → Nat) (sels : List Flagged) (p : Ctx)
    (hsup : ∀ a b, sup a b = true → matchesComplex b p = true → matchesComplex a p = true) :
    mF (trim sup srcSpec sels) p = mF sels p := by
  unfold trim
  split
  · rfl
  · rw [trimGo_sem sup srcSpec p hsup]
    simp [mF]

theorem mF_trim_spec (sw : Switches) (hsw : sw.supAsFound = false) (srcSpec : Simple → Nat) (sels : List Flagged) (p : Ctx) :
    mF (trim (isSuperComplex0 sw.supAsFound) srcSpec sels) p = mF sels p :=
  mF_trim _ srcSpec sels p fun a b h hb => isSuperComplex0_sound a b p (hsw ▸ h) hb

/-- **trim keeps the set of matched elements**: whatever `trim` (mod.rs:772) drops is covered by
    what it keeps, provided the superselector test it uses is sound. -/
theorem C10_trim_preserves_matches (sup : Complex → Complex → Bool) (srcSpec : Simple → Nat)
    (sels : List Flagged) (p : Ctx)
    (hsup : ∀ a b, sup a b = true → matchesComplex b p = true → matchesComplex a p = true) :
    matchesList ((trim sup srcSpec sels).map (·.1)) p = matchesList (sels.map (·.1)) p := by
  rw [matchesList_map_fst, matchesList_map_fst]
  exact mF_trim sup srcSpec sels p hsup

/-- … in particular with the specified superselector walk (sound by C11) -/
theorem C10_trim_preserves_matches_spec (srcSpec : Simple → Nat) (sels : List Flagged) (p : Ctx) :
    matchesList ((trim (isSuperComplex0 false) srcSpec sels).map (·.1)) p = matchesList (sels.map (·.1)) p :=
  C10_trim_preserves_matches _ srcSpec sels p (fun a b h hb => isSuperComplex0_sound a b p h hb)

/-! ### the extension of one compound by one extension `E → T` -/

/-- **compound level**: the alternatives `extend_compound` (mod.rs:352) produces for a compound
    match exactly the elements the compound matches once elements matched by `E` are credited
    with `T` — this uses both directions of C11's `unifyCompound` theorems (`unify` is exact, and
    `none` only for empty intersections) and the soundness of `trim`. -/
theorem C10_extendCompound_iff (sw : Switches) (hsw : sw.supAsFound = false) (e : Ext) (all : List Ext) (hE : e.extender ≠ [])
    (m : Option Nat) (inO : Bool) (c : Compound) (p : Ctx) :
    match extendCompound sw [e] all m inO c with
    | .ok (some alts) => alts.any (matchesComplex · p) = credC e.extender e.target c p
    | .ok none => credC e.extender e.target c p = mComp c p
    | .error _ => True := by
  generalize hr : extendCompound sw [e] all m inO c = r
  unfold extendCompound at hr
  have hb := buildOptions_sem e p c []
  cases hbo : buildOptions [e] [] c none with
  | none =>
    rw [hbo] at hb hr
    simp only at hr; subst hr
    exact hb
  | some options =>
    rw [hbo] at hb hr
    simp only [mComp, Bool.true_and] at hb
    have hne := buildOptions_good [e] (by simpa using hE) c [] options hbo
    simp only at hr
    split at hr
    · rename_i single
      split at hr
      · subst hr
        simp only [List.any_map, Function.comp_def, matchesComplex_single]
        rw [← hb]; simp [optSem]
      · subst hr; trivial
    · split at hr
      · rename_i hp
        exact absurd hp (paths_ne_nil options (fun ch hch => (hne ch hch).1))
      · rename_i first others hp
        split at hr
        · subst hr
          simp only
          show matchesList _ p = _
          rw [matchesList_map_fst, mF_trim_spec sw hsw]
          simp only [mF, List.any_cons, List.any_map, Function.comp_def, matchesComplex_single]
          have hmem : ∀ path ∈ others, (∀ o ∈ path, o.comp ≠ []) ∧ path ≠ [] := by
            intro path hpath
            have hin : path ∈ paths options := by rw [hp]; simp [hpath]
            refine ⟨paths_mem (fun o => o.comp ≠ []) options (fun ch hch => (hne ch hch).2) path hin, ?_⟩
            have hl := paths_length options path hin
            intro hnil; rw [hnil] at hl
            cases options with
            | nil => simp [paths] at hp; rw [hp.2] at hpath; simp at hpath
            | cons _ _ => simp at hl
          rw [filterMap_unify_any others p hmem, mComp_flatMap]
          have := paths_any_all (fun (o : Opt) => mComp o.comp p) options
          rw [hp] at this
          simp only [List.any_cons] at this
          rw [this, ← hb]; rfl
        · subst hr; trivial

private def extXB : Ext := ⟨[.cls ['b']], .cls ['a'], false, none⟩
example : extendCompound Switches.spec [extXB] [extXB] none true [.type ['t'], .cls ['a'], .cls ['x']]
    = .ok (some [[.compound [.type ['t'], .cls ['a'], .cls ['x']]], [.compound [.type ['t'], .cls ['x'], .cls ['b']]]]) := by
  decide +kernel

/-! ### from compounds to complex selectors and lists -/

theorem extendCompound_shape (sw : Switches) (e : Ext) (all : List Ext) (m : Option Nat) (io : Bool) (c : Compound) (alts : List Complex)
    (h : extendCompound sw [e] all m io c = .ok (some alts)) : ∀ a ∈ alts, ∃ u, a = [Component.compound u] := by
  unfold extendCompound at h
  split at h
  · cases h
  · split at h
    · split at h
      · injection h with h; injection h with h; subst h
        intro a ha; simp only [List.mem_map] at ha; obtain ⟨o, _, rfl⟩ := ha; exact ⟨_, rfl⟩
      · cases h
    · split at h
      · injection h with h; injection h with h; subst h; intro a ha; simp at ha
      · simp only at h
        split at h
        · injection h with h; injection h with h; subst h
          intro a ha
          simp only [List.mem_map] at ha
          obtain ⟨x, hx, rfl⟩ := ha
          have := trim_mem _ _ _ x hx
          rcases List.mem_cons.1 this with e1 | h2
          · subst e1; exact ⟨_, rfl⟩
          · simp only [List.mem_map] at h2; obtain ⟨pu, _, rfl⟩ := h2; exact ⟨_, rfl⟩
        · cases h

def altsOf (c : Compound) : Option (List Complex) → List Complex
  | none => [[.compound c]]
  | some ext => ext

theorem extendCompound_choice (sw : Switches) (hsw : sw.supAsFound = false) (e : Ext) (all : List Ext) (hE : e.extender ≠ [])
    (m : Option Nat) (io : Bool) (c : Compound) (r : Option (List Complex))
    (h : extendCompound sw [e] all m io c = .ok r) :
    Choice mComp (credC e.extender e.target) (.compound c) (altsOf c r) := by
  have hsem := fun q => C10_extendCompound_iff sw hsw e all hE m io c q
  simp only [h] at hsem
  cases r with
  | none =>
    refine ⟨fun a ha => ⟨c, List.mem_singleton.1 ha⟩, fun q => ?_⟩
    simp [altsOf, hsem q]
  | some ext =>
    have hshape := extendCompound_shape sw e all m io c ext h
    refine ⟨hshape, fun q => ?_⟩
    rw [← hsem q, List.any_eq_true]
    constructor
    · rintro ⟨a, ha, hm⟩
      obtain ⟨u, rfl⟩ := hshape a ha
      exact ⟨u, ha, by rwa [matchesComplex_single] at hm⟩
    · rintro ⟨u, hu, hm⟩
      exact ⟨_, hu, by rwa [matchesComplex_single]⟩

theorem complexChoices_cons_compound (sw : Switches) (exts all : List Ext) (m : Option Nat) (io : Bool) (c : Compound)
    (rest : Complex) (chs : List (List Complex)) (any : Bool)
    (h : complexChoices sw exts all m io (.compound c :: rest) = .ok (chs, any)) :
    ∃ r chs' any', extendCompound sw exts all m io c = .ok r ∧ complexChoices sw exts all m io rest = .ok (chs', any') ∧
      chs = altsOf c r :: chs' ∧ any = (r.isSome || any') := by
  unfold complexChoices at h
  split at h
  · cases h
  · cases h
  · cases h; exact ⟨_, _, _, by assumption, by assumption, rfl, rfl⟩
  · cases h; exact ⟨_, _, _, by assumption, by assumption, rfl, rfl⟩

theorem complexChoices_cons_comb (sw : Switches) (exts all : List Ext) (m : Option Nat) (io : Bool) (cb : Comb)
    (rest : Complex) (chs : List (List Complex)) (any : Bool)
    (h : complexChoices sw exts all m io (.comb cb :: rest) = .ok (chs, any)) :
    ∃ chs', complexChoices sw exts all m io rest = .ok (chs', any) ∧ chs = [[.comb cb]] :: chs' := by
  unfold complexChoices at h
  split at h
  · cases h
  · cases h; exact ⟨_, by assumption, rfl⟩

theorem complexChoices_choices (sw : Switches) (hsw : sw.supAsFound = false) (e : Ext) (all : List Ext) (hE : e.extender ≠ [])
    (m : Option Nat) (io : Bool) :
    ∀ (X : Complex) (chs : List (List Complex)) (any : Bool), complexChoices sw [e] all m io X = .ok (chs, any) →
      Choices mComp (credC e.extender e.target) X chs ∧ (any = false → chs = X.map fun cp => [[cp]]) := by
  intro X
  induction X with
  | nil =>
    intro chs any h
    simp only [complexChoices, Except.ok.injEq, Prod.mk.injEq] at h
    obtain ⟨rfl, rfl⟩ := h
    exact ⟨trivial, fun _ => rfl⟩
  | cons cp rest ih =>
    intro chs any h
    cases cp with
    | comb cb =>
      obtain ⟨chs', hr, rfl⟩ := complexChoices_cons_comb sw [e] all m io cb rest chs any h
      obtain ⟨h1, h2⟩ := ih chs' any hr
      exact ⟨⟨rfl, h1⟩, fun ha => by rw [h2 ha]; rfl⟩
    | compound c =>
      obtain ⟨r, chs', any', hx, hr, rfl, rfl⟩ := complexChoices_cons_compound sw [e] all m io c rest chs any h
      obtain ⟨h1, h2⟩ := ih chs' any' hr
      refine ⟨⟨extendCompound_choice sw hsw e all hE m io c r hx, h1⟩, fun ha => ?_⟩
      cases r with
      | none => rw [h2 (by simpa using ha)]; rfl
      | some _ => simp at ha

theorem pick_singletons {α : Type} : ∀ (X : List α) (path : List (List α)),
    Pick path (X.map fun cp => [[cp]]) ↔ path = X.map fun cp => [cp] := by
  intro X
  induction X with
  | nil => intro path; cases path <;> simp [Pick]
  | cons x xs ih =>
    intro path
    cases path with
    | nil => simp [Pick]
    | cons a as =>
      simp only [List.map_cons, Pick, List.mem_singleton, ih, List.cons.injEq]

theorem flat_singletons {α : Type} (X : List α) : (X.map fun cp => [cp]).flatMap id = X := by
  induction X with
  | nil => rfl
  | cons x xs ih => simp [List.flatMap_cons, ih]

/-- `extend_complex` (mod.rs:241) -/
theorem extendComplex_sem (sw : Switches) (hsw : sw.supAsFound = false) (e : Ext) (all : List Ext) (hE : e.extender ≠ [])
    (m : Option Nat) (x : Flagged) (hx : noSelX x.1 = true) (p : Ctx) :
    match extendComplex sw [e] all m x with
    | .ok (some ys) => mF ys p = cComplex (credit1 e.extender e.target) x.1 p
    | .ok none => cComplex (credit1 e.extender e.target) x.1 p = matchesComplex x.1 p
    | .error _ => True := by
  unfold extendComplex
  cases hc : complexChoices sw [e] all m x.2 x.1 with
  | error er => trivial
  | ok v =>
    obtain ⟨chs, any⟩ := v
    obtain ⟨hch, hnone⟩ := complexChoices_choices sw hsw e all hE m x.2 x.1 chs any hc
    have hsem := fun q p => (anchored_choice x.1 chs hch q p).1
    cases any with
    | false =>
      simp only
      have hchs := hnone rfl
      rw [Bool.eq_iff_iff, cComplex_credC _ _ _ hx, matchesComplex_iff]
      constructor
      · rintro ⟨q, h⟩
        obtain ⟨path, hp, hg⟩ := (hsem q p).1 h
        rw [hchs, pick_singletons] at hp
        rw [hp, flat_singletons] at hg
        exact ⟨q, hg⟩
      · rintro ⟨q, h⟩
        refine ⟨q, (hsem q p).2 ⟨x.1.map (fun cp => [cp]), ?_, by rw [flat_singletons]; exact h⟩⟩
        rw [hchs, pick_singletons]
    | true =>
      simp only
      have key : ((paths chs).map fun pth => pth.flatMap id).any (matchesComplex · p) =
          cComplex (credit1 e.extender e.target) x.1 p := by
        rw [Bool.eq_iff_iff, cComplex_credC _ _ _ hx, List.any_eq_true]
        constructor
        · rintro ⟨Y, hY, hm⟩
          simp only [List.mem_map] at hY
          obtain ⟨path, hpath, rfl⟩ := hY
          obtain ⟨q, hq⟩ := (matchesComplex_iff _ p).1 hm
          exact ⟨q, (hsem q p).2 ⟨path, (mem_paths chs path).1 hpath, hq⟩⟩
        · rintro ⟨q, h⟩
          obtain ⟨path, hp, hg⟩ := (hsem q p).1 h
          exact ⟨path.flatMap id, List.mem_map.2 ⟨path, (mem_paths chs path).2 hp, rfl⟩,
            (matchesComplex_iff _ p).2 ⟨q, hg⟩⟩
      rw [← key]
      cases (paths chs).map (fun pth => pth.flatMap id) with
      | nil => simp [mF]
      | cons f r => simp [mF, List.any_map, Function.comp_def]

theorem extendEach_sem (sw : Switches) (hsw : sw.supAsFound = false) (e : Ext) (all : List Ext) (hE : e.extender ≠ [])
    (m : Option Nat) (p : Ctx) :
    ∀ (l : List Flagged), (∀ x ∈ l, noSelX x.1 = true) →
      match extendEach sw [e] all m l with
      | .ok (l', any) => mF l' p = cList (credit1 e.extender e.target) (l.map (·.1)) p ∧ (any = false → l' = l)
      | .error _ => True := by
  intro l
  induction l with
  | nil => intro _; simp [extendEach, mF, cList]
  | cons x rest ih =>
    intro hl
    have hx := extendComplex_sem sw hsw e all hE m x (hl x (by simp)) p
    have hr := ih (fun y hy => hl y (by simp [hy]))
    unfold extendEach
    revert hx hr
    cases extendComplex sw [e] all m x with
    | error er => intro _ _; trivial
    | ok r =>
      cases extendEach sw [e] all m rest with
      | error er => intro _ _; cases r <;> trivial
      | ok v =>
        obtain ⟨l', any'⟩ := v
        cases r with
        | none =>
          intro hx hr
          simp only at hx hr ⊢
          refine ⟨?_, fun ha => by rw [hr.2 ha]⟩
          simp only [mF, List.any_cons, cList, List.map_cons] at hr ⊢
          rw [hr.1, hx]
        | some ys =>
          intro hx hr
          simp only at hx hr ⊢
          refine ⟨?_, fun ha => by cases ha⟩
          simp only [mF, List.any_append, cList, List.map_cons, List.any_cons] at hx hr ⊢
          rw [hx, hr.1]

/-- `extend_list` on an arbitrary flagged list (what `extend_existing_selectors` re-extends) -/
theorem extendList_sem (sw : Switches) (hsw : sw.supAsFound = false) (e : Ext) (all : List Ext)
    (hE : e.extender ≠ []) (m : Option Nat) (l out : List Flagged) (hl : ∀ x ∈ l, noSelX x.1 = true)
    (h : extendList sw [e] all m l = .ok out) (p : Ctx) :
    matchesList (out.map (·.1)) p = cList (credit1 e.extender e.target) (l.map (·.1)) p := by
  have hsem := extendEach_sem sw hsw e all hE m p l hl
  rw [matchesList_map_fst]
  unfold extendList at h
  split at h
  · cases h
  · rename_i l' heq
    cases h
    rw [heq] at hsem
    rw [← hsem.1, hsem.2 rfl]
  · rename_i ext heq
    cases h
    rw [heq] at hsem
    rw [mF_trim_spec sw hsw, hsem.1]

/-- **@extend with a single-compound extender, on selectors without selector pseudos**: the
    rewritten selector list matches an element context iff the original list matches it once
    elements matched by the extender `E` are credited with the target `T` — for every context.
    (Specified `trim`; any media / original flags; `extend_list`, mod.rs:199.) -/
theorem C10_extend_single_compound_iff (sw : Switches) (hsw : sw.supAsFound = false) (e : Ext) (all : List Ext)
    (hE : e.extender ≠ []) (m : Option Nat) (S : SelList) (hS : noSelL S = true) (fl : Bool)
    (out : List Flagged) (h : extendList sw [e] all m (S.map fun x => (x, fl)) = .ok out) (p : Ctx) :
    matchesList (out.map (·.1)) p = matchesCredited S e.extender e.target p := by
  have hl : ∀ x ∈ S.map (fun x => (x, fl)), noSelX x.1 = true := by
    intro x hx
    obtain ⟨y, hy, rfl⟩ := List.mem_map.1 hx
    exact (List.all_eq_true.1 hS) y hy
  rw [extendList_sem sw hsw e all hE m _ out hl h p]
  simp only [List.map_map, Function.comp_def, List.map_id']
  rfl

/-- **first law** (no `:not` here: no selector pseudo at all): everything the original selector
    matched is still matched after extension. -/
theorem C10_first_law (sw : Switches) (hsw : sw.supAsFound = false) (e : Ext) (all : List Ext)
    (hE : e.extender ≠ []) (m : Option Nat) (S : SelList) (hS : noSelL S = true) (fl : Bool)
    (out : List Flagged) (h : extendList sw [e] all m (S.map fun x => (x, fl)) = .ok out) (p : Ctx)
    (hm : matchesList S p = true) : matchesList (out.map (·.1)) p = true := by
  rw [C10_extend_single_compound_iff sw hsw e all hE m S hS fl out h p]
  exact cList_of_matches _ _ S (List.all_eq_true.1 hS) p hm

/-! ### two successive @extends: `E {@extend t}` then `F {@extend .n}` (a chain when `.n` occurs in `E`) -/

/-- `.n` is credited to elements matched by `F`, `t` to elements matched by `E` once `.n` has been credited -/
def creditChain (E : Compound) (t : Simple) (F : Compound) (n : Name) : Simple → Ctx → Bool :=
  fun s p => credit1 F (.cls n) s p || (decide (s = t) && cComp (credit1 F (.cls n)) E p)

theorem mComp_tau (F : Compound) (n : Name) (hF : noSelC F = true) (c : Compound) (p : Ctx) (h : noSelC c = true) :
    mComp c (tau (addCls F n) p) = cComp (credit1 F (.cls n)) c p := by
  rw [mComp_eq_all, cComp_eq_all]
  refine all_congr_mem fun s hs => ?_
  rw [mSimple_tau F n hF s p (noSelC_mem h hs), cSimple_noSel _ _ _ (noSelC_mem h hs)]
  rfl

theorem cComp_tau (E : Compound) (t : Simple) (F : Compound) (n : Name) (hF : noSelC F = true) (hE : noSelC E = true)
    (c : Compound) (p : Ctx) (h : noSelC c = true) :
    cComp (credit1 E t) c (tau (addCls F n) p) = cComp (creditChain E t F n) c p := by
  rw [cComp_eq_all, cComp_eq_all]
  refine all_congr_mem fun s hs => ?_
  have hs' := noSelC_mem h hs
  rw [cSimple_noSel _ _ _ hs', cSimple_noSel _ _ _ hs', mSimple_tau F n hF s p hs']
  simp only [credit1, creditChain, mComp_tau F n hF E p hE]
  exact Bool.or_assoc ..

theorem complex_tau (mc1 mc2 : Compound → Ctx → Bool) (g : Elem → Elem) (X : Complex)
    (h : ∀ c, Component.compound c ∈ X → ∀ q, mc1 c (tau g q) = mc2 c q) (p : Ctx) :
    complexWith mc1 X (tau g p) = complexWith mc2 X p := by
  rw [Bool.eq_iff_iff, complexWith_iff, complexWith_iff]
  constructor
  · rintro ⟨q', hq'⟩
    obtain ⟨q, _, hq⟩ := (anchored_tau g mc1 X q' p).1 hq'
    exact ⟨q, (anchored_congr h q p).1 hq⟩
  · rintro ⟨q, hq⟩
    exact ⟨tau g q, (anchored_tau g mc1 X _ p).2 ⟨q, rfl, (anchored_congr h q p).2 hq⟩⟩

/-- one re-extension step (`extend_existing_selectors`, mod.rs:1125) is plain matching in the relabelled context -/
theorem extendList_tau (sw : Switches) (hsw : sw.supAsFound = false) (e : Ext) (all : List Ext) (n : Name)
    (ht : e.target = .cls n) (hE : e.extender ≠ []) (hn : noSelC e.extender = true)
    (m : Option Nat) (l out : List Flagged) (hl : ∀ x ∈ l, noSelX x.1 = true)
    (h : extendList sw [e] all m l = .ok out) (p : Ctx) :
    matchesList (out.map (·.1)) p = matchesList (l.map (·.1)) (tau (addCls e.extender n) p) := by
  rw [extendList_sem sw hsw e all hE m l out hl h p, ht]
  unfold cList matchesList
  rw [List.any_map, List.any_map]
  apply any_congr_mem
  intro x hx
  show cComplex _ x.1 p = matchesComplex x.1 _
  rw [cComplex_eq_complexWith, matchesComplex_eq_complexWith]
  exact (complex_tau mComp _ _ x.1 (fun c hc q => mComp_tau e.extender n hn c q (noSelC_of_mem (hl x hx) hc)) p).symm

/-- **two successive single-compound @extends**: a rule `S` extended by `E {@extend t}` and then
    re-extended by `F {@extend .n}` matches exactly the contexts the original `S` matches when `.n` is
    credited to the elements matched by `F` and `t` to the elements matched by `E` *after that
    crediting* (so the chain `F → .n ∈ E → t` is followed).  Guards: the second target is a class, no
    selector pseudo in the extenders nor in the intermediate selector (`hout1`, decidable). -/
theorem C10_extend_two_step (sw : Switches) (hsw : sw.supAsFound = false) (e1 e2 : Ext) (all1 all2 : List Ext)
    (n : Name) (h2t : e2.target = .cls n) (hE1 : e1.extender ≠ []) (hE2 : e2.extender ≠ [])
    (hn1 : noSelC e1.extender = true) (hn2 : noSelC e2.extender = true)
    (m : Option Nat) (S : SelList) (hS : noSelL S = true) (fl : Bool) (out1 out2 : List Flagged)
    (h1 : extendList sw [e1] all1 m (S.map fun x => (x, fl)) = .ok out1)
    (hout1 : ∀ x ∈ out1, noSelX x.1 = true)
    (h2 : extendList sw [e2] all2 m out1 = .ok out2) (p : Ctx) :
    matchesList (out2.map (·.1)) p = cList (creditChain e1.extender e1.target e2.extender n) S p := by
  rw [extendList_tau sw hsw e2 all2 n h2t hE2 hn2 m out1 out2 hout1 h2 p,
    C10_extend_single_compound_iff sw hsw e1 all1 hE1 m S hS fl out1 h1 (tau (addCls e2.extender n) p)]
  unfold matchesCredited cList
  apply any_congr_mem
  intro X hX
  rw [cComplex_eq_complexWith, cComplex_eq_complexWith]
  exact complex_tau _ _ _ X (fun c hc q => cComp_tau e1.extender e1.target e2.extender n hn2 hn1 c q
    (noSelC_of_mem ((List.all_eq_true.1 hS) X hX) hc)) p

/-- Rule-order independence for two extensions at the level of the whole stylesheet (open).  It is
    stated for `run`, whose store answers `unsupported` for chains; the derived extensions of
    `extend_existing_extensions` (mod.rs:1039) are in `runX` only, where the instances
    `C10_chain_sheet_three_hops` are proved.  The repaired behaviour (C10-X1, c66199e) is checked on
    the implementation by the order oracle of the check and its regression cases. -/
def C10_two_step_order_full : Prop :=
  ∀ (sw : Switches) (S E F : SelList) (t u : Simple) (m : Option Nat),
    run sw [.rule S m, .extend E t false none, .extend F u false none] =
      run sw [.extend E t false none, .extend F u false none, .rule S m]

-- non-vacuity: `.a c` extended by `.b.x {@extend .a}` and then by `.q {@extend .b}` (a chain)
private def ext1 : Ext := ⟨[.cls ['b'], .cls ['x']], .cls ['a'], false, none⟩
private def ext2 : Ext := ⟨[.cls ['q']], .cls ['b'], false, none⟩
example :
    (match extendList Switches.spec [ext1] [ext1] none [([.compound [.cls ['a']], .compound [.type ['c']]], true)] with
     | .ok o1 => (match extendList Switches.spec [ext2] [ext1, ext2] none o1 with
        | .ok o2 => o2.map (·.1)
        | .error _ => [])
     | .error _ => []) =
    [[.compound [.cls ['a']], .compound [.type ['c']]],
     [.compound [.cls ['b'], .cls ['x']], .compound [.type ['c']]],
     [.compound [.cls ['x'], .cls ['q']], .compound [.type ['c']]]] := by decide +kernel

/-! ### placeholders -/

theorem invisC_eq_any (c : Compound) : invisC c = c.any invisS := by
  induction c with
  | nil => simp [invisC]
  | cons s ss ih => simp [invisC, ih]

/-- **placeholders never reach the output**: a complex that `serialise`/the driver's `selOut`
    (list.rs:47 filter) lets through has no placeholder among its simple selectors. -/
theorem C10_placeholders_never_serialised (l : SelList) :
    ∀ x ∈ l.filter (fun c => !c.isInvisible), ∀ s ∈ simplesOf x, s.isPlaceholder = false := by
  intro x hx s hs
  simp only [List.mem_filter, Bool.not_eq_true', Complex.isInvisible] at hx
  simp only [simplesOf, List.mem_flatMap] at hs
  obtain ⟨cp, hcp, hs⟩ := hs
  cases cp with
  | comb cb => simp at hs
  | compound c =>
    cases h : s.isPlaceholder with
    | false => rfl
    | true =>
      have hinv : invisS s = true := by
        cases s <;> first | rfl | cases h
      have : x.any Component.isInvisible = true :=
        List.any_eq_true.2 ⟨_, hcp, by
          rw [Component.isInvisible, invisC_eq_any]
          exact List.any_eq_true.2 ⟨s, hs, hinv⟩⟩
      rw [hx.2] at this
      cases this

example : serialise [[.compound [.placeholder ['p']], .compound [.cls ['a']]], [.compound [.cls ['b']]]]
    = ['.', 'b'] := by decide +kernel

/-! ### mandatory extensions (D18) -/

/-- **extending a missing target is an error unless `!optional`** (specified variant): once all
    rules and extensions are registered, the run fails with `missingTarget` exactly when some
    extension that is not optional has a target occurring in no style rule. -/
theorem C10_missing_target_error_unless_optional (items : List Item) (st : Store)
    (h : runItems Switches.spec ⟨[], []⟩ items = .ok st) :
    (∃ e ∈ st.exts, e.optional = false ∧ targetFound st.rules e.target = false) ↔
      run Switches.spec items = .error .missingTarget := by
  unfold run
  rw [h]
  simp only [Switches.spec, Bool.not_false, Bool.true_and]
  constructor
  · intro ⟨e, he, h1, h2⟩
    have : (st.exts.any fun e => !e.optional && !targetFound st.rules e.target) = true :=
      List.any_eq_true.2 ⟨e, he, by simp [h1, h2]⟩
    simp [this]
  · intro hr
    split at hr
    · rename_i hc
      obtain ⟨e, he, hc⟩ := List.any_eq_true.1 hc
      exact ⟨e, he, by simpa using hc⟩
    · cases hr

private def ruleA : Item := .rule [[.compound [.type ['a']]]] none
private def extMissing (opt : Bool) : Item := .extend [[.compound [.type ['a']]]] (.cls ['m']) opt none

deriving instance DecidableEq for Except

example : run Switches.spec [ruleA, extMissing false] = .error .missingTarget := by decide +kernel
example : run Switches.spec [ruleA, extMissing true] = .ok [[[.compound [.type ['a']]]]] := by decide +kernel

/-- D18 as found: no "target not found" bookkeeping — `a {@extend .m}` compiles -/
theorem C10_asFound_missing_target_accepted :
    run Switches.asFound [ruleA, extMissing false] = .ok [[[.compound [.type ['a']]]]] ∧
    run Switches.spec [ruleA, extMissing false] = .error .missingTarget := by decide +kernel

/-! ### @media (D16) -/

private def ruleDotA : Item := .rule [[.compound [.cls ['a']]]] none
private def ruleDotB (m : Option Nat) : Item := .rule [[.compound [.cls ['b']]]] m
private def extBA (m : Option Nat) : Item := .extend [[.compound [.cls ['b']]]] (.cls ['a']) false m

/-- an `@extend` written inside `@media` does not reach a rule outside of it: the specified run is
    an error, extension from the top level or within the same block is accepted -/
theorem C10_media_confined :
    run Switches.spec [ruleDotA, ruleDotB (some 1), extBA (some 1)] = .error .crossMedia ∧
    run Switches.spec [.rule [[.compound [.cls ['a']]]] (some 1), ruleDotB (some 1), extBA (some 1)]
      = .ok [[[.compound [.cls ['a']]], [.compound [.cls ['b']]]], [[.compound [.cls ['b']]]]] ∧
    run Switches.spec [.rule [[.compound [.cls ['a']]]] (some 1), ruleDotB none, extBA none]
      = .ok [[[.compound [.cls ['a']]], [.compound [.cls ['b']]]], [[.compound [.cls ['b']]]]] := by
  decide +kernel

/-- D16 as found: `.a{x:y} @media screen{.b{@extend .a}}` rewrites the top-level rule to `.a, .b` -/
theorem C10_asFound_media_crossed :
    run Switches.asFound [ruleDotA, ruleDotB (some 1), extBA (some 1)]
      = .ok [[[.compound [.cls ['a']]], [.compound [.cls ['b']]]], [[.compound [.cls ['b']]]]] := by
  decide +kernel

/-! ### order of registration -/

/-- **order independence of registration** (one rule, one `@extend`): whether the style rule comes
    before the `@extend` (retroactive `extend_existing_selectors`, mod.rs:1132) or after it
    (`add_selector` extends with the stored extensions, mod.rs:873), the run gives the same
    selectors or the same error.  (Chains — where order does matter in the code as found, known
    finding C10-X1 — are outside the modelled fragment.) -/
theorem C10_order_independent (sw : Switches) (S E : SelList) (T : Simple) (o : Bool) (m m' : Option Nat)
    (hS : inFragment S = true) (hE : E ≠ []) :
    run sw [.rule S m, .extend E T o m'] = run sw [.extend E T o m', .rule S m] := by
  cases hc : asCompounds E with
  | none => simp [run, runItems, addSelector, addExtension, hS, hc]
  | some comps =>
    have hne : comps ≠ [] := by
      intro h; subst h
      cases E with
      | nil => exact hE rfl
      | cons x xs =>
        simp only [asCompounds, List.mapM_cons] at hc
        split at hc
        · rename_i c
          revert hc
          cases List.mapM (fun x => match x with | [Component.compound c] => some c | _ => none) xs <;> simp
        · simp at hc
    by_cases c1 : (T.isSel || T.isParent || !noSelL E) = true
    · simp [run, runItems, addSelector, addExtension, hS, hc, c1]
    · by_cases c2 : (comps.any fun c => c.contains T) = true
      · have c2' : ∃ x, x ∈ comps ∧ T ∈ x := by simpa using c2
        simp [run, runItems, addSelector, addExtension, hS, hc, c1, c2']
      · have c2' : ¬ ∃ x, x ∈ comps ∧ T ∈ x := by simpa using c2
        have hne2 : (comps.map fun c => (⟨c, T, o, m'⟩ : Ext)) ≠ [] := by
          cases comps with
          | nil => exact absurd rfl hne
          | cons _ _ => simp
        have hne3 : ¬ ∀ a : Compound, ¬ a ∈ comps := by
          intro h
          cases comps with
          | nil => exact hne rfl
          | cons c cs => exact h c (by simp)
        simp [run, runItems, addSelector, addExtension, hS, hc, c1, c2', reextend, hne3]
        generalize extendList sw (List.map (fun c => ({ extender := c, target := T, optional := o, media := m' } : Ext))
          (List.filter (fun _ => true) comps)) (List.map (fun c => ({ extender := c, target := T, optional := o, media := m' } : Ext))
          (List.filter (fun _ => true) comps)) m (List.map (fun x => (x, !S.isInvisible)) S) = r
        cases r <;> rfl

/-! ### chains of any length: `E₁ {@extend .n₁}`, `E₂ {@extend .n₂}`, … applied one after the other -/

/-- every step is `extend_list` (mod.rs:199) of the current selector by one extension with a class target -/
inductive ChainRun (sw : Switches) (m : Option Nat) : List (Ext × Name × List Ext) → List Flagged → List Flagged → Prop
  | nil (l : List Flagged) : ChainRun sw m [] l l
  | cons (e : Ext) (n : Name) (all : List Ext) (rest : List (Ext × Name × List Ext)) (l l' l'' : List Flagged) :
      e.target = .cls n → e.extender ≠ [] → noSelC e.extender = true → (∀ x ∈ l, noSelX x.1 = true) →
      extendList sw [e] all m l = .ok l' → ChainRun sw m rest l' l'' → ChainRun sw m ((e, n, all) :: rest) l l''

def tauChain : List (Ext × Name × List Ext) → Ctx → Ctx
  | [], p => p
  | (e, n, _) :: rest, p => tau (addCls e.extender n) (tauChain rest p)

/-- **chains of any length** (single-compound extenders, class targets, no selector pseudos): after
    `k` successive re-extensions the selector matches a context iff the ORIGINAL selector matches the
    context relabelled through the whole chain (`C10_extend_two_step` is `k = 2`). -/
theorem C10_extend_chain_n (sw : Switches) (hsw : sw.supAsFound = false) (m : Option Nat)
    (steps : List (Ext × Name × List Ext)) (l out : List Flagged) (h : ChainRun sw m steps l out) (p : Ctx) :
    matchesList (out.map (·.1)) p = matchesList (l.map (·.1)) (tauChain steps p) := by
  induction h generalizing p with
  | nil l => rfl
  | cons e n all rest l l' l'' ht hE hn hl hx _ ih =>
    rw [ih p, extendList_tau sw hsw e all n ht hE hn m l l' hl hx (tauChain rest p)]
    rfl

-- non-vacuity: `.a` extended by `.b {@extend .a}`, `.c {@extend .b}`, `.d {@extend .c}` (three hops)
private def cA : Ext := ⟨[.cls ['b']], .cls ['a'], false, none⟩
private def cB : Ext := ⟨[.cls ['c']], .cls ['b'], false, none⟩
private def cC : Ext := ⟨[.cls ['d']], .cls ['c'], false, none⟩
private def l0 : List Flagged := [([.compound [.cls ['a']]], true)]
private def l1 : List Flagged := [([.compound [.cls ['a']]], true), ([.compound [.cls ['b']]], false)]
private def l2 : List Flagged := l1 ++ [([.compound [.cls ['c']]], false)]
private def l3 : List Flagged := l2 ++ [([.compound [.cls ['d']]], false)]
example : ChainRun Switches.spec none [(cA, ['a'], [cA]), (cB, ['b'], [cA, cB]), (cC, ['c'], [cA, cB, cC])] l0 l3 :=
  .cons _ _ _ _ l0 l1 l3 rfl (by decide) (by decide) (by decide) (by decide +kernel)
    (.cons _ _ _ _ l1 l2 l3 rfl (by decide) (by decide) (by decide) (by decide +kernel)
      (.cons _ _ _ _ l2 l3 l3 rfl (by decide) (by decide) (by decide) (by decide +kernel) (.nil l3)))

/-! ### `weave` -/

/-- **`weave` on single-component paths is concatenation**: when every extender on a path of
    `extend_complex` (mod.rs:314) is a single compound, the model of `weave` (functions.rs:68, with any
    `weave_parents`) returns exactly the concatenation — the step `extendComplex` (and with it
    `C10_extend_single_compound_iff`) takes for granted. -/
theorem C10_weave_singletons_concat (sib : Bool) (path : List Complex) (hne : path ≠ [])
    (h : ∀ x ∈ path, ∃ c, x = [c]) : weaveTop sib path = [path.flatMap id] :=
  weaveWith_singletons _ path hne h

example : weaveTop true [[.compound [.cls ['a']]], [.comb .child], [.compound [.cls ['b']]]]
    = [[.compound [.cls ['a']], .comb .child, .compound [.cls ['b']]]] :=
  C10_weave_singletons_concat true _ (by simp) (by simp)

/-! ### C10-X3: `merge_final_combinators` with `~` against `+` (functions.rs:450–486) -/

private def xF : Compound := [.attr ['t'] none, .pclass ['f']]
private def xB : Compound := [.type ['b']]
private def xY : Compound := [.cls ['y']]
private def xT : Compound := [.type ['a']]
private def xP1 : Complex := [.compound xF, .comb .next, .compound xB, .comb .next]      -- `[t]:f + b +`
private def xP2 : Complex := [.compound xY, .comb .later]                                  -- `.y ~`
/-- the element `a` preceded by `b`, `c.y`, `c[t=v]:f` (nearest first) -/
private def xCtx : Ctx :=
  ⟨⟨⟨['a'], none, [], [], [], none⟩,
    [⟨['b'], none, [], [], [], none⟩, ⟨['c'], none, [['y']], [], [], none⟩, ⟨['c'], none, [], [(['t'], ['v'])], [['f']], none⟩]⟩, []⟩

/-- C10-X3 as found: weaving the parents `[t]:f + b +` and `.y ~` yields `[t]:f + .y ~ b +`, which (before
    the target `a`) matches a context that `[t]:f + b + a` does not match — `.y` was put between two
    components that must be adjacent.  The specified variant (`sibAsFound = false`) keeps only the
    unified alternative `[t]:f + b.y +`. -/
theorem C10_asFound_weave_sibling_unsound :
    weaveParentsTop true xP1 xP2 = some
      [[.compound xF, .comb .next, .compound xY, .comb .later, .compound xB, .comb .next],
       [.compound xF, .comb .next, .compound [.type ['b'], .cls ['y']], .comb .next]] ∧
    matchesComplex ([.compound xF, .comb .next, .compound xY, .comb .later, .compound xB, .comb .next] ++ [.compound xT]) xCtx = true ∧
    matchesComplex (xP1 ++ [.compound xT]) xCtx = false ∧
    weaveParentsTop false xP1 xP2 = some [[.compound xF, .comb .next, .compound [.type ['b'], .cls ['y']], .comb .next]] := by
  decide +kernel

/-! ### second law as `trim` implements it -/

theorem trimGo_keeps (sup : Complex → Complex → Bool) (srcSpec : Simple → Nat)
    (rest result : List Flagged) (n : Nat) (x : Flagged) (h : x ∈ result) :
    x ∈ trimGo sup srcSpec rest result n := by
  fun_induction trimGo sup srcSpec rest result n with
  | case1 result n => exact h
  | case2 c1 earlier result n f rest' hp ih => exact ih (((pullOut_spec c1 n result f rest' hp).2 x).2 h)
  | case3 c1 earlier result n hp ih => exact ih (List.mem_cons_of_mem _ h)
  | case4 c1 earlier result n ms covered hcov ih => exact ih h
  | case5 c1 earlier result n ms covered hcov ih => exact ih (List.mem_cons_of_mem _ h)

theorem covering_of_subset {P Q : Prop} {R : Flagged → Prop} {b : Prop} {rest rest' result result' : List Flagged}
    (hrest : ∀ y, y ∈ rest' → y ∈ rest) (hres : ∀ y, y ∈ result' → y ∈ rest ∨ y ∈ result)
    (h : P ∨ Q ∨ (b ∧ ∃ y, (y ∈ rest' ∨ y ∈ result') ∧ R y)) :
    P ∨ Q ∨ (b ∧ ∃ y, (y ∈ rest ∨ y ∈ result) ∧ R y) := by
  rcases h with h | h | ⟨hb, y, hy, hR⟩
  · exact Or.inl h
  · exact Or.inr (Or.inl h)
  · refine Or.inr (Or.inr ⟨hb, y, ?_, hR⟩)
    rcases hy with hy | hy
    · exact Or.inl (hrest y hy)
    · exact hres y hy

theorem trimGo_second_law (sup : Complex → Complex → Bool) (srcSpec : Simple → Nat)
    (rest result : List Flagged) (n : Nat) (x : Flagged) (hx : x ∈ rest) :
    x ∈ trimGo sup srcSpec rest result n ∨
    (x.2 = true ∧ ∃ y ∈ trimGo sup srcSpec rest result n, y.1 = x.1) ∨
    (x.2 = false ∧ ∃ y, (y ∈ rest ∨ y ∈ result) ∧ y.1.minSpecificity ≥ maxSourceSpec srcSpec x.1 ∧ sup y.1 x.1 = true) := by
  fun_induction trimGo sup srcSpec rest result n with
  | case1 result n => cases hx
  | case2 c1 earlier result n f rest' hp ih =>
    obtain ⟨e, hmem⟩ := pullOut_spec c1 n result f rest' hp
    rcases List.mem_cons.1 hx with rfl | hx'
    · exact Or.inr (Or.inl ⟨rfl, f, trimGo_keeps sup srcSpec _ _ _ f (List.mem_cons_self ..), e⟩)
    · exact covering_of_subset (fun y hy => List.mem_cons_of_mem _ hy) (fun y hy => Or.inr ((hmem y).1 hy)) (ih hx')
  | case3 c1 earlier result n hp ih =>
    rcases List.mem_cons.1 hx with rfl | hx'
    · exact Or.inl (trimGo_keeps sup srcSpec _ _ _ _ (List.mem_cons_self ..))
    · refine covering_of_subset (fun y hy => List.mem_cons_of_mem _ hy) (fun y hy => ?_) (ih hx')
      rcases List.mem_cons.1 hy with rfl | hy
      · exact Or.inl (List.mem_cons_self ..)
      · exact Or.inr hy
  | case4 c1 earlier result n ms covered hcov ih =>
    rcases List.mem_cons.1 hx with rfl | hx'
    · simp only [covered, ms, Bool.or_eq_true, List.any_eq_true, Bool.and_eq_true, decide_eq_true_eq] at hcov
      rcases hcov with ⟨c2, h2, hs, hp⟩ | ⟨c2, h2, hs, hp⟩
      · exact Or.inr (Or.inr ⟨rfl, c2, Or.inr h2, hs, hp⟩)
      · exact Or.inr (Or.inr ⟨rfl, c2, Or.inl (List.mem_cons_of_mem _ h2), hs, hp⟩)
    · exact covering_of_subset (fun y hy => List.mem_cons_of_mem _ hy) (fun y hy => Or.inr hy) (ih hx')
  | case5 c1 earlier result n ms covered hcov ih =>
    rcases List.mem_cons.1 hx with rfl | hx'
    · exact Or.inl (trimGo_keeps sup srcSpec _ _ _ _ (List.mem_cons_self ..))
    · refine covering_of_subset (fun y hy => List.mem_cons_of_mem _ hy) (fun y hy => ?_) (ih hx')
      rcases List.mem_cons.1 hy with rfl | hy
      · exact Or.inl (List.mem_cons_self ..)
      · exact Or.inr hy

/-- **second law, as `trim` (mod.rs:772) implements it**: of the selectors handed to `trim`, an ORIGINAL one is
    never lost (it, or an equal copy, is kept), and a GENERATED one is dropped only if some other selector of
    the same list is its superselector AND is at least as specific as the extender that produced the dropped
    one (`min_specificity ≥ max over its simples of source_specificity`, mod.rs:815–848) — so trimming
    never lowers the specificity with which an element is matched below the extender's. -/
theorem C10_trim_second_law (sup : Complex → Complex → Bool) (srcSpec : Simple → Nat) (sels : List Flagged)
    (x : Flagged) (hx : x ∈ sels) :
    x ∈ trim sup srcSpec sels ∨
    (x.2 = true ∧ ∃ y ∈ trim sup srcSpec sels, y.1 = x.1) ∨
    (x.2 = false ∧ ∃ y ∈ sels, y.1.minSpecificity ≥ maxSourceSpec srcSpec x.1 ∧ sup y.1 x.1 = true) := by
  unfold trim
  split
  · exact Or.inl hx
  · rcases trimGo_second_law sup srcSpec sels.reverse [] 0 x (by simpa using hx) with h | h | ⟨h1, y, hy, h2⟩
    · exact Or.inl h
    · exact Or.inr (Or.inl h)
    · refine Or.inr (Or.inr ⟨h1, y, ?_, h2⟩)
      rcases hy with hy | hy
      · simpa using hy
      · cases hy

-- non-vacuity: `a b` (generated, source specificity 1) is dropped for `b`; with source specificity 1001 it is kept
example : trim (isSuperComplex0 false) (fun _ => 1)
    [([.compound [.type ['b']]], true), ([.compound [.type ['a']], .compound [.type ['b']]], false)]
    = [([.compound [.type ['b']]], true)] := by decide +kernel
example : trim (isSuperComplex0 false) (fun _ => 1001)
    [([.compound [.type ['b']]], true), ([.compound [.type ['a']], .compound [.type ['b']]], false)]
    = [([.compound [.type ['b']]], true), ([.compound [.type ['a']], .compound [.type ['b']]], false)] := by decide +kernel

/-! ### monotonicity through any number of re-extensions -/

/-- **monotonicity of extension** (selectors without `:not()` — here: without any selector pseudo): whatever a
    selector matched before is still matched after ANY number of successive (re-)extensions, chains included. -/
theorem C10_monotone_chain (sw : Switches) (hsw : sw.supAsFound = false) (m : Option Nat)
    (steps : List (Ext × Name × List Ext)) (l out : List Flagged) (h : ChainRun sw m steps l out) (p : Ctx)
    (hm : matchesList (l.map (·.1)) p = true) : matchesList (out.map (·.1)) p = true := by
  induction h with
  | nil l => exact hm
  | cons e n all rest l l' l'' ht hE hn hl hx _ ih =>
    apply ih
    rw [extendList_sem sw hsw e all hE m l l' hl hx p]
    apply cList_of_matches _ _ _ _ p hm
    intro X hX
    simp only [List.mem_map] at hX
    obtain ⟨x, hx', rfl⟩ := hX
    exact hl x hx'

/-! ### @media: the general statement -/

/-- **extension stays inside its `@media` block** (specified variant, any extender, target and media contexts): an
    extension declared inside `@media m` never rewrites the compound `T` of a rule in another media context (or at the
    top level) — the run stops with "You may not @extend selectors across media queries." — while the code as found
    (D16, `assert_compatible_media_context` commented out, extension.rs:68) rewrites it to `T, E`. -/
theorem C10_media_confined_general (e : Ext) (all : List Ext) (mm : Nat) (rm : Option Nat) (io : Bool)
    (hm : e.media = some mm) (hr : rm ≠ some mm) :
    extendCompound Switches.spec [e] all rm io [e.target] = .error .crossMedia ∧
    extendCompound Switches.asFound [e] all rm io [e.target]
      = .ok (some [[.compound [e.target]], [.compound e.extender]]) := by
  simp [extendCompound, buildOptions, extendersOf, checkMedia, mediaOk, origOpt, extOpt, Switches.spec,
    Switches.asFound, hm, hr]

/-- … and inside the same block, or for an extension declared at the top level, it applies -/
theorem C10_media_same_block_applies (sw : Switches) (e : Ext) (all : List Ext) (rm : Option Nat) (io : Bool)
    (hm : e.media = none ∨ e.media = rm) :
    extendCompound sw [e] all rm io [e.target] = .ok (some [[.compound [e.target]], [.compound e.extender]]) := by
  rcases hm with hm | hm
  · simp [extendCompound, buildOptions, extendersOf, checkMedia, mediaOk, origOpt, extOpt, hm]
  · cases hr : rm <;> simp [extendCompound, buildOptions, extendersOf, checkMedia, mediaOk, origOpt, extOpt, hm, hr]

example : extendCompound Switches.spec [⟨[.cls ['b']], .cls ['a'], false, some 1⟩] [] none true [.cls ['a']]
    = .error .crossMedia :=
  (C10_media_confined_general ⟨[.cls ['b']], .cls ['a'], false, some 1⟩ [] 1 none true rfl (by decide)).1

/-! ### chains and cycles as whole stylesheets (`extend_existing_extensions`, mod.rs:1039) -/

private def rCls (n : Char) (m : Option Nat := none) : Item := .rule [[.compound [.cls [n]]]] m
private def eCls (a b : Char) : Item := .extend [[.compound [.cls [a]]]] (.cls [b]) false none
private def sCls (l : List Char) : SelList := l.map fun n => [.compound [.cls [n]]]

/-- **a chain of three hops, whole stylesheets, every position of the target rule**: `.a{} .b{@extend .a}
    .c{@extend .b} .d{@extend .c}` — the model of `add_extension` with `extend_existing_extensions` (one structural
    pass over the extensions that mention the new target: no fuel, no fixpoint loop — the code has none) gives the
    rule `.a` all four members whether it is written first, last or in between. -/
theorem C10_chain_sheet_three_hops :
    runX ⟨Switches.spec, false⟩ [rCls 'a', rCls 'b', eCls 'b' 'a', rCls 'c', eCls 'c' 'b', rCls 'd', eCls 'd' 'c']
      = .ok [sCls ['a', 'b', 'c', 'd'], sCls ['b', 'c', 'd'], sCls ['c', 'd'], sCls ['d']] ∧
    runX ⟨Switches.spec, false⟩ [rCls 'b', eCls 'b' 'a', rCls 'c', eCls 'c' 'b', rCls 'd', eCls 'd' 'c', rCls 'a']
      = .ok [sCls ['b', 'c', 'd'], sCls ['c', 'd'], sCls ['d'], sCls ['a', 'b', 'c', 'd']] ∧
    runX ⟨Switches.spec, false⟩ [rCls 'd', eCls 'd' 'c', rCls 'b', eCls 'b' 'a', rCls 'a', rCls 'c', eCls 'c' 'b']
      = .ok [sCls ['d'], sCls ['b', 'c', 'd'], sCls ['a', 'b', 'c', 'd'], sCls ['c', 'd']] := by
  decide +kernel

/-- **a cycle terminates and closes**: `.a{@extend .b} .b{@extend .a}` followed by `.c{@extend .a}` — every member
    of the cycle ends up with all three selectors (the derived extensions `.b → .b`, `.c → .b` are registered by the
    single pass of `extend_existing_extensions`). -/
theorem C10_cycle_sheet_closes :
    runX ⟨Switches.spec, false⟩ [rCls 'a', eCls 'a' 'b', rCls 'b', eCls 'b' 'a', rCls 'c', eCls 'c' 'a']
      = .ok [sCls ['a', 'c', 'b'], sCls ['b', 'a', 'c'], sCls ['c']] := by
  decide +kernel

/-- Soundness of `weave` (open): every woven complex matches only contexts matched by each of the woven
    selectors read with the common target.  Proved so far: the single-component case
    (`C10_weave_singletons_concat`); the descendant/child fragment and the specified sibling variant are
    compared with grass (text) and judged by the credited-context oracle only. -/
def C10_weave_sound_full : Prop :=
  ∀ (p1 p2 : Complex) (t : Compound) (r : Complex) (p : Ctx),
    r ∈ (weaveParentsTop false p1 p2).getD [] → matchesComplex (r ++ [.compound t]) p = true →
      matchesComplex (p1 ++ [.compound t]) p = true ∧ matchesComplex (p2 ++ [.compound t]) p = true

end Grass.Extend
