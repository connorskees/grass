import Grass.Module
import GrassProofs.Lemmas.ModuleView
import GrassProofs.Lemmas.ModuleLoader
import GrassProofs.Lemmas.ModuleConfig
/-
  C12 — Modules load once, stay isolated and expose only public members.

  Model: Grass/Module.lean.  `Switches.spec` is the specified behaviour, `Switches.now` the code as
  it stands in /repo (the correspondence runs against it; since the fixes of F1–F4 it equals `spec`,
  `C12_now_is_spec`), `Switches.beforeFixes` the tree before those fixes, `Switches.pinned` the tree
  before the D7 fix.  Theorems that hold for the code as it stands are stated for *every* switch
  setting (`sw`); theorems that an earlier tree violated are stated for the specified variant, with a
  kernel-checked `C12_asFound_…` witness beside them.

  The property, for every project and entry:
    (1) each canonical path is evaluated at most once and its CSS emitted at most once,
    (2) members are reachable only through a namespace / `as *`, private members never,
    (3) an assignment through a namespace updates the one shared variable,
    (4) `@forward` exposes exactly prefix ∘ filter(show/hide) of the upstream's public members,
    (5) `with` overrides only `!default` variables, is rejected for unknown / non-default
        variables and for already loaded modules — at every depth of `@forward … with`,
    (6) built-in modules offer the same functions as their global aliases,
    (7) every `@use`/`@forward` cycle is reported as an error.

  (1)–(4) are proved in full for the model.
  (5): the rejection half in full — `C12_with_unknown_is_error` (a configured variable that no module
  reachable through `@forward`s, with or without `with` clauses, prefixes, show/hide, declares
  `!default` makes the `@use` fail), `C12_with_after_load_is_error`, `C12_with_never_overrides_plain`,
  `C12_with_overrides_default`; the tree before the fix of F2 violated it
  (`C12_asFound_forward_with_unchecked`).  Not a theorem: which value a forwarded `!default` variable
  finally gets under nested `@forward … with` (checked by the correspondence only).
  (6): as alias sameness of the generated table.
  (7): as the active-set invariant — a load that resolves to a module under evaluation is an error
  (`C12_cycle_is_error`), every successful load restores the active set (`C12_active_restored`), and
  the cache of every run is a well-founded graph (`C12_module_graph_wellfounded`,
  `C12_no_dependency_cycle`): no module completes loading while depending on itself.

  `@import` of plain sheets and `meta.load-css` are an inclusion layer over the loader (`runX`, last
  section).  In the code `load-css` is an import into the caller (meta.rs:62-64: the sheet is
  re-evaluated on each call, its members and namespaces leak, `$with` is ignored — known finding
  C12-loadCssIsImport, `C12_asFound_loadcss_is_import`), so "evaluated once" holds for
  `@use`/`@forward` and for the modules a load-css'ed or imported sheet uses, not for that sheet
  itself.  Outside the model: `@import` of a sheet that has `@use`/`@forward` rules
  (`import_forwards`) or that is nested in a rule.
-/
namespace Grass.Module

/-- the error of a result, if any (`Except` has no `DecidableEq`; the witnesses below use this) -/
def resErr {α : Type} (r : Except Err α) : Option Err :=
  match r with
  | .ok _ => none
  | .error e => some e

/-! ## (1) loads once -/

theorem inv_init (entry : Ident) : St.Inv ⟨[], [entry], [entry], []⟩ :=
  ⟨by simp, fun p hp => Or.inl hp, fun _ _ => rfl, fun p hp => hp⟩

theorem run_inv (sw : Switches) (proj : Project) (entry : Ident) : (run sw proj entry).st.Inv := by
  rcases run_cases sw proj entry with ⟨e, ho, _⟩ | ⟨src, _, _, o1, ho1, hst, _⟩
  · rw [ho]; exact ⟨List.nodup_nil, nofun, fun _ _ => rfl, nofun⟩
  · rw [hst, ← ho1]
    exact evalStmts_inv sw _ (load_restores sw proj _) (load_inv sw proj _) src.body (Env.new entry) Cfg.empty _
      (inv_init entry) List.mem_cons_self

/-- **Loads once.** For every project, every entry and every switch setting — also when the
    compilation ends in an error — no canonical path starts evaluation twice. -/
theorem C12_loads_once (sw : Switches) (proj : Project) (entry : Ident) :
    (run sw proj entry).st.entered.Nodup :=
  (run_inv sw proj entry).nodup

/-- **CSS once.** If every module source has at most one CSS marker statement (`Project.wf`), no
    marker is emitted twice, whatever the shape of the `@use`/`@forward` graph (diamonds, repeated
    loads under different spellings and namespaces, configuration, errors). -/
theorem C12_css_once (sw : Switches) (proj : Project) (entry : Ident) (hwf : proj.wf = true) (p : Ident) :
    cssCount p (run sw proj entry).st.trace ≤ 1 := by
  rcases run_cases sw proj entry with ⟨e, ho, _⟩ | ⟨src, hmem, hname, o1, ho1, hst, _⟩
  · rw [ho]; exact Nat.zero_le 1
  · have hb : nCss src.body ≤ 1 := by
      simp only [Project.wf, Bool.and_eq_true, List.all_eq_true, decide_eq_true_eq] at hwf
      exact hwf.2 src hmem
    rw [hst, ← ho1]
    exact (evalStmts_css sw _ (load_restores sw proj _) (load_inv sw proj _) (load_css sw proj hwf _) src.body
      (Env.new entry) Cfg.empty ⟨[], [entry], [entry], []⟩ (inv_init entry) (fun _ => Nat.zero_le 1)
      List.mem_cons_self (by rw [show cssCount (Env.new entry).path [] = 0 from rfl, Nat.zero_add]; exact hb)).1 p

/-- The per-input predicate P̂ (`onceOK`, evaluated by the driver on the implementation's own
    debug messages and CSS) holds of the model's output. -/
theorem C12_once_holds (sw : Switches) (proj : Project) (entry : Ident) (hwf : proj.wf = true) :
    onceOK (run sw proj entry).st.entered (cssOf (run sw proj entry).st.trace) = true := by
  simp only [onceOK, Bool.and_eq_true, decide_eq_true_eq]
  exact ⟨C12_loads_once sw proj entry, List.nodup_iff_count.mpr (fun p => C12_css_once sw proj entry hwf p)⟩

/-- **Termination.** The fuel `run` hands to the loader (number of files + 1) is never exhausted:
    nesting depth is bounded by the active set, which only holds files of the project. -/
theorem C12_fuel_suffices (sw : Switches) (proj : Project) (entry : Ident) :
    (run sw proj entry).res ≠ .error .outOfFuel := by
  rcases run_cases sw proj entry with ⟨e, ho, he⟩ | ⟨src, _, _, o1, ho1, _, hres⟩
  · rw [ho]; exact fun h => he (Except.error.inj h)
  · have hN : NoFuelErr (load sw proj (proj.length + 1)) [entry] := by
      intro url cfg st hA
      apply load_nofuel
      rw [hA]
      have : notActive proj [entry] ≤ proj.length := List.length_filter_le _ _
      omega
    intro h
    exact evalStmts_nofuel sw _ (load_restores sw proj _) [entry] hN src.body (Env.new entry) Cfg.empty
      ⟨[], [entry], [entry], []⟩ rfl (ho1 ▸ (hres _).mp h)

/-! ## what "the same module" means: the canonical path -/

/-- A URL resolves to the module whose canonical path is the canonical form (what
    `Fs::canonicalize` returns: the path itself on the in-memory Fs, its lexical normal form on the
    real disk) of one of the literal paths `find_import` probes — relative to the importing file
    first, then the load paths. -/
theorem C12_resolve_is_canonical (proj : Project) (u : Url) (m : ModSrc) (h : resolve proj u = some m) :
    m ∈ proj ∧ ∃ c ∈ candidates u, m.path = (if u.lexical then normPath [] c else c) := by
  unfold resolve at h
  obtain ⟨c, hc, hf⟩ := List.exists_of_findSome?_eq_some h
  refine ⟨List.mem_of_find?_eq_some hf, c, hc, ?_⟩
  have := List.find?_some hf
  simpa using this

/-- Two spellings (`a`, `../p/a`, `x/../a`, through a load path, …) that reach the same canonical
    path reach the same module — and `C12_loads_once` is about that module: one cache entry, one
    evaluation.  Conversely, spellings that canonicalise differently (e.g. `x/../a` on a file system
    whose `canonicalize` is the identity) are different modules for the code. -/
theorem C12_same_canonical_path_same_module (proj : Project) (hd : proj.pathsDistinct = true) (m1 m2 : ModSrc)
    (h1 : m1 ∈ proj) (h2 : m2 ∈ proj) (hp : m1.path = m2.path) : m1 = m2 :=
  eq_of_nodup_map (of_decide_eq_true hd) h1 h2 hp

/-! ## (7) cycles -/

/-- **Cycle is an error.** A load whose URL resolves to a module that is being evaluated (it is
    in the active set) is the error `moduleLoop`, and nothing is evaluated. -/
theorem C12_cycle_is_error (sw : Switches) (proj : Project) (fuel : Nat) (url : Url) (cfg : Cfg) (st : St)
    (src : ModSrc) (hres : resolve proj url = some src) (hparse : src.parseError = false)
    (hact : src.name ∈ st.active) :
    load sw proj (fuel + 1) url cfg st = ⟨st, .error .moduleLoop⟩ := by
  have : st.active.contains src.name = true := by simpa using hact
  simp only [load, hres, hparse, Bool.false_eq_true, if_false]
  rw [if_pos this]

/-- **Active-set invariant.** Every successful load returns with the active set exactly as it
    found it (so during the evaluation of a module body the set is: the entry, the chain of
    modules whose bodies are being evaluated, and nothing else). -/
theorem C12_active_restored (sw : Switches) (proj : Project) (fuel : Nat) (url : Url) (cfg : Cfg) (st : St)
    (r : Nat × Cfg) (h : (load sw proj fuel url cfg st).res = .ok r) :
    (load sw proj fuel url cfg st).st.active = st.active :=
  load_restores sw proj fuel url cfg st r h

/-- A module that is being evaluated is in the active set for the whole evaluation of its body:
    whatever its statements load, a load of the module itself is the error above. -/
theorem C12_self_load_is_error (sw : Switches) (proj : Project) (fuel : Nat) (url : Url) (cfg : Cfg) (st : St)
    (src : ModSrc) (hres : resolve proj url = some src) (hparse : src.parseError = false)
    (body : List Stmt) (env : Env) (c : Cfg) (hin : src.name ∈ st.active)
    (r : Env × Cfg) (hok : (evalStmts sw (load sw proj (fuel + 1)) body env c st).res = .ok r) :
    load sw proj (fuel + 1) url cfg (evalStmts sw (load sw proj (fuel + 1)) body env c st).st
      = ⟨(evalStmts sw (load sw proj (fuel + 1)) body env c st).st, .error .moduleLoop⟩ := by
  apply C12_cycle_is_error sw proj fuel url cfg _ src hres hparse
  rw [(evalStmts_restores sw _ (load_restores sw proj (fuel + 1)) body env c st r hok).1]
  exact hin

/-- A successful compilation ends with the entry as the only active module. -/
theorem C12_run_active_restored (sw : Switches) (proj : Project) (entry : Ident) (h : resErr (run sw proj entry).res = none) :
    (run sw proj entry).st.active = [entry] := by
  rcases run_cases sw proj entry with ⟨e, ho, _⟩ | ⟨src, _, _, o1, ho1, hst, hres⟩
  · rw [ho] at h; cases h
  · cases h1 : o1.res with
    | error e => rw [(hres e).mpr h1] at h; cases h
    | ok r =>
      rw [hst, ← ho1]
      exact (evalStmts_restores sw _ (load_restores sw proj _) src.body (Env.new entry) Cfg.empty _ r (ho1 ▸ h1)).1

/-- module `i` of the cache refers to module `j` (forwards it, uses it under a namespace or `as *`) -/
def dependsOn (ms : List Mod) (i j : Nat) : Prop :=
  ∃ m, modAt ms i = some m ∧ ((∃ f ∈ m.fwds, f.target = j) ∨ j ∈ m.globals ∨ (∃ e ∈ m.nss, e.2 = j))

/-- **The module graph is well-founded.** Whatever the project, every reference a completed
    module holds points to a module that was completed before it (so `scopeView`, which looks
    forwards up in the older part of the cache, sees every forwarded module). -/
theorem C12_module_graph_wellfounded (sw : Switches) (proj : Project) (entry : Ident) :
    ModsWF (run sw proj entry).st.mods := by
  have h0 : ModsWF ([] : List Mod) := nofun
  rcases run_cases sw proj entry with ⟨e, ho, _⟩ | ⟨src, _, _, o1, ho1, hst, _⟩
  · rw [ho]; exact h0
  · rw [hst, ← ho1]
    exact (evalStmts_graph sw _ (load_graph sw proj _) src.body (Env.new entry) Cfg.empty
      ⟨[], [entry], [entry], []⟩ h0 ⟨nofun, nofun, nofun⟩).1

theorem ModsWF.lt_of_dependsOn {ms : List Mod} (hw : ModsWF ms) {a b : Nat} (h : Relation.TransGen (dependsOn ms) a b) :
    b < a := by
  have step : ∀ {a b}, dependsOn ms a b → b < a := by
    intro a b ⟨m, hm, hd⟩
    rcases hd with ⟨f, hf, rfl⟩ | hg | ⟨e, he, rfl⟩
    · exact (hw a m hm).1 f hf
    · exact (hw a m hm).2.1 b hg
    · exact (hw a m hm).2.2 e he
  induction h with
  | single h => exact step h
  | tail _ h ih => exact Nat.lt_trans (step h) ih

/-- **No dependency cycle can ever be completed**: in the cache of any run — successful or not — no
    module depends, directly or transitively, on itself.  Together with `C12_cycle_is_error` (the
    attempt is an error) this is the statement that `@use`/`@forward` cycles never load. -/
theorem C12_no_dependency_cycle (sw : Switches) (proj : Project) (entry : Ident) (i : Nat) :
    ¬ Relation.TransGen (dependsOn (run sw proj entry).st.mods) i i :=
  fun h => Nat.lt_irrefl i ((C12_module_graph_wellfounded sw proj entry).lt_of_dependsOn h)

/-! ## (2) privacy -/

/-- **Private members are never visible.** Whatever a module's scope hands out — through `@use`,
    through any chain of `@forward`s with any prefixes and show/hide lists, for every switch
    setting — was declared under a public name. -/
theorem C12_private_never_visible (sw : Switches) (k : Kind) (ms : List Mod) (id : Nat) (n : Ident) (o : Origin)
    (h : (scopeView sw k ms id).get n = some o) : isPrivate o.name = false :=
  allOrigins_scopeView (fun o => isPrivate o.name = false) sw k ms id (fun _ _ _ _ _ h => h) n o h

/-- The same for bare names resolved through `as *` modules. -/
theorem C12_private_never_visible_star (sw : Switches) (k : Kind) (ms : List Mod) (globals : List Nat) (n : Ident)
    (o : Origin) (h : fromGlobals sw k ms globals n = some o) : isPrivate o.name = false := by
  unfold fromGlobals at h
  obtain ⟨g, _, hg⟩ := List.exists_of_findSome?_eq_some h
  exact C12_private_never_visible sw k ms g n o hg

/-- A name that is private after normalisation (`-x`, `_x`) is not served by a module's own
    public view, so without a prefix it is not reachable at all. -/
theorem C12_private_name_not_served (id : Nat) (own : List Ident) (n : Ident) (h : isPrivate n = true) :
    (View.pub (View.base id own)).get n = none := by
  simp [View.pub, h]

theorem isPrivate_norm_underscore (s : Ident) : isPrivate (norm ('_' :: s)) = true := by
  simp [isPrivate, norm, normChar]

theorem isPrivate_norm_hyphen (s : Ident) : isPrivate (norm ('-' :: s)) = true := by
  simp [isPrivate, norm, normChar]

/-- A module source with an unguarded namespaced reference to a private name is rejected when it
    is loaded: nothing of it is evaluated (`assert_public`, parse/stylesheet.rs:2649). -/
theorem C12_private_ref_is_error (sw : Switches) (proj : Project) (fuel : Nat) (url : Url) (cfg : Cfg) (st : St)
    (src : ModSrc) (hres : resolve proj url = some src) (hparse : src.parseError = true) :
    load sw proj (fuel + 1) url cfg st = ⟨st, .error .privateAccess⟩ := by
  simp [load, hres, hparse]

/-- **Private members are not listed.** `meta.module-variables` / `meta.module-functions` (the
    `pkeys` statement) never report a private name, whatever the module declares or forwards. -/
theorem C12_private_not_in_module_keys (sw : Switches) (loadF : LoadF) (pid : Nat) (k : Kind) (ns : Ident) (env : Env)
    (cfg : Cfg) (st : St) (ks : List Ident)
    (h : (step sw loadF (.pkeys pid k ns) env cfg st).st.trace.getLast? = some (.probe pid (.keys ks)))
    (hok : resErr (step sw loadF (.pkeys pid k ns) env cfg st).res = none) :
    ∀ n ∈ ks, isPrivate n = false := by
  cases hl : env.nss.lookup ns with
  | none => simp [step, hl, resErr] at hok
  | some id =>
    simp only [step, hl, St.emit, List.getLast?_append, List.getLast?_singleton, Option.some_or, Option.some.injEq,
      Event.probe.injEq, PRes.keys.injEq, true_and] at h
    intro n hn
    rw [← h] at hn
    simpa using (List.mem_filter.mp hn).2

example : (step .now (fun _ _ st => ⟨st, .error .notFound⟩) (.pkeys 1 .var ['a']) { Env.new ['e'] with nss := [(['a'], 0)] } Cfg.empty
    ⟨[⟨['a'], [(['x'], 1), (['-', 'p'], 2)], [], [], [], [], []⟩], [['e']], [['e']], []⟩).st.trace.getLast?
    = some (.probe 1 (.keys [['x']])) := by decide +kernel

/-! ## (4) the forward view -/

/-- **Forward view.** For the specified variant, what `@forward "m" [as p*] [show …|hide …]` makes
    visible is `prefix ∘ filter(show/hide)` of what `m` exposes; the lists name the *prefixed*
    names, variables and mixins-and-functions separately. -/
theorem C12_forward_view_spec (k : Kind) (r : FwdRule) (ms : List Mod) (target : Nat) (n : Ident) :
    (forwardedMap .spec k r (scopeView .spec k ms target)).get n
      = fwdSpecGet r k (scopeView .spec k ms target).get n :=
  forwardedMap_get_spec .spec rfl rfl k r _ (good_scopeView .spec rfl k ms target) n

/-- The whole scope of a module, along the whole `@forward` graph: its own public members, else the
    last `@forward` that lets the name through (`specGet`, written without views). -/
theorem C12_scope_spec (k : Kind) (ms : List Mod) (id : Nat) (n : Ident) :
    (scopeView .spec k ms id).get n = specGet k ms id n :=
  scopeView_get_spec .spec rfl rfl k ms id n

/-- `keys()` (what `meta.module-variables` / `module-functions` list) agrees with `get` for the
    specified variant: every member that can be referenced is listed. -/
theorem C12_forward_keys_complete (k : Kind) (ms : List Mod) (id : Nat) (n : Ident)
    (h : ((scopeView .spec k ms id).get n).isSome = true) : n ∈ (scopeView .spec k ms id).keys :=
  (good_scopeView .spec rfl k ms id).complete n h

/-- … and, for every switch setting, nothing is listed that cannot be referenced. -/
theorem C12_forward_keys_sound (sw : Switches) (k : Kind) (ms : List Mod) (id : Nat) (n : Ident)
    (h : n ∈ (scopeView sw k ms id).keys) : ((scopeView sw k ms id).get n).isSome = true :=
  sound_scopeView sw k ms id n h

/-- **The code as it stands is the specified variant** (every found deviation is repaired), so the
    theorems stated for `Switches.spec` are theorems about the code's model. -/
theorem C12_now_is_spec : Switches.now = Switches.spec := rfl

/-- … in particular the forward view, the whole scope and the key set, for the code as it stands. -/
theorem C12_forward_view_now (k : Kind) (r : FwdRule) (ms : List Mod) (target : Nat) (n : Ident) :
    (forwardedMap .now k r (scopeView .now k ms target)).get n = fwdSpecGet r k (scopeView .now k ms target).get n :=
  C12_forward_view_spec k r ms target n

theorem C12_scope_now (k : Kind) (ms : List Mod) (id : Nat) (n : Ident) :
    (scopeView .now k ms id).get n = specGet k ms id n :=
  C12_scope_spec k ms id n

theorem C12_forward_keys_complete_now (k : Kind) (ms : List Mod) (id : Nat) (n : Ident)
    (h : ((scopeView .now k ms id).get n).isSome = true) : n ∈ (scopeView .now k ms id).keys :=
  C12_forward_keys_complete k ms id n h

/-- Before F1 was fixed (but after D7) the forward view was already the specified one when no
    prefix was involved. -/
theorem C12_forward_view_beforeFixes_without_prefix (k : Kind) (vis : Vis) (v : View) (hv : v.Good) (n : Ident) :
    (forwardedMap .beforeFixes k ⟨none, vis⟩ v).get n = fwdSpecGet ⟨none, vis⟩ k v.get n := by
  unfold forwardedMap fwdSpecGet FwdRule.allows
  simp only [Switches.beforeFixes, Bool.false_eq_true, if_false, prefixBy, stripPfx]
  rw [limitBy_get vis k v hv n]

private def mA : Mod := ⟨['a'], [(['x'], 1), (['y'], 2), (['-', 'p'], 3)], [(['f'], .const)], [['m']], [], [], []⟩

/-- Witness for D7 (the pinned tree): `@forward "a" show $x` exposed `$y` as well. -/
theorem C12_asFound_forward_ignores_show_hide :
    ∃ (r : FwdRule) (ms : List Mod) (n : Ident),
      (forwardedMap .pinned .var r (scopeView .pinned .var ms 0)).get n
        ≠ fwdSpecGet r .var (scopeView .pinned .var ms 0).get n :=
  ⟨⟨none, .allow [['x']] []⟩, [mA], ['y'], by decide +kernel⟩

/-- Witness (the tree before the fix): `@forward "a" as p-* hide $p-y` hides `$p-x` too, because the
    blocklist is computed from `PrefixedMapView::keys`, which drops every upstream key that does
    not already start with the prefix. -/
theorem C12_asFound_prefix_hide_loses_members :
    ∃ (r : FwdRule) (ms : List Mod) (n : Ident),
      (forwardedMap .beforeFixes .var r (scopeView .beforeFixes .var ms 0)).get n
        ≠ fwdSpecGet r .var (scopeView .beforeFixes .var ms 0).get n :=
  ⟨⟨some ['p', '-'], .hide [['p', '-', 'y']] []⟩, [mA], ['p', '-', 'x'], by decide +kernel⟩

/-- Witness (the tree before the fix): the key set of a prefixed forward is not complete — `$p-x` can be
    referenced but `meta.module-variables` does not list it. -/
theorem C12_asFound_prefixed_keys_incomplete :
    ∃ (ms : List Mod) (id : Nat) (n : Ident),
      ((scopeView .beforeFixes .var ms id).get n).isSome = true ∧ n ∉ (scopeView .beforeFixes .var ms id).keys :=
  ⟨[⟨['m', 'i', 'd'], [], [], [], [⟨⟨some ['p', '-'], .all⟩, 0⟩], [], []⟩, mA], 1, ['p', '-', 'x'], by decide +kernel⟩

/-! ## (3) assignment through a namespace -/

/-- **Assignment through a namespace is shared.** After `ns₁.$n₁: v` in one module, *every*
    reference from any other module, through any namespace and any chain of forwards, that denotes
    the same member reads `v`. -/
theorem C12_namespace_assignment_shared (sw : Switches) (loadF : LoadF) (env1 env2 : Env) (cfg : Cfg) (st : St)
    (ns1 ns2 n1 n2 : Ident) (v : Val) (id1 id2 : Nat) (o : Origin)
    (h1 : env1.nss.lookup ns1 = some id1) (h2 : env2.nss.lookup ns2 = some id2)
    (hg1 : (scopeView sw .var st.mods id1).get n1 = some o)
    (hg2 : (scopeView sw .var st.mods id2).get n2 = some o) :
    lookupMember sw env2 (step sw loadF (.assign ns1 n1 v false) env1 cfg st).st .var (some ns2) n2
      = .ok (some (.val v)) := by
  have hex := scopeView_var_exists sw st.mods id1 n1 o hg1
  simp only [step, h1, hg1, Bool.false_eq_true, if_false, St.withMods, lookupMember, h2]
  rw [scopeView_setVar sw .var st.mods o.owner o.name v id2 hex, hg2]
  simp only [Option.map_some, resOf]
  rw [readVar_setVar st.mods o.owner o.name v hex]

/-- In particular two users of the same module see each other's assignment. -/
theorem C12_namespace_assignment_shared_same_module (sw : Switches) (loadF : LoadF) (env1 env2 : Env) (cfg : Cfg)
    (st : St) (ns1 ns2 n : Ident) (v : Val) (id : Nat) (o : Origin)
    (h1 : env1.nss.lookup ns1 = some id) (h2 : env2.nss.lookup ns2 = some id)
    (hg : (scopeView sw .var st.mods id).get n = some o) :
    lookupMember sw env2 (step sw loadF (.assign ns1 n v false) env1 cfg st).st .var (some ns2) n
      = .ok (some (.val v)) :=
  C12_namespace_assignment_shared sw loadF env1 env2 cfg st ns1 ns2 n n v id id o h1 h2 hg hg

/-- The assignment does not create or hide members: every scope is unchanged. -/
theorem C12_assignment_keeps_views (sw : Switches) (k : Kind) (ms : List Mod) (o : Origin) (v : Val) (i : Nat)
    (hex : (readVar ms o.owner o.name).isSome = true) :
    scopeView sw k (setVar ms o.owner o.name v) i = scopeView sw k ms i :=
  scopeView_setVar sw k ms o.owner o.name v i hex

/-! ## (5) configuration -/

/-- `with` never reaches a variable declared without `!default`: the declaration assigns its own
    value and leaves the configuration as it is. -/
theorem C12_with_never_overrides_plain (sw : Switches) (loadF : LoadF) (n : Ident) (v : Val) (env : Env) (cfg : Cfg)
    (st : St) :
    (step sw loadF (.var n v false) env cfg st).res = .ok ((insertRoot sw env st n v).1, cfg) ∧
    (step sw loadF (.var n v false) env cfg st).st = (insertRoot sw env st n v).2 := by
  simp [step]

/-- A `!default` declaration takes the configured value and consumes it. -/
theorem C12_with_overrides_default (sw : Switches) (loadF : LoadF) (n : Ident) (v cv : Val) (env : Env)
    (base : List (Ident × Val)) (st : St) (h : base.lookup n = some cv) :
    (step sw loadF (.var n v true) env ⟨base, [], true⟩ st).res
      = .ok ((insertRoot sw env st n cv).1, ⟨eraseKey base n, [], true⟩) := by
  simp [step, Cfg.remove, viaLayers, h]

/-- **Only top-level `!default` declarations are configurable.**  A `$n: v !default` nested in a
    style rule, in a top-level `@if`/`@each` block or in a mixin/function the module calls while
    loading (`env.at_root()` is false, visitor.rs:2022) never consults the `with` configuration,
    whatever it contains, and creates no module member: configuration and environment are unchanged;
    the declaration sees the module's own global of that name if there is one, else its own value. -/
theorem C12_with_only_top_level_default (sw : Switches) (loadF : LoadF) (pid ctx : Nat) (n : Ident) (v : Val) (env : Env)
    (cfg : Cfg) (st : St) :
    (step sw loadF (.nested pid ctx n v) env cfg st).res = .ok (env, cfg) ∧
    (step sw loadF (.nested pid ctx n v) env cfg st).st = st.emit (.probe pid (.val ((env.vars.lookup n).getD v))) := by
  simp [step]

/-- … so a `with` that names a variable declared `!default` only in nested positions is rejected:
    such declarations count as "cannot take it" in `cannotConsume`, the hypothesis of
    `C12_with_unknown_is_error`. -/
theorem C12_nested_default_cannot_consume (rec : Url → Option Ident → Bool) (vis : Option Ident) (pid ctx : Nat)
    (n : Ident) (v : Val) : stmtKeeps rec vis (.nested pid ctx n v) = true := rfl

/-- statements that cannot consume the configured name `n` -/
def keepsCfg (n : Ident) : Stmt → Bool
  | .forward _ _ _ => false
  | .var m _ true => m != n
  | _ => true

theorem stmtKeeps_of_keepsCfg {n : Ident} {s : Stmt} (rec : Url → Option Ident → Bool) (h : keepsCfg n s = true) :
    stmtKeeps rec (some n) s = true ∧ ∀ u r w, s ≠ .forward u r w := by
  refine ⟨?_, fun u r w hs => by rw [hs] at h; cases h⟩
  cases s with
  | forward u r w => cases h
  | var m v g =>
    cases g with
    | true =>
      have hne : m ≠ n := by simpa [keepsCfg] using h
      simp [stmtKeeps, Ne.symm hne]
    | false => rfl
  | _ => rfl

/-- a `@use … with (…)` fails if an entry of the clause is still there whenever the load succeeds -/
theorem use_with_kept_is_error (sw : Switches) (loadF : LoadF) (url : Url) (ns : UseNs) (withs : List (Ident × Val))
    (n : Ident) (env : Env) (cfg : Cfg) (st : St) (hn : (withs.lookup n).isSome = true)
    (hk : ∀ id c1, (loadF url ⟨withs, [], true⟩ st).res = .ok (id, c1) → Cfg.KeepsAt n ⟨withs, [], true⟩ c1) :
    ∃ e, (step sw loadF (.use url ns withs) env cfg st).res = .error e := by
  have hne : withs.isEmpty = false := by cases withs with
    | nil => cases hn
    | cons _ _ => rfl
  simp only [step, hne, Bool.false_eq_true, if_false]
  cases hl : (loadF url ⟨withs, [], true⟩ st).res with
  | error e => exact ⟨e, rfl⟩
  | ok r =>
    simp only
    obtain ⟨hl', he', hb'⟩ := hk r.1 r.2 hl
    have hc1 : r.2.leftover = true := by
      have hbne : r.2.base.isEmpty = false := by
        cases hb : r.2.base with
        | nil => rw [hb] at hb'; rw [← hb'] at hn; cases hn
        | cons _ _ => rfl
      simp only at hl' he'
      simp [Cfg.leftover, Cfg.isEmpty, hl', he', layersEmpty, hbne]
    cases addModule sw env ns url.base r.1 (loadF url ⟨withs, [], true⟩ st).st.mods with
    | error e => exact ⟨e, rfl⟩
    | ok env' => simp only [hc1, if_true]; exact ⟨_, rfl⟩

/-- **`with` of a variable that is not configurable is an error.** If the `with` clause of a
    `@use` names `n`, and the module it loads (for the first time) has no `!default` declaration of
    `n` and no `@forward`, the `@use` fails — the variable may exist without `!default`, or not at
    all.  This is the case without `@forward`; `C12_with_unknown_is_error` below follows the
    configuration through forwarding modules. -/
theorem C12_with_unknown_is_error_partial (sw : Switches) (proj : Project) (fuel : Nat) (url : Url) (ns : UseNs)
    (withs : List (Ident × Val)) (n : Ident) (env : Env) (cfg : Cfg) (st : St) (src : ModSrc)
    (hres : resolve proj url = some src) (hn : (withs.lookup n).isSome = true)
    (hbody : ∀ s ∈ src.body, keepsCfg n s = true) :
    ∃ e, (step sw (load sw proj (fuel + 1)) (.use url ns withs) env cfg st).res = .error e := by
  refine use_with_kept_is_error sw _ url ns withs n env cfg st hn (fun id c1 hl => ?_)
  refine load_keepsAt sw proj (fuel + 1) 1 url ⟨withs, [], true⟩ st n (some n) id c1 (.inr fun src' hres' u r w hm => ?_) rfl
    (fun m hm => by cases hm; rfl) ?_ hl
  · cases hres.symm.trans hres'
    exact (stmtKeeps_of_keepsCfg (fun _ _ => false) (hbody _ hm)).2 u r w rfl
  · simp only [cannotConsume, hres, List.all_eq_true]
    exact fun s hs => (stmtKeeps_of_keepsCfg _ (hbody s hs)).1

/-! ### … and through any chain of `@forward`s, with or without a `with` clause of their own -/

/-- **`with` of a variable that nothing can take is an error — unrestricted.**  If the `with`
    clause of a `@use` names `n` and `cannotConsume` holds — no module reachable from the used one
    through `@forward`s declares that variable with `!default` under the name it has there
    (translated through every `as p-*`; show/hide only make it less visible), where a
    `@forward … with (…)` on the way either sets the name itself (then the outer value is never
    used), or takes it with a `!default` entry / copies it into the new configuration (then the
    forwarded module must not be able to take it either) — then the `@use` fails: with the
    not-declared-with-`!default` error of the `@use` itself, of the `@forward … with` whose
    `!default` entry took the value, or with an earlier error of the modules being loaded.
    Holds for every switch setting in which a configuration stays explicit through `@forward`
    (e12a9ef), in particular for the code as it stands. -/
theorem C12_with_unknown_is_error (sw : Switches) (hsw : sw.fwdCfgImplicit = false) (proj : Project) (fuel d : Nat)
    (url : Url) (ns : UseNs) (withs : List (Ident × Val)) (n : Ident) (env : Env) (cfg : Cfg) (st : St)
    (hn : (withs.lookup n).isSome = true) (hc : cannotConsume proj d url (some n) = true) :
    ∃ e, (step sw (load sw proj fuel) (.use url ns withs) env cfg st).res = .error e :=
  use_with_kept_is_error sw _ url ns withs n env cfg st hn (fun id c1 hl =>
    load_keepsAt sw proj fuel d url ⟨withs, [], true⟩ st n (some n) id c1 (.inl hsw) rfl (fun m hm => by cases hm; rfl) hc hl)

/-- for the code as it stands -/
theorem C12_with_unknown_is_error_now (proj : Project) (fuel d : Nat) (url : Url) (ns : UseNs)
    (withs : List (Ident × Val)) (n : Ident) (env : Env) (cfg : Cfg) (st : St)
    (hn : (withs.lookup n).isSome = true) (hc : cannotConsume proj d url (some n) = true) :
    ∃ e, (step .now (load .now proj fuel) (.use url ns withs) env cfg st).res = .error e :=
  C12_with_unknown_is_error .now rfl proj fuel d url ns withs n env cfg st hn hc

/-- **`with` after load is an error.** A `@use … with (…)` of a module that is already in the
    cache cannot configure it; the clause is left over and the rule fails (grass reports it with
    the text of the not-`!default` error; the specific "already loaded" message of dart-sass is
    commented out in `execute`, visitor.rs:568). -/
theorem C12_with_after_load_is_error (sw : Switches) (proj : Project) (fuel : Nat) (url : Url) (ns : UseNs)
    (withs : List (Ident × Val)) (env : Env) (cfg : Cfg) (st : St) (src : ModSrc) (id : Nat)
    (hres : resolve proj url = some src) (hloaded : findLoaded st.mods src.name = some id) (hw : withs ≠ []) :
    ∃ e, (step sw (load sw proj (fuel + 1)) (.use url ns withs) env cfg st).res = .error e := by
  obtain ⟨r, hl, hr⟩ := load_of_loaded sw proj fuel url ⟨withs, [], true⟩ st hres hloaded
  cases withs with
  | nil => exact absurd rfl hw
  | cons w ws =>
    refine use_with_kept_is_error sw _ url ns (w :: ws) w.1 env cfg st (by simp) (fun id' c1 h => ?_)
    rw [hl] at h
    cases hr _ h
    exact .refl _ _

private def srcA : ModSrc := (ModSrc.flat ['a'] false [.var ['x'] 1 true, .var ['y'] 2 false, .var ['z'] 3 true, .dbg, .css])

/-- Witness (the tree before the fix): under an outer configuration a `@forward … with` is never
    checked — `@use "mid" with ($x: 8)` where `mid` is `@forward "a" with ($zz: 7)` compiles although
    `a` has no `$zz`; the specified variant reports the error. -/
theorem C12_asFound_forward_with_unchecked :
    ∃ (proj : Project) (entry : Ident), proj.wf = true ∧
      resErr (run .beforeFixes proj entry).res = none ∧ resErr (run .spec proj entry).res = some .withNotDefault :=
  ⟨[srcA, (ModSrc.flat ['m'] false [.forward (Url.flat ['a'] false) ⟨none, .all⟩ [(['z', 'z'], 7, false)]]),
    (ModSrc.flat ['e'] false [.use (Url.flat ['m'] false) .dflt [(['x'], 8)]])], ['e'], by decide +kernel, by decide +kernel, by decide +kernel⟩

/-- Witnesses (the tree before the fixes): two inputs on which grass panics where the specified variant
    reports an ordinary error or compiles. -/
theorem C12_asFound_panics :
    ∃ (p1 p2 : Project) (entry : Ident),
      resErr (run .beforeFixes p1 entry).res = some .panic ∧ resErr (run .spec p1 entry).res = some .undefVar ∧
      resErr (run .beforeFixes p2 entry).res = some .panic ∧ resErr (run .spec p2 entry).res = none :=
  ⟨[srcA, (ModSrc.flat ['m'] false [.forward (Url.flat ['a'] false) ⟨none, .all⟩ []]),
     (ModSrc.flat ['e'] false [.use (Url.flat ['m'] false) .dflt [], .assign ['m'] ['n', 'o'] 5 false])],
   [srcA, (ModSrc.flat ['m'] false [.forward (Url.flat ['a'] false) ⟨some ['p', '-'], .all⟩ [(['z'], 7, true)]]),
     (ModSrc.flat ['e'] false [.use (Url.flat ['m'] false) .dflt [(['p', '-', 'x'], 8)]])],
   ['e'], by decide +kernel, by decide +kernel, by decide +kernel, by decide +kernel⟩

/-! ## (6) built-in modules and their global aliases -/

/-- **Alias sameness** (by construction of the tables regenerated from the Rust source on every
    run): a global name listed as an alias of `module.member` is implemented by the very same Rust
    function, so the two calls cannot differ. -/
theorem C12_builtin_alias_same (m f g : String) (h : g ∈ builtinAliases m f) :
    ∃ impl, moduleImpl m f = some impl ∧ (g, impl) ∈ Grass.Generated.globalTable := by
  unfold builtinAliases at h
  cases hm : moduleImpl m f with
  | none => simp [hm] at h
  | some impl =>
    simp only [hm, List.mem_map, List.mem_filter] at h
    obtain ⟨e, ⟨he, himpl⟩, hg⟩ := h
    refine ⟨impl, rfl, ?_⟩
    have : e = (g, impl) := by
      obtain ⟨a, b⟩ := e
      simp only at hg himpl
      simp_all
    rw [← this]; exact he

/-- Global names are unique in the table, so "the implementation of `g`" is well defined. -/
theorem C12_builtin_global_names_unique : (Grass.Generated.globalTable.map (·.1)).Nodup := by
  decide +kernel

example : "floor" ∈ builtinAliases "math" "floor" ∧ "map-get" ∈ builtinAliases "map" "get" ∧
    "adjust-color" ∈ builtinAliases "color" "adjust" ∧ builtinAliases "math" "clamp" = [] := by decide +kernel

/-! ## non-vacuity: the hypotheses are met by concrete non-trivial values -/

private def srcB : ModSrc := (ModSrc.flat ['b'] false [.use (Url.flat ['a'] false) .dflt [], .dbg, .css])
private def srcC : ModSrc := (ModSrc.flat ['c'] true [.use (Url.flat ['a'] false) (.named ['n']) [], .assign ['n'] ['y'] 9 false, .dbg, .css])
private def srcMain : ModSrc := (ModSrc.flat ['e'] false [.use (Url.flat ['b'] false) .dflt [], .use (Url.flat ['c'] true) .dflt [], .use (Url.flat ['a'] false) .star [], .dbg, .css,
   .probe 1 false .var none ['y']])
private def diamond : Project := [srcA, srcB, srcC, srcMain]

-- a diamond: `a` is loaded three times, evaluated once; the assignment made in `c` is seen in the entry
example : diamond.wf = true ∧ resErr (run .now diamond ['e']).res = none ∧
    (run .now diamond ['e']).st.entered = [['e'], ['b'], ['a'], ['c']] ∧
    cssOf (run .now diamond ['e']).st.trace = [['a'], ['b'], ['c'], ['e']] ∧
    (run .now diamond ['e']).st.trace.getLast? = some (.probe 1 (.val 9)) := by decide +kernel

-- the cache of the diamond has real dependency edges (b → a, c → a), all pointing backwards
example : (modAt (run .now diamond ['e']).st.mods 1).map (·.nss) = some [(['a'], 0)] ∧
    (modAt (run .now diamond ['e']).st.mods 2).map (·.nss) = some [(['n'], 0)] ∧
    (modAt (run .now diamond ['e']).st.mods 0).map (·.path) = some ['a'] := by decide +kernel

-- directories, load paths and canonicalisation: from `p/x`, `../a` is the literal path `p/x/../a`; it is the file `p/a`
-- only where canonicalize resolves `..`; `b` is found through the load path `p/lib` after the relative miss
private def mRootA : ModSrc := ⟨['a'], [['p'], ['a']], [.dbg, .css]⟩
private def mLibB : ModSrc := ⟨['b'], [['p'], ['l', 'i', 'b'], ['_', 'b']], [.dbg, .css]⟩
example : resolve [mRootA, mLibB] ⟨[['p'], ['x']], [['.', '.']], ['a'], false, false, [], true⟩ = some mRootA ∧
    resolve [mRootA, mLibB] ⟨[['p'], ['x']], [['.', '.']], ['a'], false, false, [], false⟩ = none ∧
    resolve [mRootA, mLibB] ⟨[['p'], ['x']], [], ['b'], false, false, [[['p'], ['l', 'i', 'b']]], false⟩ = some mLibB ∧
    resolve [mRootA, mLibB] ⟨[['p'], ['x']], [], ['b'], false, true, [[['p'], ['l', 'i', 'b']]], false⟩ = some mLibB ∧
    Project.pathsDistinct [mRootA, mLibB] = true := by decide +kernel

-- cycles of length 2 (through @use) and through @forward are errors
example : resErr (run .now [(ModSrc.flat ['a'] false [.use (Url.flat ['b'] false) .dflt []]), (ModSrc.flat ['b'] false [.use (Url.flat ['a'] false) .dflt []]),
    (ModSrc.flat ['e'] false [.use (Url.flat ['a'] false) .dflt []])] ['e']).res = some .moduleLoop := by decide +kernel
example : resErr (run .now [(ModSrc.flat ['a'] false [.forward (Url.flat ['e'] false) ⟨none, .all⟩ []]),
    (ModSrc.flat ['e'] false [.use (Url.flat ['a'] false) .dflt []])] ['e']).res = some .moduleLoop := by decide +kernel

-- C12_cycle_is_error: its hypotheses hold in the state in which `b` tries to load `a`
example : resolve [srcA, srcB] (Url.flat ['a'] false) = some srcA ∧ srcA.parseError = false ∧
    ['a'] ∈ (⟨[], [['b'], ['a'], ['e']], [], []⟩ : St).active := by decide +kernel

-- privacy: `$-p` is in the module, visible under no name; `$x` is
example : (scopeView .now .var [mA] 0).get ['-', 'p'] = none ∧
    (scopeView .now .var [mA] 0).get ['x'] = some ⟨0, ['x']⟩ ∧ isPrivate (norm ['_', 'p']) = true := by decide +kernel

-- C12_namespace_assignment_shared: two users (namespaces `n` and `a`, one of them through a prefixed forward) denote
-- the same member `$y` of module 0; and C12_with_after_load / _unknown hypotheses are met by `srcA`
example : (scopeView .now .var [⟨['m'], [], [], [], [⟨⟨some ['p', '-'], .all⟩, 0⟩], [], []⟩, mA] 1).get ['p', '-', 'y'] = some ⟨0, ['y']⟩ ∧
    (scopeView .now .var [⟨['m'], [], [], [], [⟨⟨some ['p', '-'], .all⟩, 0⟩], [], []⟩, mA] 0).get ['y'] = some ⟨0, ['y']⟩ ∧
    ([(['n'], 1)] : List (Ident × Nat)).lookup ['n'] = some 1 ∧ ([(['a'], 0)] : List (Ident × Nat)).lookup ['a'] = some 0 := by decide +kernel
example : resolve [srcA] (Url.flat ['a'] false) = some srcA ∧ findLoaded [mA] ['a'] = some 0 ∧
    (([(['y'], 8)] : List (Ident × Val)).lookup ['y']).isSome = true := by decide +kernel

-- forward view: prefix and show list naming the prefixed name
example : (forwardedMap .spec .var ⟨some ['p', '-'], .allow [['p', '-', 'x']] []⟩ (scopeView .spec .var [mA] 0)).get ['p', '-', 'x']
      = some ⟨0, ['x']⟩ ∧
    (forwardedMap .spec .var ⟨some ['p', '-'], .allow [['p', '-', 'x']] []⟩ (scopeView .spec .var [mA] 0)).get ['p', '-', 'y'] = none ∧
    (forwardedMap .spec .var ⟨some ['p', '-'], .allow [['x']] []⟩ (scopeView .spec .var [mA] 0)).get ['p', '-', 'x'] = none := by decide +kernel

-- configuration: ok for `!default`, error for a plain variable, for an unknown one and after load
example : (run .now [srcA, (ModSrc.flat ['e'] false [.use (Url.flat ['a'] false) .dflt [(['x'], 8)], .probe 1 false .var (some ['a']) ['x']])] ['e']).st.trace.getLast?
    = some (.probe 1 (.val 8)) := by decide +kernel
example : resErr (run .now [srcA, (ModSrc.flat ['e'] false [.use (Url.flat ['a'] false) .dflt [(['y'], 8)]])] ['e']).res = some .withNotDefault := by decide +kernel
example : resErr (run .now [srcA, (ModSrc.flat ['e'] false [.use (Url.flat ['a'] false) .dflt [(['q'], 8)]])] ['e']).res = some .withNotDefault := by decide +kernel
example : resErr (run .now [srcA, (ModSrc.flat ['e'] false [.use (Url.flat ['a'] false) .dflt [], .use (Url.flat ['a'] false) (.named ['n']) [(['x'], 8)]])] ['e']).res
    = some .withNotDefault := by decide +kernel
example : ∀ s ∈ srcA.body, keepsCfg ['y'] s = true := by decide +kernel

-- C12_with_unknown_is_error: `$p-y` reaches `a` as `$y` through `@forward "a" as p-*` (and through
-- a second forwarder); `a` declares `$y` without `!default`, so nothing can take it — and the compilation fails
private def srcMidP : ModSrc := (ModSrc.flat ['m'] false [.forward (Url.flat ['a'] false) ⟨some ['p', '-'], .all⟩ []])
private def srcTop : ModSrc := (ModSrc.flat ['t'] false [.forward (Url.flat ['m'] false) ⟨none, .hide [['p', '-', 'x']] []⟩ []])
example : cannotConsume [srcA, srcMidP, srcTop] 3 (Url.flat ['t'] false) (some ['p', '-', 'y']) = true ∧
    cannotConsume [srcA, srcMidP, srcTop] 3 (Url.flat ['t'] false) (some ['p', '-', 'z']) = false ∧
    resErr (run .now [srcA, srcMidP, srcTop, (ModSrc.flat ['e'] false [.use (Url.flat ['t'] false) .dflt [(['p', '-', 'y'], 8)]])] ['e']).res
      = some .withNotDefault ∧
    resErr (run .now [srcA, srcMidP, srcTop, (ModSrc.flat ['e'] false [.use (Url.flat ['t'] false) .dflt [(['p', '-', 'z'], 8)]])] ['e']).res
      = none := by decide +kernel

-- only nested `!default` declarations of `$x` (a style rule, a mixin called while loading): `with ($x: …)` is rejected;
-- with a top-level one beside them it is accepted and the nested declaration sees the configured value
private def srcTheme (top : Bool) : ModSrc :=
  ModSrc.flat ['t'] false ((if top then [.var ['x'] 1 true] else []) ++ [.nested 1 0 ['x'] 2, .nested 2 3 ['x'] 3, .dbg, .css])
example : cannotConsume [srcTheme false] 1 (Url.flat ['t'] false) (some ['x']) = true ∧
    resErr (run .now [srcTheme false, ModSrc.flat ['e'] false [.use (Url.flat ['t'] false) .dflt [(['x'], 8)]]] ['e']).res
      = some .withNotDefault ∧
    (run .now [srcTheme false, ModSrc.flat ['e'] false [.use (Url.flat ['t'] false) .dflt []]] ['e']).st.trace.take 2
      = [.probe 1 (.val 2), .probe 2 (.val 3)] ∧
    (run .now [srcTheme true, ModSrc.flat ['e'] false [.use (Url.flat ['t'] false) .dflt [(['x'], 8)]]] ['e']).st.trace.take 2
      = [.probe 1 (.val 8), .probe 2 (.val 8)] := by decide +kernel

-- … and through `@forward … with`: `a` has `$x`, `$z` with `!default` and a plain `$y`.
--   with ($y: 7 !default) takes the outer `$y`, `a` cannot: error at the @forward;  with ($x: 7) sets `$x` itself, so an
--   outer `$x` is never used: error at the @use;  an outer `$z` is copied through and taken by `a`: fine.
private def srcFw (ws : List (Ident × Val × Bool)) : ModSrc := (ModSrc.flat ['m'] false [.forward (Url.flat ['a'] false) ⟨none, .all⟩ ws])
example : cannotConsume [srcA, srcFw [(['y'], 7, true)]] 2 (Url.flat ['m'] false) (some ['y']) = true ∧
    resErr (run .now [srcA, srcFw [(['y'], 7, true)], (ModSrc.flat ['e'] false [.use (Url.flat ['m'] false) .dflt [(['y'], 8)]])] ['e']).res
      = some .withNotDefault ∧
    cannotConsume [srcA, srcFw [(['x'], 7, false)]] 2 (Url.flat ['m'] false) (some ['x']) = true ∧
    resErr (run .now [srcA, srcFw [(['x'], 7, false)], (ModSrc.flat ['e'] false [.use (Url.flat ['m'] false) .dflt [(['x'], 8)]])] ['e']).res
      = some .withNotDefault ∧
    cannotConsume [srcA, srcFw [(['x'], 7, false)]] 2 (Url.flat ['m'] false) (some ['z']) = false ∧
    resErr (run .now [srcA, srcFw [(['x'], 7, false)], (ModSrc.flat ['e'] false [.use (Url.flat ['m'] false) .dflt [(['z'], 8)]])] ['e']).res
      = none := by decide +kernel

/-! ## `@import` of plain sheets and `meta.load-css`

  `runX` = `run` on the project after inclusion (`expandProj`), so (1)–(7) above hold for projects
  with `@import` / `load-css` as well; stated here for the entry points the driver uses. -/

/-- **Loads once, with `@import` and `load-css`.** However often sheets are included, and for both
    variants of `load-css`, no module starts evaluation twice. -/
theorem C12_x_loads_once (xsw : XSwitches) (xp : XProject) (entry : Ident) :
    (runX xsw xp entry).st.entered.Nodup := by
  unfold runX
  split
  · exact C12_loads_once _ _ _
  · exact List.nodup_nil

/-- **CSS once, with `@import` and `load-css`** (`wf` of the included project: the driver checks it). -/
theorem C12_x_once_holds (xsw : XSwitches) (xp : XProject) (entry : Ident)
    (hwf : (expandProj xsw.loadCssIsImport xp).wf = true) :
    onceOK (runX xsw xp entry).st.entered (cssOf (runX xsw xp entry).st.trace) = true := by
  unfold runX
  split
  · exact C12_once_holds _ _ _ hwf
  · decide

theorem C12_x_fuel_suffices (xsw : XSwitches) (xp : XProject) (entry : Ident) :
    (runX xsw xp entry).res ≠ .error .outOfFuel := by
  unfold runX
  split
  · exact C12_fuel_suffices _ _ _
  · simp

/-- **`@import` is inclusion.** An `@import` that resolves to a plain sheet (no `@use`/`@forward`,
    no syntax error, not being imported already) stands for the statements of that sheet, with the
    sheet pushed on the import stack. -/
theorem C12_import_is_inclusion (asFound : Bool) (xp : XProject) (fuel : Nat) (stack : List Ident) (u : Url) (f : XSrc)
    (hres : resolveX xp u = some f) (hparse : f.parseError = false) (hstack : stack.contains f.name = false)
    (hsheet : f.sheet = true) (hok : f.body.all sheetStmtOK = true) (hplain : f.body.any XStmt.isLoad = false) :
    expandStmts asFound xp (fuel + 1) stack [.imp u] = expandStmts asFound xp fuel (f.name :: stack) f.body := by
  simp only [expandStmts, List.flatMap_cons, List.flatMap_nil, List.append_nil, hres, hparse, hstack, hsheet, hok, hplain,
    Bool.not_true, Bool.or_self, Bool.false_eq_true, if_false]

/-- **Import cycles are errors.** An `@import` of a sheet that is being imported is the error
    `importLoop` ("This file is already being loaded.") at that point: nothing of it is evaluated,
    and the statements after it are not reached. -/
theorem C12_import_cycle_is_error (sw : Switches) (loadF : LoadF) (asFound : Bool) (xp : XProject) (fuel : Nat)
    (stack : List Ident) (u : Url) (f : XSrc) (rest : List XStmt) (env : Env) (cfg : Cfg) (st : St)
    (hres : resolveX xp u = some f) (hparse : f.parseError = false) (hstack : stack.contains f.name = true) :
    evalStmts sw loadF (expandStmts asFound xp (fuel + 1) stack (.imp u :: rest)) env cfg st
      = ⟨st, .error .importLoop⟩ := by
  simp only [expandStmts, List.flatMap_cons, hres, hparse, hstack, Bool.false_eq_true, if_false, if_true,
    List.cons_append, List.nil_append, evalStmts, step, ImpErr.toErr]

/-- **`load-css` as specified exposes nothing.** Whatever the loaded module declares, forwards or
    uses, the environment (variables, functions, mixins, namespaces, `as *` modules, forwards) and
    the configuration of the caller are unchanged. -/
theorem C12_loadcss_spec_no_leak (sw : Switches) (loadF : LoadF) (url : Url) (withs : List (Ident × Val))
    (env env' : Env) (cfg cfg' : Cfg) (st : St)
    (h : (step sw loadF (.loadCssSpec url withs) env cfg st).res = .ok (env', cfg')) : env' = env ∧ cfg' = cfg := by
  simp only [step] at h
  split at h
  · cases h
  · split at h <;> cases h
    exact ⟨rfl, rfl⟩

/-- **`load-css` as specified loads like `@use … with`.** Same loader call (same cache, same active
    set, same configuration), hence the same shared state afterwards; and it fails whenever the
    `@use` would fail for a reason other than its namespace (`$with` naming a variable that is not
    `!default`, unknown, or of a module already loaded; a module loop; a missing file). -/
theorem C12_loadcss_spec_like_use (sw : Switches) (loadF : LoadF) (url : Url) (ns : UseNs) (withs : List (Ident × Val))
    (env : Env) (cfg : Cfg) (st : St) :
    (step sw loadF (.loadCssSpec url withs) env cfg st).st = (step sw loadF (.use url ns withs) env cfg st).st ∧
    (∀ r, (step sw loadF (.use url ns withs) env cfg st).res = .ok r →
      (step sw loadF (.loadCssSpec url withs) env cfg st).res = .ok (env, cfg)) := by
  simp only [step]
  generalize (if withs.isEmpty = true then Cfg.empty else ({ base := withs, layers := [], explicit := true } : Cfg)) = c0
  cases hr : (loadF url c0 st).res with
  | error e => exact ⟨rfl, by intro r h; cases h⟩
  | ok r =>
    obtain ⟨id, c1⟩ := r
    simp only
    cases addModule sw env ns url.base id (loadF url c0 st).st.mods with
    | error e =>
      refine ⟨?_, by intro r h; cases h⟩
      split <;> rfl
    | ok env' =>
      simp only
      split
      · exact ⟨rfl, by intro r h; cases h⟩
      · exact ⟨rfl, fun _ _ => rfl⟩

/-- **`load-css` as specified cannot configure a loaded module**: `$with` for a sheet that is
    already in the cache is an error, as for `@use` (`C12_with_after_load_is_error`). -/
theorem C12_loadcss_spec_with_after_load_is_error (sw : Switches) (proj : Project) (fuel : Nat) (url : Url)
    (withs : List (Ident × Val)) (env : Env) (cfg : Cfg) (st : St) (src : ModSrc) (id : Nat)
    (hres : resolve proj url = some src) (hloaded : findLoaded st.mods src.name = some id) (hw : withs ≠ []) :
    ∃ e, (step sw (load sw proj (fuel + 1)) (.loadCssSpec url withs) env cfg st).res = .error e := by
  obtain ⟨r, hl, hr⟩ := load_of_loaded sw proj fuel url ⟨withs, [], true⟩ st hres hloaded
  have hne : withs.isEmpty = false := by cases withs with
    | nil => exact absurd rfl hw
    | cons _ _ => rfl
  simp only [step, hne, Bool.false_eq_true, if_false, hl]
  cases r with
  | error e => exact ⟨e, rfl⟩
  | ok x =>
    cases hr x rfl
    have : (⟨withs, [], true⟩ : Cfg).leftover = true := by simp [Cfg.leftover, Cfg.isEmpty, layersEmpty, hne]
    simp only [this, if_true]
    exact ⟨_, rfl⟩

private def xB : XSrc := ⟨['b'], [['b']], false, [.base (.var ['x'] 1 true), .base .dbg, .base .css]⟩
/-- sheet `s`: `@use "b"; $y: 5 !default; p7 { r: $y }` -/
private def xS : XSrc := ⟨['s'], [['s']], true,
  [.base (.use (Url.flat ['b'] false) .dflt []), .base (.var ['y'] 5 true), .base (.probe 7 false .var none ['y'])]⟩
private def xMain (body : List XStmt) : XSrc := ⟨['e'], [['e']], false, body⟩
private def lc (w : List (Ident × Val)) : XStmt := .loadCss (Url.flat ['s'] false) w

/-- Witnesses of known finding C12-loadCssIsImport (meta.rs:62-64).  As found, `load-css`
    (1) makes the members of the sheet visible to the caller (`$y` readable after the call; as
    specified: undefined variable), (2) adds the namespaces of the sheet's `@use` rules to the caller,
    so a second `load-css` of the same sheet fails with `nsExists` (as specified: fine, nothing is
    evaluated again), (3) ignores `$with` (`$y` stays 5; as specified a `!default` variable takes the
    configured value — and a `$with` naming nothing configurable is an error). -/
theorem C12_asFound_loadcss_is_import :
    (resErr (runX .now [xB, xS, xMain [lc [], .base (.probe 1 false .var none ['y'])]] ['e']).res = none ∧
      resErr (runX .spec [xB, xS, xMain [lc [], .base (.probe 1 false .var none ['y'])]] ['e']).res = some .undefVar) ∧
    (resErr (runX .now [xB, xS, xMain [lc [], lc []]] ['e']).res = some .nsExists ∧
      resErr (runX .spec [xB, xS, xMain [lc [], lc []]] ['e']).res = none ∧
      (runX .spec [xB, xS, xMain [lc [], lc []]] ['e']).st.entered = [['e'], ['s'], ['b']]) ∧
    ((runX .now [xB, xS, xMain [lc [(['y'], 9)]]] ['e']).st.trace.getLast? = some (.probe 7 (.val 5)) ∧
      (runX .spec [xB, xS, xMain [lc [(['y'], 9)]]] ['e']).st.trace.getLast? = some (.probe 7 (.val 9)) ∧
      resErr (runX .now [xB, xS, xMain [lc [(['q'], 9)]]] ['e']).res = none ∧
      resErr (runX .spec [xB, xS, xMain [lc [(['q'], 9)]]] ['e']).res = some .withNotDefault) := by
  refine ⟨⟨?_, ?_⟩, ⟨?_, ?_, ?_⟩, ⟨?_, ?_, ?_, ?_⟩⟩ <;> decide +kernel

-- non-vacuity: an import that is an inclusion, an import cycle, a load-css (specified) that succeeds
private def xT : XSrc := ⟨['t'], [['t']], true, [.base (.var ['z'] 3 false), .imp (Url.flat ['t'] false)]⟩
example : resolveX [xB, xT] (Url.flat ['t'] false) = some xT ∧ xT.parseError = false ∧ xT.sheet = true ∧
    xT.body.all sheetStmtOK = true ∧ xT.body.any XStmt.isLoad = false ∧ ([['e']] : List Ident).contains xT.name = false ∧
    ([['t'], ['e']] : List Ident).contains xT.name = true := by decide +kernel
example : resErr (runX .now [xB, xT, xMain [.imp (Url.flat ['t'] false)]] ['e']).res = some .importLoop ∧
    (XProject.ok [xB, xS, xMain [lc []]]) = true ∧ (expandProj true [xB, xS, xMain [lc []]]).wf = true := by decide +kernel
example : resErr (step .spec (load .spec (expandProj false [xB, xS, xMain []]) 4) (.loadCssSpec (Url.flat ['s'] false) [(['y'], 9)])
    (Env.new ['e']) Cfg.empty ⟨[], [['e']], [['e']], []⟩).res = none := by decide +kernel

end Grass.Module
