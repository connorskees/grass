import Grass.Cli
/-
  C20 — The command-line tool mirrors the library and signals failure correctly.

  PARTIAL by design: the theorems are about the model of `main` (Grass/Cli.lean) and are small;
  the assurance is mostly the tie (tools/props/c20.py runs the built binary against the library
  on the same inputs).  The operating-system side (exit status delivery, pipes, file
  permissions, clap's own parsing) is outside the model.
-/
namespace Grass.Cli

/-! ### flags → Options -/

/-- Each flag sets exactly its documented option: `--style` the style, `-I` the load paths in the
    order given, `-q` quiet, `--no-unicode` ⇒ `unicode_error_messages(false)`, `--no-charset` ⇒
    `allows_charset(false)`; nothing else is touched. -/
theorem C20_optionsOf_spec (f : Flags) :
    optionsOf true f =
      { style := f.style, loadPaths := f.loadPaths, quiet := f.quiet,
        unicodeErrorMessages := !f.noUnicode, allowsCharset := !f.noCharset } := by
  simp [optionsOf]

theorem C20_optionsOf_default :
    optionsOf true {} = { style := .expanded, loadPaths := [], quiet := false,
                          unicodeErrorMessages := true, allowsCharset := true } := by
  decide +kernel

/-- The variant that forgets the two negations is distinguishable: the spec theorem has content. -/
theorem C20_unnegated_variant_differs :
    ∃ f, optionsOf false f ≠ optionsOf true f := ⟨{}, by decide⟩

example : optionsOf true { style := .compressed, loadPaths := ["a", "b"], quiet := true, noUnicode := true } =
    { style := .compressed, loadPaths := ["a", "b"], quiet := true, unicodeErrorMessages := false, allowsCharset := true } := by
  decide +kernel

/-- The flag → `Options` map read off the table of builder calls of main.rs:229-234 (regenerated from the
    source) is the hand-written one: every call present, each reading its own argument, negations as written. -/
theorem C20_optionsOf_table_driven (f : Flags) :
    optionsOfWith generated.optionCalls f = some (optionsOf true f) := by
  simp [optionsOfWith, generated, Grass.CliTable.optionCalls, readsOf, boolCall, flagVal, optionsOf, List.find?]

example : optionsOfWith generated.optionCalls { quiet := true, noUnicode := true } =
    some { style := .expanded, loadPaths := [], quiet := true, unicodeErrorMessages := false, allowsCharset := true } := by
  decide +kernel

/-! ### the table -/

/-- The table the model runs on (`spec`, written by hand from the documented command line) equals
    the one `tools/translate_cli.py` regenerates from crates/lib/src/main.rs on every run (arguments
    with all their clap attributes, the `Options` builder calls, which positional is INPUT/OUTPUT,
    how the output is opened, the order of `main`'s effectful expressions).  A new, renamed,
    re-defaulted or re-wired flag in main.rs makes this theorem fail. -/
theorem C20_parse_table_driven :
    spec = generated ∧ ∀ (asFound : Bool) (argv : List String), parseArgv asFound argv = parseArgvWith generated asFound argv := by
  have h : spec = generated := by decide +kernel
  exact ⟨h, fun b argv => by unfold parseArgv; rw [h]⟩

example : parseArgvWith generated false ["-qscompressed", "-I=x", "in.scss"] =
    .ok ⟨{ style := .compressed, loadPaths := ["x"], quiet := true }, some "in.scss", none⟩ := by decide +kernel

/-- What the table says about repetition: only `-I` or `--load-path` (clap `Append`) may be given more than once. -/
theorem C20_table_repeatable :
    repeatable spec "LOAD_PATH" = true ∧ repeatable spec "STDIN" = false ∧ repeatable spec "STYLE" = false ∧
    repeatable spec "QUIET" = false ∧ repeatable spec "NO_CHARSET" = false ∧ repeatable spec "NO_UNICODE" = false := by decide +kernel

theorem C20_tokenize_documented :
    tokenize "--stdin" = [.stdin] ∧ tokenize "--no-charset" = [.noCharset] ∧ tokenize "--no-unicode" = [.noUnicode] ∧
    tokenize "--quiet" = [.quiet] ∧ tokenize "-q" = [.quiet] ∧
    tokenize "--style" = [.style] ∧ tokenize "-s" = [.style] ∧ tokenize "-t" = [.style] ∧
    tokenize "--load-path" = [.loadPath] ∧ tokenize "-I" = [.loadPath] ∧
    tokenize "--style=compressed" = [.styleEq "compressed"] ∧ tokenize "--load-path=a b" = [.loadPathEq "a b"] ∧
    tokenize "-Ilib" = [.loadPathEq "lib"] ∧ tokenize "-I=lib" = [.loadPathEq "lib"] ∧
    tokenize "-qscompressed" = [.quiet, .styleEq "compressed"] ∧
    tokenize "in.scss" = [.word "in.scss"] ∧ tokenize "-" = [.word "-"] ∧
    tokenize "--frob" = [.unknownLong] ∧ tokenize "-x" = [.unknownLong] ∧ tokenize "--quiet=1" = [.unknownLong] ∧
    tokenize "--indented" = [.outside] ∧ tokenize "--help" = [.outside] ∧ tokenize "-v" = [.outside] := by decide +kernel

/-- `--style` accepts exactly the two values of main.rs's `ValueEnum`, in any letter case. -/
theorem C20_style_values :
    styleOfValue "expanded" = some .expanded ∧ styleOfValue "compressed" = some .compressed ∧
    styleOfValue "COMPRESSED" = some .compressed ∧ styleOfValue "Expanded" = some .expanded ∧
    styleOfValue "nested" = none ∧ styleOfValue "" = none ∧ styleOfValue "compact" = none := by decide +kernel

theorem styleOfValue_expanded : styleOfValue "expanded" = some .expanded := C20_style_values.1
theorem styleOfValue_compressed : styleOfValue "compressed" = some .compressed := C20_style_values.2.1
theorem initState_spec : initStateWith spec = some {} := by decide +kernel

/-- The positional rules read off the table (`required_unless_present("STDIN")` on INPUT,
    `conflicts_with("STDIN")` on OUTPUT, main.rs:237-244 for which is which) are the hand-written ones. -/
theorem assignWith_spec (f : Flags) (ps : List String) : assignWith spec f ps = assign false f ps := by
  have hpos : spec.args.filter Grass.CliTable.ArgSpec.positional =
      [{ id := "INPUT", requiredUnless := ["STDIN"] }, { id := "OUTPUT", conflicts := ["STDIN"] }] := by decide +kernel
  unfold assignWith
  rw [hpos]
  rcases ps with _ | ⟨a, _ | ⟨b, _ | ⟨c, ps⟩⟩⟩ <;> cases h : f.stdin <;>
    simp [assign, assignAsFound, assignSpecStdin, presentOf, lookupBound, spec, h]

theorem C20_positionals_table_driven (f : Flags) (ps : List String) :
    assignWith generated f ps = assign false f ps := by
  rw [← C20_parse_table_driven.1]; exact assignWith_spec f ps

theorem parseToks_eq (asFound : Bool) (toks : List Tok) :
    parseToks asFound toks = match parseLoop spec toks {} with
      | .error e => e
      | .ok st => assign asFound st.flags st.positionals := by
  unfold parseToks parseToksWith
  rw [initState_spec]
  cases asFound <;> simp [assignWith_spec] <;> rfl

/-! ### reading the command line -/

theorem parseLoop_loadPaths (lps : List String) : ∀ (rest : List Tok) (st : PState),
    parseLoop spec (lps.flatMap (fun p => [Tok.loadPath, Tok.word p]) ++ rest) st =
      parseLoop spec rest { st with flags := { st.flags with loadPaths := st.flags.loadPaths ++ lps } } := by
  induction lps with
  | nil => intro rest st; simp
  | cons p ps ih =>
    intro rest st
    simp only [List.flatMap_cons, List.cons_append, List.nil_append, parseLoop, addLoadPath, C20_table_repeatable.1]
    simp only [Bool.not_true, Bool.and_false, Bool.false_eq_true, if_false]
    rw [ih]
    simp [List.append_assoc]

theorem parseLoop_words (ws : List String) : ∀ (st : PState),
    parseLoop spec (ws.map Tok.word) st = .ok { st with positionals := st.positionals ++ ws } := by
  induction ws with
  | nil => intro st; simp [parseLoop]
  | cons w ws ih => intro st; simp [parseLoop, ih, List.append_assoc]

theorem parseLoop_render (f : Flags) (ps : List String) :
    parseLoop spec (renderToks f ps) {} =
      .ok { flags := f, styleSeen := decide (f.style = .compressed), positionals := ps } := by
  obtain ⟨si, sty, lps, nc, q, nu⟩ := f
  unfold renderToks
  cases si <;> cases sty <;> cases nc <;> cases q <;> cases nu <;>
    simp [parseLoop, setStyle, show styleOfValueWith spec "compressed" = some .compressed from styleOfValue_compressed,
      C20_table_repeatable, parseLoop_loadPaths, parseLoop_words]

/-- **Round trip** (the code as it stands).  Parsing the canonical command line of a set of flags
    without `--stdin` gives back those flags (each flag read as itself, load-path order kept), the
    input and the output. -/
theorem C20_parse_render (f : Flags) (h : f.stdin = false) (input : String) (output : Option String) :
    parseToks false (renderToks f (input :: output.toList)) = .ok ⟨f, some input, output⟩ := by
  rw [parseToks_eq, parseLoop_render]
  cases output <;> simp [assign, assignAsFound, h]

/-- With `--stdin`: no positional is needed; a single positional is the OUTPUT file; the source is
    stdin in both cases. -/
theorem C20_parse_render_stdin (f : Flags) (h : f.stdin = true) (output : Option String) :
    parseToks false (renderToks f output.toList) = .ok ⟨f, none, output⟩ ∧
    inputKind ⟨f, none, output⟩ = .stdin := by
  rw [parseToks_eq, parseLoop_render]
  cases output <;> simp [assign, assignSpecStdin, h, inputKind]

/-- With `--stdin` two positionals are a usage error (`OUTPUT` conflicts with `--stdin`). -/
theorem C20_stdin_two_positionals_usage (f : Flags) (h : f.stdin = true) (a b : String) :
    ∃ why, parseToks false (renderToks f [a, b]) = .usage why := by
  rw [parseToks_eq, parseLoop_render]
  exact ⟨"unexpected argument", by simp [assign, assignSpecStdin, h]⟩

/-- Without `--stdin` an input file is required (clap: `required_unless_present`). -/
theorem C20_input_required (f : Flags) (h : f.stdin = false) :
    ∃ why, parseToks false (renderToks f []) = .usage why := by
  rw [parseToks_eq, parseLoop_render]
  exact ⟨"INPUT required", by simp [assign, assignAsFound, h]⟩

example : parseToks false [.loadPath, .word "x", .styleEq "Compressed", .loadPathEq "y", .quiet, .word "in.scss", .word "out.css"] =
    .ok ⟨{ style := .compressed, loadPaths := ["x", "y"], quiet := true }, some "in.scss", some "out.css"⟩ := by decide +kernel
example : parseToks false [.quiet, .quiet, .word "in.scss"] = .usage "flag given twice" := by decide +kernel
example : parseToks false [.style, .word "nested", .word "in.scss"] = .usage "invalid style value" := by decide +kernel
example : parseToks false [.style, .quiet, .word "in.scss"] = .usage "missing value" := by decide +kernel
-- the string-level classifier, evaluated (not a proof; tied to the binary by the correspondence run)
#guard parseArgv false ["-I", "x", "--style=Compressed", "-Iy", "-q", "in.scss", "out.css"] ==
  .ok ⟨{ style := .compressed, loadPaths := ["x", "y"], quiet := true }, some "in.scss", some "out.css"⟩
#guard parseArgv false ["--load-path=a b", "-t", "EXPANDED", "--no-unicode", "--no-charset", "--stdin"] ==
  .ok ⟨{ stdin := true, loadPaths := ["a b"], noUnicode := true, noCharset := true }, none, none⟩
#guard parseArgv false ["--stdin", "out.css"] == .ok ⟨{ stdin := true }, none, some "out.css"⟩
#guard parseArgv false ["--stdin", "a", "b"] == .usage "unexpected argument"
#guard parseArgv true ["--stdin", "out.css"] == .ok ⟨{ stdin := true }, some "out.css", none⟩
#guard parseArgv false ["--indented", "in.scss"] == .unsupported
#guard parseArgv false ["--", "--stdin"] == .ok ⟨{}, some "--stdin", none⟩
#guard parseArgv false ["-I", "--", "in.scss"] == .usage "missing value"
#guard parseArgv false ["-I", "-", "in.scss"] == .ok ⟨{ loadPaths := ["-"] }, some "in.scss", none⟩
#guard parseArgv false ["-x", "in.scss"] == .usage "unexpected argument"
#guard parseArgvRaw false [none, some "in.scss"] == .usage "invalid UTF-8"
#guard parseArgv false ["--frob", "in.scss"] == .usage "unexpected argument"
#guard renderArgv { stdin := true, style := .compressed, loadPaths := ["p", "q"], quiet := true } [] ==
  ["--stdin", "--style", "compressed", "-I", "p", "-I", "q", "--quiet"]

/-- As found on the pinned tree (before fix c1728ad), a positional after `--stdin` was the INPUT
    file (stdin was then never read) — there was no way to name an output file together with
    `--stdin`; the last conjunct is the code as it stands. -/
theorem C20_asFound_stdin_positional_is_input (f : Flags) (h : f.stdin = true) (out : String) :
    parseToks true (renderToks f [out]) = .ok ⟨f, some out, none⟩ ∧
    inputKind ⟨f, some out, none⟩ = .file ∧
    parseToks false (renderToks f [out]) = .ok ⟨f, none, some out⟩ := by
  simp only [parseToks_eq, parseLoop_render]
  simp [assign, assignAsFound, assignSpecStdin, h, inputKind]

/-! ### what a run does with the library's result -/

/-- On a compile or I/O error of the library: non-zero exit, nothing on stdout, the rendered
    error (plus newline) on stderr after the warnings, and no CSS in the output file (it is left
    empty — the file was created/truncated before compiling). -/
theorem C20_err_exit_nonzero_no_stdout (f : Flags) (i : InputKind) (o : OutputKind) (r w : String) :
    let out := outcome f i o (.err r w)
    out.exitZero = false ∧ out.stdout = "" ∧ (out.file = none ∨ out.file = some "") ∧
    (o ≠ .fileUnopenable → out.stderr = [.text w, .text (r ++ "\n")]) := by
  cases o <;> simp [outcome]

/-- On success: exit 0, the CSS — exactly the library's string — goes to the chosen sink and
    only there. -/
theorem C20_ok_exit_zero_css_to_sink (f : Flags) (i : InputKind) (css w : String) :
    (let out := outcome f i .stdout (.ok css w); out.exitZero = true ∧ out.stdout = css ∧ out.file = none) ∧
    (let out := outcome f i .file (.ok css w); out.exitZero = true ∧ out.stdout = "" ∧ out.file = some css) := by
  simp [outcome]

/-- Warnings never reach the CSS: stdout and the output file are the same whatever the logger
    wrote, and what it wrote is on stderr (first, because it is written while compiling). -/
theorem C20_warnings_not_in_css (f : Flags) (i : InputKind) (o : OutputKind) (w₁ w₂ : String) :
    (∀ css, (outcome f i o (.ok css w₁)).stdout = (outcome f i o (.ok css w₂)).stdout ∧
            (outcome f i o (.ok css w₁)).file = (outcome f i o (.ok css w₂)).file) ∧
    (∀ r, (outcome f i o (.err r w₁)).stdout = (outcome f i o (.err r w₂)).stdout ∧
          (outcome f i o (.err r w₁)).file = (outcome f i o (.err r w₂)).file) ∧
    (o ≠ .fileUnopenable → ∀ lib, (outcome f i o lib).stderr.head? = some (.text lib.warnings)) := by
  refine ⟨fun css => ?_, fun r => ?_, fun h lib => ?_⟩
  · cases o <;> simp [outcome]
  · cases o <;> simp [outcome]
  · cases o <;> cases lib <;> simp_all [outcome, LibResult.warnings]

theorem C20_unopenable_output (f : Flags) (i : InputKind) (lib : LibResult) :
    outcome f i .fileUnopenable lib = { exitZero := false, stdout := "", stderr := [.osError], file := none } := by
  simp [outcome]

/-- Unreadable (non-UTF-8) stdin: non-zero exit, nothing on stdout, no CSS in the output file. -/
theorem C20_stdin_unreadable (o : OutputKind) :
    (outcomeStdinUnreadable o).exitZero = false ∧ (outcomeStdinUnreadable o).stdout = "" ∧
    (outcomeStdinUnreadable o).stderr = [.osError] ∧
    ((outcomeStdinUnreadable o).file = none ∨ (outcomeStdinUnreadable o).file = some "") := by
  cases o <;> simp [outcomeStdinUnreadable]

/-- `outcome` does not look at where the source came from (its definition ignores the argument); what the
    input kind changes in a run of `main` is in `C20_runMain_is_outcome`. -/
theorem C20_input_kind_irrelevant (f : Flags) (o : OutputKind) (lib : LibResult) :
    outcome f .file o lib = outcome f .stdin o lib := by
  cases o <;> cases lib <;> rfl

/-! ### a sink whose writes fail (I/O error while delivering the CSS) -/

theorem C20_outcomeIO_no_failure (b : Bool) (f : Flags) (i : InputKind) (o : OutputKind) (lib : LibResult) :
    outcomeIO b f i o lib false = outcome f i o lib := by
  simp [outcomeIO]

/-- **The code as it stands** (`flushChecked = true`: `main` flushes the sink and propagates the
    error, main.rs:280 since fix cea0756) behaves as specified: whenever there is
    CSS to deliver and the sink cannot take it, the exit status is non-zero, the operating-system
    error is on stderr (after the warnings), and nothing is reported as delivered. -/
theorem C20_sink_failure_exit_nonzero (f : Flags) (i : InputKind) (o : OutputKind) (css w : String)
    (ho : o ≠ .fileUnopenable) (hc : (css == "") = false) :
    let out := outcomeIO true f i o (.ok css w) true
    out.exitZero = false ∧ out.stderr = [.text w, .osError] ∧ out.stdout = "" ∧ out.file = none := by
  cases o <;> simp_all [outcomeIO]

/-- A library error is reported the same way whether or not the sink works (nothing is written). -/
theorem C20_sink_failure_lib_error (b : Bool) (f : Flags) (i : InputKind) (o : OutputKind) (r w : String)
    (ho : o ≠ .fileUnopenable) :
    let out := outcomeIO b f i o (.err r w) true
    out.exitZero = false ∧ out.stdout = "" ∧ out.stderr = [.text w, .text (r ++ "\n")] := by
  cases o <;> simp_all [outcomeIO]

/-- Where the variant found on the pinned tree (no flush) differs from the code as it stands:
    exactly for non-empty CSS without a newline and shorter than stdout's buffer, sent to a
    failing stdout. -/
theorem C20_asFound_differs_iff (f : Flags) (i : InputKind) (o : OutputKind) (lib : LibResult) (sf : Bool) :
    outcomeIO false f i o lib sf ≠ outcomeIO true f i o lib sf ↔
      (sf = true ∧ o = .stdout ∧ ∃ css w, lib = .ok css w ∧ unterminatedSmall css = true) := by
  constructor
  · intro h
    cases sf
    · simp [outcomeIO] at h
    · cases o <;> cases lib <;> simp_all [outcomeIO]
      rename_i css w
      by_cases hs : unterminatedSmall css = true
      · exact hs
      · simp_all
  · rintro ⟨rfl, rfl, css, w, rfl, hs⟩
    have hne : (css == "") = false := by
      unfold unterminatedSmall at hs
      simp only [Bool.and_eq_true, bne_iff_ne, ne_eq] at hs
      simpa using hs.1.1
    simp [outcomeIO, hs, hne]

/-- As found on the pinned tree (before fix cea0756): `a{b:c}` (compressed output, 6 bytes, no
    newline) to a full stdout exits 0 with an empty stderr although nothing was delivered — the
    clause "on any I/O error it exits non-zero, prints the error on stderr" fails; the repaired
    code (`flushChecked = true`) exits non-zero. -/
theorem C20_asFound_unflushed_stdout_swallows_error :
    (outcomeIO false {} .file .stdout (.ok "a{b:c}" "") true).exitZero = true ∧
    (outcomeIO false {} .file .stdout (.ok "a{b:c}" "") true).stderr = [.text ""] ∧
    (outcomeIO true {} .file .stdout (.ok "a{b:c}" "") true).exitZero = false := by
  simp [outcomeIO, unterminatedSmall]
  decide

example : outcomeIO false {} .file .stdout (.ok "a {\n  b: c;\n}\n" "") true =
    { exitZero := false, stdout := "", stderr := [.text "", .osError], file := none } := by
  simp [outcomeIO, unterminatedSmall]
#guard agrees (outcomeIO true {} .file .file (.ok "a{b:c}" "W\n") true) ⟨1, "", "W\nError: Os { code: 28 }", none⟩
#guard !agrees (outcomeIO true {} .file .stdout (.ok "a{b:c}" "") true) ⟨0, "", "", none⟩
#guard agrees (outcomeIO false {} .file .stdout (.ok "a{b:c}" "") true) ⟨0, "", "", none⟩

/-- P̂ accepts exactly the model's own outcome (sanity of the oracle the driver evaluates). -/
theorem C20_agrees_outcome (f : Flags) (i : InputKind) (o : OutputKind) (lib : LibResult) (h : o ≠ .fileUnopenable) :
    agrees (outcome f i o lib)
      ⟨if (outcome f i o lib).exitZero then 0 else 1, (outcome f i o lib).stdout,
       stderrText (outcome f i o lib), (outcome f i o lib).file⟩ = true := by
  cases o <;> cases lib <;> simp_all [outcome, agrees, stderrText]

example : outcome {} .file .stdout (.err "Error: x" "Warning: w\n") =
    { exitZero := false, stdout := "", stderr := [.text "Warning: w\n", .text "Error: x\n"], file := none } := by decide +kernel
example : agrees (outcome {} .file .file (.ok "a{b:c}" "")) ⟨0, "", "", some "a{b:c}"⟩ = true := by decide +kernel
example : agrees (outcome {} .file .stdout (.ok "a{b:c}" "")) ⟨0, "a{b:c}Warning", "", none⟩ = false := by decide +kernel
example : agrees (outcome {} .file .stdout (.err "E" "")) ⟨0, "", "E\n", none⟩ = false := by decide +kernel

/-! ### `main` as a sequence of effects; every error path -/

theorem writeSteps_ok {sinkFails : Bool} {css : String} (h : sinkFails = false ∨ css = "") :
    writeSteps sinkFails css = ([.write true, .flush true], true) := by
  cases h with
  | inl h => simp [writeSteps, h]
  | inr h => simp [writeSteps, h]

theorem writeSteps_fails {sinkFails : Bool} {css : String} (hs : sinkFails = true) (hc : css ≠ "") :
    writeSteps sinkFails css = ([.write false], false) := by
  simp [writeSteps, hs, hc]

/-- The six ways `main` ends, in the order in which the code decides between them: the output cannot be
    opened (as it stands: before anything else), stdin is not UTF-8, the library fails, the output cannot be
    opened (specified order: after compiling), the CSS is written, the sink refuses it.  `t` says whether the
    library saw a truncated input. -/
inductive RunEnds (openFirst : Bool) (i : InputKind) (e : Env) (t : Bool) : Run → Prop
  | openFails : openFirst = true → e.output = .fileUnopenable →
      RunEnds openFirst i e t
        { steps := [.openOutput false, .returnErr, .exit 1], exitCode := 1, stdout := "", stderr := [.osError],
          file := none, inputDestroyed := false }
  | stdinFails : (openFirst && e.output == .fileUnopenable) = false → i = .stdin → e.stdinUtf8 = false →
      RunEnds openFirst i e t
        { steps := (if openFirst && e.output != .stdout then [.openOutput true] else []) ++
            [.readStdin false, .returnErr, .exit 1],
          exitCode := 1, stdout := "", stderr := [.osError],
          file := if openFirst && e.output != .stdout then some "" else none, inputDestroyed := false }
  | libErr {r w : String} : (openFirst && e.output == .fileUnopenable) = false → (i == .stdin && !e.stdinUtf8) = false →
      e.libOf t = .err r w →
      RunEnds openFirst i e t
        { steps := (if openFirst && e.output != .stdout then [.openOutput true] else []) ++
            (if i == .stdin then [.readStdin true] else []) ++ [.compile t, .logged w, .reportError, .exit 1],
          exitCode := 1, stdout := "", stderr := [.text w, .text (r ++ "\n")],
          file := if openFirst && e.output != .stdout then some "" else none, inputDestroyed := t }
  | lateOpenFails {css w : String} : openFirst = false → e.output = .fileUnopenable → (i == .stdin && !e.stdinUtf8) = false →
      e.libOf t = .ok css w →
      RunEnds openFirst i e t
        { steps := (if i == .stdin then [.readStdin true] else []) ++
            [.compile t, .logged w] ++ [.openOutput false, .returnErr, .exit 1],
          exitCode := 1, stdout := "", stderr := [.text w, .osError], file := none, inputDestroyed := false }
  | written {css w : String} : e.output ≠ .fileUnopenable → (i == .stdin && !e.stdinUtf8) = false →
      e.libOf t = .ok css w → (e.sinkFails = false ∨ css = "") →
      RunEnds openFirst i e t
        { steps := (if openFirst && e.output != .stdout then [.openOutput true] else []) ++
            (if i == .stdin then [.readStdin true] else []) ++ [.compile t, .logged w] ++
            (if !openFirst && e.output != .stdout then [.openOutput true] else []) ++ [.write true, .flush true, .exit 0],
          exitCode := 0, stdout := if e.output != .stdout then "" else if e.sinkFails then "" else css,
          stderr := [.text w],
          file := if e.output != .stdout then (if e.sinkFails then none else some css) else none, inputDestroyed := t }
  | writeFails {css w : String} : e.output ≠ .fileUnopenable → (i == .stdin && !e.stdinUtf8) = false →
      e.libOf t = .ok css w → e.sinkFails = true → css ≠ "" →
      RunEnds openFirst i e t
        { steps := (if openFirst && e.output != .stdout then [.openOutput true] else []) ++
            (if i == .stdin then [.readStdin true] else []) ++ [.compile t, .logged w] ++
            (if !openFirst && e.output != .stdout then [.openOutput true] else []) ++ [.write false, .returnErr, .exit 1],
          exitCode := 1, stdout := "", stderr := [.text w, .osError], file := none, inputDestroyed := t }

/-- **`main` ends in one of the six ways**, `t` being whether OUTPUT named the INPUT file and was truncated
    before it was read. -/
theorem runMain_ends (openFirst : Bool) (i : InputKind) (e : Env) :
    RunEnds openFirst i e (openFirst && e.output == .file && e.outputIsInput && i == .file) (runMain openFirst i e) := by
  unfold runMain
  dsimp only
  refine iteInduction (fun ha => ?_) (fun ha => ?_)
  · simp only [Bool.and_eq_true, beq_iff_eq] at ha
    exact .openFails ha.1 ha.2
  rw [Bool.not_eq_true] at ha
  refine iteInduction (fun hb => ?_) (fun hb => ?_)
  · simp only [Bool.and_eq_true, beq_iff_eq, Bool.not_eq_true'] at hb
    exact .stdinFails ha hb.1 hb.2
  rw [Bool.not_eq_true] at hb
  cases hl : e.libOf (openFirst && e.output == .file && e.outputIsInput && i == .file) with
  | err r w => exact .libErr ha hb hl
  | ok css w =>
    dsimp only
    refine iteInduction (fun hd => ?_) (fun hd => ?_)
    · simp only [Bool.and_eq_true, beq_iff_eq, Bool.not_eq_true'] at hd
      obtain ⟨rfl, hu⟩ := hd
      exact .lateOpenFails rfl hu hb hl
    have ho : e.output ≠ .fileUnopenable := by
      cases openFirst <;> simp_all
    by_cases hw : e.sinkFails = false ∨ css = ""
    · simp only [writeSteps_ok hw, ↓reduceIte]
      rw [List.append_assoc]
      exact .written ho hb hl hw
    · have hw' : e.sinkFails = true ∧ css ≠ "" := by simpa using hw
      simp only [writeSteps_fails hw'.1 hw'.2, Bool.false_eq_true, ↓reduceIte]
      rw [List.append_assoc]
      exact .writeFails ho hb hl hw'.1 hw'.2

/-- Conversely, an ending whose conditions hold, for that same `t`, is the run. -/
theorem RunEnds.eq {openFirst : Bool} {i : InputKind} {e : Env} {r : Run}
    (h : RunEnds openFirst i e (openFirst && e.output == .file && e.outputIsInput && i == .file) r) :
    runMain openFirst i e = r := by
  unfold runMain
  cases h with
  | openFails ho hu => simp [ho, hu]
  | stdinFails ho hi hu =>
    simp [ho, hi, hu]
  | libErr ho hi hl =>
    simp [ho, hi, hl]
  | lateOpenFails ho hu hi hl =>
    subst ho
    simp only [Bool.false_and] at hl
    simp [hi, hl, hu]
  | written ho hi hl hw =>
    simp [ho, hi, hl, writeSteps_ok hw]
  | writeFails ho hi hl hs hc =>
    simp [ho, hi, hl, writeSteps_fails hs hc]

theorem RunEnds.getLast?_steps {openFirst : Bool} {i : InputKind} {e : Env} {t : Bool} {r : Run}
    (h : RunEnds openFirst i e t r) : r.steps.getLast? = some (.exit r.exitCode) := by
  cases h <;>
    simp only [List.getLast?_append, List.getLast?_cons_cons, List.getLast?_singleton, Option.some_or]

/-- The effect trace and the outcome function tell the same story: for the code as it stands
    (`openFirst = true`), a readable stdin and a working sink, the run's exit class, stdout, stderr and
    output file are `outcome` applied to the library's result — where the library saw a TRUNCATED input
    exactly when OUTPUT names the INPUT file. -/
theorem C20_runMain_is_outcome (f : Flags) (i : InputKind) (e : Env)
    (hs : i = .stdin → e.stdinUtf8 = true) (hk : e.sinkFails = false) :
    let r := runMain true i e
    let o := outcome f i e.output (e.libOf (e.output == .file && e.outputIsInput && i == .file))
    (r.exitCode == 0) = o.exitZero ∧ r.stdout = o.stdout ∧ r.stderr = o.stderr ∧ r.file = o.file := by
  rw [← Bool.true_and (e.output == .file)]
  match runMain true i e, runMain_ends true i e with
  | _, .openFails _ hu => simp [hu, outcome]
  | _, .stdinFails _ hi hu => simp [hs hi] at hu
  | _, .libErr ho _ hl =>
    rw [hl]
    cases hout : e.output <;> simp_all [outcome]
  | _, .written ho _ hl _ =>
    rw [hl]
    cases hout : e.output <;> simp_all [outcome]
  | _, .writeFails _ _ _ hsf _ => simp [hk] at hsf

/-- **Every error path** after clap (output cannot be opened, stdin not UTF-8, any library error, the
    sink refuses the CSS), in either order of opening: exit code exactly 1, nothing on stdout, no
    successful write, the output file untouched or empty — empty, with a working sink, exactly when
    the code opens it first (as it stands) and it could be opened. -/
theorem C20_error_paths (openFirst : Bool) (i : InputKind) (e : Env) :
    let r := runMain openFirst i e
    r.exitCode ≠ 0 →
      r.exitCode = 1 ∧ r.stdout = "" ∧ Step.write true ∉ r.steps ∧ (r.file = none ∨ r.file = some "") ∧
      (e.sinkFails = false → (r.file = some "" ↔ (openFirst = true ∧ e.output = .file))) := by
  match runMain openFirst i e, runMain_ends openFirst i e with
  | _, .openFails _ hu => simp [hu]
  | _, .stdinFails ho _ _ => cases hout : e.output <;> simp_all
  | _, .libErr ho _ _ => cases hout : e.output <;> simp_all
  | _, .lateOpenFails ho _ _ _ => simp [ho]
  | _, .written .. => simp
  | _, .writeFails _ _ _ hsf _ => simp [hsf]

/-- On success: exit 0, the last three effects are write, flush, exit 0, and the library's CSS is in the
    sink and nowhere else. -/
theorem C20_success_path (openFirst : Bool) (i : InputKind) (e : Env) (hk : e.sinkFails = false) :
    (runMain openFirst i e).exitCode = 0 →
      [Step.write true, .flush true, .exit 0] <:+ (runMain openFirst i e).steps ∧
      ∃ css w t, e.libOf t = .ok css w ∧ (runMain openFirst i e).stderr = [.text w] ∧
        ((e.output = .stdout ∧ (runMain openFirst i e).stdout = css ∧ (runMain openFirst i e).file = none) ∨
         (e.output = .file ∧ (runMain openFirst i e).stdout = "" ∧ (runMain openFirst i e).file = some css)) := by
  match runMain openFirst i e, runMain_ends openFirst i e with
  | _, .openFails .. => simp
  | _, .stdinFails .. => simp
  | _, .libErr .. => simp
  | _, .lateOpenFails .. => simp
  | _, .written ho _ hl _ =>
    intro _
    refine ⟨List.suffix_append _ _, _, _, _, hl, rfl, ?_⟩
    cases hout : e.output <;> simp_all
  | _, .writeFails .. => simp

/-- Order of effects, the code as it stands: when an OUTPUT is named, opening it is the FIRST effect
    (before stdin is read and before anything is compiled); every run ends with `exit` of its code. -/
theorem C20_order_of_effects (i : InputKind) (e : Env) :
    (e.output ≠ .stdout → (runMain true i e).steps.head? = some (.openOutput (e.output == .file))) ∧
    (∀ b, (runMain b i e).steps.getLast? = some (.exit (runMain b i e).exitCode)) := by
  refine ⟨fun h => ?_, fun b => ?_⟩
  · match runMain true i e, runMain_ends true i e with
    | _, .openFails _ hu => simp [hu]
    | _, .stdinFails ho _ _ => cases hout : e.output <;> simp_all
    | _, .libErr ho _ _ => cases hout : e.output <;> simp_all
    | _, .written ho _ _ _ => cases hout : e.output <;> simp_all
    | _, .writeFails ho _ _ _ _ => cases hout : e.output <;> simp_all
  · exact (runMain_ends b i e).getLast?_steps

/-- A usage error (unknown or repeated flag, bad or missing value, missing INPUT, too many
    positionals, a non-UTF-8 argument): clap exits 2 before `main` does anything. -/
theorem C20_usage_error_run (openFirst : Bool) (argv : List (Option String)) (e : Env) (why : String)
    (h : parseArgvRaw false argv = .usage why) :
    runCli openFirst argv e = some { steps := [.clapUsage, .exit 2], exitCode := 2, stdout := "", stderr := [.clapError],
                                     file := none, inputDestroyed := false } := by
  simp [runCli, h]

example : parseArgvRaw false [some "--frob", some "in.scss"] = .usage "unexpected argument" := by decide +kernel
example : parseArgvRaw false [some "in.scss", none] = .usage "invalid UTF-8" := by decide +kernel

/-- The whole tool, every failure: if `runCli` does not exit 0 then stdout is empty and the output file
    is untouched or empty. -/
theorem C20_cli_failure_no_stdout (openFirst : Bool) (argv : List (Option String)) (e : Env) (r : Run)
    (h : runCli openFirst argv e = some r) (hne : r.exitCode ≠ 0) :
    r.stdout = "" ∧ (r.file = none ∨ r.file = some "") ∧ (r.exitCode = 1 ∨ r.exitCode = 2) := by
  unfold runCli at h
  split at h
  · simp at h
  · simp at h; subst h; simp
  · simp at h; subst h
    have := C20_error_paths openFirst _ e hne
    exact ⟨this.2.1, this.2.2.2.1, Or.inl this.1⟩

/-- The specified order (compile, then open the output) and the order as it stands agree on exit code
    and stdout always, and on the output file of every successful run, as long as OUTPUT is not the INPUT file. -/
theorem C20_open_order_observable_only_on_failure (i : InputKind) (e : Env) (h : e.outputIsInput = false) :
    (runMain true i e).exitCode = (runMain false i e).exitCode ∧ (runMain true i e).stdout = (runMain false i e).stdout ∧
    ((runMain true i e).exitCode = 0 → (runMain true i e).file = (runMain false i e).file) := by
  by_cases hu : e.output = .fileUnopenable
  · rw [RunEnds.eq (.openFails rfl hu)]
    match runMain false i e, runMain_ends false i e with
    | _, .stdinFails .. => simp
    | _, .libErr .. => simp
    | _, .lateOpenFails .. => simp
    | _, .written ho .. => exact absurd hu ho
    | _, .writeFails ho .. => exact absurd hu ho
  · match runMain true i e, runMain_ends true i e with
    | _, .openFails _ hx => exact absurd hx hu
    | _, .stdinFails _ hi hx =>
      rw [RunEnds.eq (.stdinFails rfl hi hx)]
      simp
    | _, .libErr _ hi hl =>
      rw [RunEnds.eq (.libErr rfl hi (by simpa [h] using hl))]
      simp
    | _, .written ho hi hl hw =>
      rw [RunEnds.eq (.written ho hi (by simpa [h] using hl) hw)]
      simp
    | _, .writeFails ho hi hl hs hc =>
      rw [RunEnds.eq (.writeFails ho hi (by simpa [h] using hl) hs hc)]
      simp

/-- As found (known finding C20-output-is-input): `grass in.scss in.scss` opens — and truncates — the
    output BEFORE reading the input, so the library compiles an empty file: exit 0, the file is empty, the
    source is lost.  In the specified order the file receives the CSS of its former content. -/
theorem C20_asFound_output_is_input_destroys_source (e : Env) (css w : String)
    (ho : e.output = .file) (hi : e.outputIsInput = true) (hk : e.sinkFails = false)
    (hl : e.libOf false = .ok css w) (ht : e.libOf true = .ok "" "") :
    (runMain true .file e).exitCode = 0 ∧ (runMain true .file e).inputDestroyed = true ∧
    (runMain true .file e).file = some "" ∧ Step.compile true ∈ (runMain true .file e).steps ∧
    (runMain false .file e).inputDestroyed = false ∧ (runMain false .file e).file = some css := by
  obtain ⟨out, isIn, su, libOf, sf⟩ := e
  simp only at ho hi hk hl ht
  subst ho hi hk
  simp [runMain, hl, ht, writeSteps]

example : (runMain true .file { output := .file, outputIsInput := true, libOf := fun t => if t then .ok "" "" else .ok "a{b:c}" "" }).file = some "" := by
  decide +kernel
example : (runMain true .stdin { output := .file, stdinUtf8 := false, libOf := fun _ => .ok "x" "" }).steps =
    [.openOutput true, .readStdin false, .returnErr, .exit 1] := by decide +kernel
example : (runMain true .file { output := .stdout, libOf := fun _ => .err "Error: Is a directory (os error 21)\n" "" }).stderr =
    [.text "", .text "Error: Is a directory (os error 21)\n\n"] := by decide +kernel

/-! ### what `StdLogger` prints -/

theorem C20_renderLog_append (a b : List LogEvent) : renderLog (a ++ b) = renderLog a ++ renderLog b := by
  induction a with
  | nil => simp [renderLog]
  | cons x xs ih => simp [renderLog, ih, String.append_assoc]

/-- Two worlds that differ only in `outputIsInput` and in what a successful library call logged give runs with the same
    exit code, stdout and output file; what was logged is the first thing on stderr. -/
theorem runMain_warnings_irrelevant (openFirst : Bool) (i : InputKind) {e₁ e₂ : Env}
    (ho : e₂.output = e₁.output) (hu : e₂.stdinUtf8 = e₁.stdinUtf8) (hs : e₂.sinkFails = e₁.sinkFails) {css w₁ w₂ : String}
    (h₁ : ∀ t, e₁.libOf t = .ok css w₁) (h₂ : ∀ t, e₂.libOf t = .ok css w₂) :
    (runMain openFirst i e₁).exitCode = (runMain openFirst i e₂).exitCode ∧
    (runMain openFirst i e₁).stdout = (runMain openFirst i e₂).stdout ∧
    (runMain openFirst i e₁).file = (runMain openFirst i e₂).file ∧
    (Step.compile false ∈ (runMain openFirst i e₁).steps ∨ Step.compile true ∈ (runMain openFirst i e₁).steps →
      (runMain openFirst i e₁).stderr.head? = some (.text w₁)) := by
  match runMain openFirst i e₁, runMain_ends openFirst i e₁ with
  | _, .openFails a b =>
    rw [RunEnds.eq (e := e₂) (.openFails a (ho ▸ b))]
    simp
  | _, .stdinFails a b c =>
    rw [RunEnds.eq (e := e₂) (.stdinFails (ho ▸ a) b (hu ▸ c))]
    simp [ho]
  | _, .libErr _ _ hl => rw [h₁] at hl; cases hl
  | _, .lateOpenFails a b c hl =>
    rw [h₁] at hl; cases hl
    rw [RunEnds.eq (e := e₂) (.lateOpenFails a (ho ▸ b) (hu ▸ c) (h₂ _))]
    simp
  | _, .written a b hl d =>
    rw [h₁] at hl; cases hl
    rw [RunEnds.eq (e := e₂) (.written (ho ▸ a) (hu ▸ b) (h₂ _) (hs ▸ d))]
    simp [ho, hs]
  | _, .writeFails a b hl c d =>
    rw [h₁] at hl; cases hl
    rw [RunEnds.eq (e := e₂) (.writeFails (ho ▸ a) (hu ▸ b) (h₂ _) (hs ▸ c) d)]
    simp

/-- `@warn` / `@debug` output goes to stderr only: what `StdLogger` printed (the rendering of the Logger
    calls, in order) is the first thing on stderr, and exit code, stdout, the output file and the steps'
    shape do not depend on it; without Logger calls (`--quiet`: the evaluator makes none) nothing is printed. -/
theorem C20_log_to_stderr_only (openFirst : Bool) (i : InputKind) (out : OutputKind) (isIn su sf : Bool)
    (css : String) (evs₁ evs₂ : List LogEvent) :
    let r₁ := runMain openFirst i { output := out, outputIsInput := isIn, stdinUtf8 := su, sinkFails := sf, libOf := fun _ => libOk css evs₁ }
    let r₂ := runMain openFirst i { output := out, outputIsInput := isIn, stdinUtf8 := su, sinkFails := sf, libOf := fun _ => libOk css evs₂ }
    r₁.exitCode = r₂.exitCode ∧ r₁.stdout = r₂.stdout ∧ r₁.file = r₂.file ∧
    (Step.compile false ∈ r₁.steps ∨ Step.compile true ∈ r₁.steps → r₁.stderr.head? = some (.text (renderLog evs₁))) ∧
    renderLog [] = "" := by
  have h := runMain_warnings_irrelevant openFirst i
    (e₁ := ⟨out, isIn, su, fun _ => libOk css evs₁, sf⟩) (e₂ := ⟨out, isIn, su, fun _ => libOk css evs₂, sf⟩)
    rfl rfl rfl (fun _ => rfl) (fun _ => rfl)
  exact ⟨h.1, h.2.1, h.2.2.1, h.2.2.2, rfl⟩

#guard renderLog [⟨.warn, "ml.scss", 0, 6, "line1\nline2"⟩, ⟨.debug, "ml.scss", 1, 2, "x\ny"⟩] ==
  "Warning: line1\nline2\n    ./ml.scss:1:7\nml.scss:2 DEBUG: x\ny\n"
#guard agreesRun (runMain true .file { libOf := fun _ => libErr "Error: e\n" [⟨.warn, "a.scss", 2, 0, "w"⟩] })
  ⟨1, "", "Warning: w\n    ./a.scss:3:1\nError: e\n\n", none⟩
#guard !agreesRun (runMain true .file { libOf := fun _ => libOk "a{b:c}" [⟨.warn, "a.scss", 2, 0, "w"⟩] })
  ⟨0, "a{b:c}Warning: w\n    ./a.scss:3:1\n", "", none⟩
#guard (runCli true [some "--frob"] { libOf := fun _ => .ok "" "" }).map (·.exitCode) == some 2

end Grass.Cli
