import Grass.Lexer
/-
  C18 — The three input syntaxes and insignificant source variations agree.

  What is PROVED here is the part of the property that lives in the lexer and in identifier
  normalisation (crates/compiler/src/lexer.rs:128 `TokenLexer::next`, common.rs:131
  `Identifier::from_str`, parse/base.rs:135 `parse_identifier(normalize = true)`):

    * writing the newlines of a text as LF, CRLF, CR or FF does not change the token kinds the
      parsers see; one-byte styles keep every byte position, CRLF shifts them in the stated way;
    * the token buffer never contains CR or FF (so the `'\r'` arms of the scanners are dead);
    * a leading BOM is exactly one extra token;
    * identifier normalisation is idempotent, insensitive to exchanging `_` and `-`, and two names
      have the same normal form exactly when they are equal up to `_`/`-`;
    * `parse_identifier(normalize = true)` and `(normalize = false)` consume the same tokens and
      their texts have the same normal form.

  What is NOT a theorem (`C18_full` below): that the SCSS, indented and CSS *parsers* agree, and
  that whitespace/comments between tokens are insignificant — neither parser is modelled above the
  scanner layer.  Those clauses are checked metamorphically on the implementation
  (tools/props/c18.py) and the claim is partial.
-/
namespace Grass.Lexer

/-! ### the lexer -/

theorem normNL_cons (c : Char) (rest : List Char) : normNL (c :: rest) =
    if c = FF then LF :: normNL rest
    else if c = CR then
      match rest with
      | [] => [LF]
      | d :: rest' => if d = LF then LF :: normNL rest' else LF :: normNL (d :: rest')
    else c :: normNL rest := by
  rw [normNL.eq_def]; rfl

theorem lexFrom_cons (cur : Nat) (c : Char) (rest : List Char) : lexFrom cur (c :: rest) =
    if c = FF then ⟨LF, cur⟩ :: lexFrom (cur + 1) rest
    else if c = CR then
      match rest with
      | [] => [⟨LF, cur⟩]
      | d :: rest' =>
        if d = LF then ⟨LF, cur + 1⟩ :: lexFrom (cur + 2) rest'
        else ⟨LF, cur⟩ :: lexFrom (cur + 1) (d :: rest')
    else ⟨c, cur⟩ :: lexFrom (cur + c.utf8Size) rest := by
  rw [lexFrom.eq_def]; rfl

theorem kinds_lexFrom (n : Nat) (s : List Char) : kinds (lexFrom n s) = normNL s := by
  fun_induction lexFrom n s
  · simp [kinds, normNL]
  all_goals (rw [normNL_cons]; simp_all [kinds])

/-- The kinds the parsers see are the text with FF, CRLF and CR written as LF. -/
theorem C18_lex_kinds (s : List Char) : kinds (lex s) = normNL s := kinds_lexFrom 0 s

example : kinds (lex ['a', CR, LF, 'b', CR, 'c', FF]) = ['a', LF, 'b', LF, 'c', LF] := by decide

theorem lexFrom_cons_of_ne_CR (n : Nat) {c : Char} (rest : List Char) (h : c ≠ CR) :
    lexFrom n (c :: rest) = ⟨if c = FF then LF else c, n⟩ :: lexFrom (n + c.utf8Size) rest := by
  rw [lexFrom_cons, if_neg h]
  split
  · subst c; rfl
  · rfl

theorem kinds_cons (t : Tok) (ts : List Tok) : kinds (t :: ts) = t.kind :: kinds ts := rfl

theorem normNL_cons_of_ne_CR {c : Char} (rest : List Char) (h : c ≠ CR) :
    normNL (c :: rest) = (if c = FF then LF else c) :: normNL rest := by
  simpa only [kinds_lexFrom, kinds_cons] using congrArg kinds (lexFrom_cons_of_ne_CR 0 rest h)

theorem not_mem_normNL (s : List Char) : CR ∉ normNL s ∧ FF ∉ normNL s := by
  have h1 : CR ≠ LF := by decide
  have h2 : FF ≠ LF := by decide
  fun_induction normNL s
  all_goals simp_all [eq_comm]

/-- After lexing there is no CR and no FF left: every scanner arm on `'\r'` is dead code. -/
theorem C18_lex_no_cr_ff (s : List Char) : CR ∉ kinds (lex s) ∧ FF ∉ kinds (lex s) := by
  rw [C18_lex_kinds]; exact not_mem_normNL s

theorem normNL_of_clean (s : List Char) (h1 : CR ∉ s) (h2 : FF ∉ s) : normNL s = s := by
  induction s with
  | nil => rfl
  | cons c rest ih =>
    obtain ⟨hc, hr⟩ : c ≠ CR ∧ CR ∉ rest := by simpa [eq_comm] using h1
    obtain ⟨hf, hr'⟩ : c ≠ FF ∧ FF ∉ rest := by simpa [eq_comm] using h2
    rw [normNL_cons_of_ne_CR rest hc, if_neg hf, ih hr hr']

/-- Lexing is idempotent on kinds: re-lexing text that came out of the lexer changes nothing
    (`Lexer::new_from_string` on text assembled from tokens). -/
theorem C18_lex_idempotent (s : List Char) : kinds (lex (kinds (lex s))) = kinds (lex s) := by
  rw [C18_lex_kinds, C18_lex_kinds]
  exact normNL_of_clean _ (not_mem_normNL s).1 (not_mem_normNL s).2

example : kinds (lex (kinds (lex ['a', CR, LF, FF]))) = ['a', LF, LF] := by decide

/-! ### newline styles -/

theorem substNewlines_cons (k : NL) (c : Char) (r : List Char) :
    substNewlines k (c :: r) = if c = LF then k.chars ++ substNewlines k r else c :: substNewlines k r := rfl

/-- A newline of any kind is one LF token, positioned on its last byte; a lone CR must not be
    followed by LF. -/
theorem lexFrom_newline (k : NL) (n : Nat) (rest : List Char) (h : k = .cr → rest.head? ≠ some LF) :
    lexFrom n (k.chars ++ rest) = ⟨LF, n + (k.chars.length - 1)⟩ :: lexFrom (n + k.chars.length) rest := by
  have hcf : CR ≠ FF := by decide
  cases k
  case lf => exact lexFrom_cons_of_ne_CR n rest (by decide)
  case ff => exact lexFrom_cons_of_ne_CR n rest (by decide)
  case crlf =>
    show lexFrom n (CR :: LF :: rest) = _
    rw [lexFrom_cons, if_neg hcf, if_pos rfl]
    exact if_pos rfl
  case cr =>
    cases rest with
    | nil => rfl
    | cons d r =>
      have : d ≠ LF := by simpa using h rfl
      show lexFrom n (CR :: d :: r) = _
      rw [lexFrom_cons, if_neg hcf, if_pos rfl]
      exact if_neg this

theorem normNL_newline (k : NL) (rest : List Char) (h : k = .cr → rest.head? ≠ some LF) :
    normNL (k.chars ++ rest) = LF :: normNL rest := by
  simpa only [kinds_lexFrom, kinds_cons] using congrArg kinds (lexFrom_newline k 0 rest h)

theorem substNewlines_cr_head (k : NL) (s : List Char) (hk : k = .cr) : (substNewlines k s).head? ≠ some LF := by
  subst hk
  fun_cases substNewlines .cr s
  case case1 => nofun
  case case2 =>
    show some CR ≠ some LF
    decide
  case case3 d _ hd => simpa using hd

theorem normNL_subst (k : NL) (s : List Char) (h : CR ∉ s) : normNL (substNewlines k s) = normNL s := by
  fun_induction substNewlines k s
  case case1 => rfl
  case case2 rest ih =>
    rw [normNL_newline k _ (substNewlines_cr_head k rest), ih (List.not_mem_of_not_mem_cons h)]
    exact (normNL_newline .lf rest nofun).symm
  case case3 d rest _ ih =>
    have hd : d ≠ CR := (List.ne_of_not_mem_cons h).symm
    rw [normNL_cons_of_ne_CR _ hd, normNL_cons_of_ne_CR _ hd, ih (List.not_mem_of_not_mem_cons h)]

/-- **Newline invariance (kinds).**  For a text without CR, writing every LF as LF, CRLF, CR or
    FF gives the parsers the same token kinds. -/
theorem C18_lex_newline_invariant (k : NL) (s : List Char) (h : CR ∉ s) :
    kinds (lex (substNewlines k s)) = kinds (lex s) := by
  rw [C18_lex_kinds, C18_lex_kinds]; exact normNL_subst k s h

/-- The same for an arbitrary text: normalise its newlines, write them in any style, lex. -/
theorem C18_lex_newline_invariant_any (k : NL) (s : List Char) :
    kinds (lex (substNewlines k (normNL s))) = kinds (lex s) := by
  rw [C18_lex_newline_invariant k _ (not_mem_normNL s).1, C18_lex_kinds, C18_lex_kinds]
  exact normNL_of_clean _ (not_mem_normNL s).1 (not_mem_normNL s).2

example : kinds (lex (substNewlines .crlf ['a', LF, LF, 'b'])) = kinds (lex ['a', LF, LF, 'b']) := by decide
example : substNewlines .crlf ['a', LF, 'b'] = ['a', CR, LF, 'b'] := by decide

theorem lexFrom_subst_one_byte (k : NL) (hk : k ≠ .crlf) (s : List Char) (h : CR ∉ s) (n : Nat) :
    lexFrom n (substNewlines k s) = lexFrom n s := by
  fun_induction substNewlines k s generalizing n
  case case1 => rfl
  case case2 rest ih =>
    have hl : k.chars.length = 1 := by cases k <;> first | rfl | exact absurd rfl hk
    rw [lexFrom_newline k n _ (substNewlines_cr_head k rest), ih (List.not_mem_of_not_mem_cons h), hl]
    exact (lexFrom_newline .lf n rest nofun).symm
  case case3 d rest _ ih =>
    have hd : d ≠ CR := (List.ne_of_not_mem_cons h).symm
    rw [lexFrom_cons_of_ne_CR n _ hd, lexFrom_cons_of_ne_CR n _ hd, ih (List.not_mem_of_not_mem_cons h)]

/-- **Newline invariance (positions), one-byte styles.**  LF, CR and FF give identical tokens,
    byte positions included. -/
theorem C18_lex_positions_one_byte (k : NL) (hk : k ≠ .crlf) (s : List Char) (h : CR ∉ s) :
    lex (substNewlines k s) = lex s := lexFrom_subst_one_byte k hk s h 0

example : lex (substNewlines .ff ['a', LF, 'b']) = [⟨'a', 0⟩, ⟨LF, 1⟩, ⟨'b', 2⟩] := by decide

theorem lexFrom_subst_crlf (s : List Char) (h1 : CR ∉ s) (h2 : FF ∉ s) (n d : Nat) :
    lexFrom (n + d) (substNewlines .crlf s) = shiftFrom d (lexFrom n s) := by
  fun_induction substNewlines .crlf s generalizing n d
  case case1 => rfl
  case case2 rest ih =>
    have e : lexFrom n (LF :: rest) = ⟨LF, n⟩ :: lexFrom (n + 1) rest := lexFrom_newline .lf n rest nofun
    rw [lexFrom_newline .crlf _ _ nofun, e, shiftFrom, if_pos rfl,
      ← ih (List.not_mem_of_not_mem_cons h1) (List.not_mem_of_not_mem_cons h2)]
    show _ :: lexFrom (n + d + 2) _ = _ :: lexFrom (n + 1 + (d + 1)) _
    rw [show n + 1 + (d + 1) = n + d + 2 by omega]
    rfl
  case case3 c rest hl ih =>
    have hc : c ≠ CR := (List.ne_of_not_mem_cons h1).symm
    have hf : c ≠ FF := (List.ne_of_not_mem_cons h2).symm
    rw [lexFrom_cons_of_ne_CR _ _ hc, lexFrom_cons_of_ne_CR _ _ hc, if_neg hf, shiftFrom, if_neg hl,
      ← ih (List.not_mem_of_not_mem_cons h1) (List.not_mem_of_not_mem_cons h2)]
    rw [show n + c.utf8Size + d = n + d + c.utf8Size by omega]

/-- **Newline invariance (positions), CRLF.**  Every token moves right by the number of newlines
    before it; a newline token by one more (its position is the LF byte of the pair). -/
theorem C18_lex_positions_crlf (s : List Char) (h1 : CR ∉ s) (h2 : FF ∉ s) :
    lex (substNewlines .crlf s) = shiftFrom 0 (lex s) := by
  have := lexFrom_subst_crlf s h1 h2 0 0
  simpa [lex] using this

example : lex (substNewlines .crlf ['a', LF, 'b', LF]) = [⟨'a', 0⟩, ⟨LF, 2⟩, ⟨'b', 3⟩, ⟨LF, 5⟩] := by decide

/-- The per-input predicate the driver evaluates (`lex nlcheck`) holds for every text and style. -/
theorem C18_nlInvariantAt (k : NL) (s : List Char) : nlInvariantAt k s = true := by
  have hc := (not_mem_normNL s).1
  have hf := (not_mem_normNL s).2
  unfold nlInvariantAt
  simp only [Bool.and_eq_true, beq_iff_eq]
  refine ⟨C18_lex_newline_invariant k _ hc, ?_⟩
  by_cases hk : k = .crlf
  · subst hk; simp [C18_lex_positions_crlf _ hc hf]
  · have e := C18_lex_positions_one_byte k hk _ hc
    simp [hk, e]

/-! ### byte-order mark -/

def BOM : Char := Char.ofNat 0xFEFF

/-- A leading BOM is exactly one extra token (which `__parse` skips with `scan_char`,
    stylesheet.rs:197); the rest lexes as without it, three bytes further right. -/
theorem C18_bom_prefix (s : List Char) :
    lex (BOM :: s) = ⟨BOM, 0⟩ :: lexFrom 3 s ∧ kinds (lex (BOM :: s)) = BOM :: kinds (lex s) := by
  have e : lex (BOM :: s) = ⟨BOM, 0⟩ :: lexFrom 3 s := lexFrom_cons_of_ne_CR 0 s (by decide)
  exact ⟨e, by rw [e, kinds_cons, kinds_lexFrom, C18_lex_kinds]⟩

example : (lex (BOM :: ['a'])).map (·.pos) = [0, 3] := by decide

/-! ### the column by which a loud comment is re-indented -/

theorem lastLine_newline (k : NL) (r acc : List Char) :
    lastLine isLineBreak (k.chars ++ r) acc = lastLine isLineBreak r [] := by
  cases k <;> rfl

theorem lastLine_subst (k : NL) (s acc : List Char) :
    lastLine isLineBreak (substNewlines k s) acc = lastLine isLineBreak s acc := by
  fun_induction substNewlines k s generalizing acc
  case case1 => rfl
  case case2 rest ih =>
    rw [lastLine_newline, ih]
    exact (lastLine_newline .lf rest acc).symm
  case case3 d rest _ ih =>
    simp only [lastLine]
    split <;> exact ih _

/-- either the text has a line break (the accumulator is irrelevant) or it has none -/
theorem lastLine_acc (b : Char → Bool) (s : List Char) :
    (∀ acc, lastLine b s acc = lastLine b s []) ∨ (∀ acc, lastLine b s acc = acc.reverse ++ s) := by
  induction s with
  | nil => right; intro acc; simp [lastLine]
  | cons c r ih =>
    by_cases hc : b c = true
    · left; intro acc; simp [lastLine, hc]
    · rcases ih with ih | ih
      · left; intro acc; simp only [lastLine, hc, Bool.false_eq_true, ↓reduceIte]; rw [ih (c :: acc), ih [c]]
      · right; intro acc; simp only [lastLine, hc, Bool.false_eq_true, ↓reduceIte]; rw [ih (c :: acc)]; simp

/-- **The comment column as the code computes it is invariant under the newline style**:
    writing the line breaks before the comment as LF, CRLF, CR or FF does not change it. -/
theorem C18_commentColumn_newline_invariant (k : NL) (pre : List Char) :
    commentColumn false (substNewlines k pre) = commentColumn false pre := by
  simp only [commentColumn, Bool.false_eq_true, ↓reduceIte, lastLine_subst]

/-- ... and under a leading byte order mark. -/
theorem C18_commentColumn_bom (pre : List Char) :
    commentColumn false (BOMc :: pre) = commentColumn false pre := by
  have hb : isLineBreak BOMc = false := by decide
  simp only [commentColumn, Bool.false_eq_true, ↓reduceIte, lastLine, hb]
  rcases lastLine_acc isLineBreak pre with h | h
  · rw [h [BOMc]]
  · rw [h [BOMc], h []]; simp

example : commentColumn false (BOMc :: [' ', ' ']) = 2 ∧ commentColumn false ['a', CR, BOMc, ' '] = 1 := by decide

/-- **Witness (as found, fixed in /repo by e81c3e6).**  The column the pinned tree used — codemap's,
    which ends lines at LF only and counts a BOM — changes with the newline style and with a BOM:
    the same comment was re-indented differently. -/
theorem C18_asFound_commentColumn_depends_on_newline_style :
    commentColumn true (substNewlines .cr ['a', LF, ' ', ' ']) = 4 ∧ commentColumn true ['a', LF, ' ', ' '] = 2 ∧
    commentColumn true (Char.ofNat 0xFEFF :: [' ', ' ']) = 3 ∧ commentColumn true [' ', ' '] = 2 := by decide

example : commentColumn false (substNewlines .cr ['a', LF, ' ', ' ']) = 2 := by decide

/-! ### identifier normalisation -/

theorem normChar_idem (c : Char) : normChar (normChar c) = normChar c := by
  unfold normChar; split <;> simp_all

theorem normChar_swap (c : Char) : normChar (swapChar c) = normChar c := by
  unfold normChar swapChar
  by_cases h1 : c = '_'
  · subst h1; decide
  · by_cases h2 : c = '-'
    · subst h2; decide
    · simp [h1, h2]

theorem C18_ident_norm_idempotent (s : List Char) : identNorm (identNorm s) = identNorm s := by
  simp [identNorm, List.map_map, Function.comp_def, normChar_idem]

theorem C18_ident_norm_swap (s : List Char) : identNorm (identSwap s) = identNorm s := by
  simp [identNorm, identSwap, List.map_map, Function.comp_def, normChar_swap]

example : identNorm (identSwap ['a', '_', 'b', '-', 'c']) = ['a', '-', 'b', '-', 'c'] := by decide

theorem normChar_eq_iff (a b : Char) : normChar a = normChar b ↔ sameUpTo a b := by
  unfold normChar sameUpTo
  by_cases ha : a = '_' <;> by_cases hb : b = '_' <;> simp_all
  constructor
  · intro h; right; exact h.symm
  · rintro (h | h)
    · exact absurd h.symm hb
    · exact h.symm

/-- Two names have the same normal form exactly when they are equal up to `_`/`-`
    (same length, position-wise equal or both in {`_`, `-`}). -/
theorem C18_norm_eq_iff (a b : List Char) : identNorm a = identNorm b ↔ eqUpTo a b := by
  induction a generalizing b with
  | nil => cases b <;> simp [identNorm, eqUpTo]
  | cons x xs ih =>
    cases b with
    | nil => simp [identNorm, eqUpTo]
    | cons y ys =>
      have := ih ys
      simp only [identNorm, List.map_cons, List.cons.injEq, eqUpTo] at this ⊢
      rw [normChar_eq_iff, this]

example : eqUpTo ['a', '_', 'b'] ['a', '-', 'b'] := by decide
example : ¬ eqUpTo ['a', '_', 'b'] ['a', 'x', 'b'] := by decide

/-- Any mixed spelling: replacing *some* `_`/`-` by the other one keeps the normal form. -/
theorem C18_ident_norm_mixed (a b : List Char) (h : eqUpTo a b) : identNorm a = identNorm b :=
  (C18_norm_eq_iff a b).2 h

/-- The normal form contains no underscore (so the interner key is canonical). -/
theorem C18_ident_norm_no_underscore (s : List Char) : '_' ∉ identNorm s := by
  simp only [identNorm, List.mem_map, not_exists, not_and]
  intro c _ h
  unfold normChar at h
  split at h
  · exact absurd h (by decide)
  · rename_i hc; exact hc h

/-! ### normalising while scanning (`parse_identifier(normalize)`, base.rs:135) -/

theorem identNorm_reverse (l : List Char) : identNorm l.reverse = (identNorm l).reverse := by
  simp [identNorm]

theorem identNorm_append (a b : List Char) : identNorm (a ++ b) = identNorm a ++ identNorm b := by
  simp [identNorm]

/-- agreement of two scanner results up to the normal form of their texts -/
def agreeT : ResT → ResT → Prop
  | .ok j t, .ok j' t' => j = j' ∧ identNorm t' = identNorm t
  | .err e sp, .err e' sp' => e = e' ∧ sp = sp'
  | .unsupported, .unsupported => True
  | _, _ => False

theorem identNorm_cons (c : Char) (l : List Char) : identNorm (c :: l) = normChar c :: identNorm l := rfl

theorem agreeT_refl (r : ResT) : agreeT r r := by
  cases r <;> simp [agreeT]

theorem identBody_norm_agree (u : Bool) (s : Array Char) (i : Nat) (acc : List Char) :
    ∀ acc', identNorm acc' = identNorm acc → agreeT (identBody true u s i acc) (identBody false u s i acc') := by
  fun_induction identBody true u s i acc
  all_goals intro acc' hacc
  -- unfold the other scanner once and let it follow the same branch
  all_goals (conv => arg 2; rw [identBody])
  all_goals (simp only [*, ↓reduceDIte, ↓reduceIte, Bool.false_and, Bool.false_eq_true])
  case case2 ih | case5 ih => exact ih _ (by simp [identNorm_cons, hacc])
  case case4 i _ _ _ hu ih =>
    -- `_`: the normalising scanner pushes `-`, the other one takes it as a name character
    have hc : s[i] = '_' := by simpa using hu
    rw [hc, if_pos (by decide)]
    exact ih _ (by simp [identNorm_cons, hacc, normChar])
  case case6 hm ih =>
    rw [hm]
    exact ih _ (by simp [identNorm_append, hacc])
  case case7 hm => rw [hm]; exact ⟨rfl, rfl⟩
  case case8 hm => rw [hm]; trivial
  all_goals exact ⟨rfl, by rw [identNorm_reverse, identNorm_reverse, hacc]⟩

/-- `parse_identifier(normalize = true)` (variable names) and `(normalize = false)` consume exactly the
    same tokens, fail in exactly the same way, and the texts they return have the same normal form —
    so normalising while scanning and normalising in `Identifier::from` cannot disagree. -/
theorem C18_parse_ident_normalize_agree (u : Bool) (s : Array Char) (i : Nat) :
    agreeT (parseIdentifier true u s i) (parseIdentifier false u s i) := by
  fun_cases parseIdentifier true u s i
  all_goals (conv => arg 2; rw [parseIdentifier])
  all_goals (simp only [*, ↓reduceDIte, ↓reduceIte, Bool.false_and, Bool.false_eq_true])
  case case1 hd =>
    rw [if_pos ⟨hd.1, trivial⟩]
    exact identBody_norm_agree u s _ _ _ rfl
  case case2 a _ _ _ _ hu =>
    have hc : s[a] = '_' := by simpa using hu
    rw [hc, if_pos (by decide)]
    exact identBody_norm_agree u s _ _ _ rfl
  case case3 | case4 => exact identBody_norm_agree u s _ _ _ rfl
  all_goals exact agreeT_refl _

example : parseIdentifier true false "a_b-c:".toList.toArray 0 = .ok 5 "a-b-c".toList ∧
    parseIdentifier false false "a_b-c:".toList.toArray 0 = .ok 5 "a_b-c".toList := by decide +kernel

/-! ### what is proved of the whole property, in one statement -/

/-- **PARTIAL.**  The part of `C18_full` that is a theorem.
    MISSING for `C18_full`: agreement of the SCSS, indented and CSS parsers on the same program,
    rejection of Sass-only constructs in CSS mode, insignificance of whitespace and silent comments
    between tokens, `@charset` — no parser is modelled above the scanner layer; these clauses are
    TESTED metamorphically by tools/props/c18.py. -/
theorem C18_lexer_and_identifiers_partial (k : NL) (s a b : List Char) (u : Bool) (t : Array Char) (i : Nat) :
    nlInvariantAt k s = true ∧
    kinds (lex (substNewlines k (normNL s))) = kinds (lex s) ∧
    (identNorm a = identNorm b ↔ eqUpTo a b) ∧
    identNorm (identSwap a) = identNorm a ∧
    agreeT (parseIdentifier true u t i) (parseIdentifier false u t i) :=
  ⟨C18_nlInvariantAt k s, C18_lex_newline_invariant_any k s, C18_norm_eq_iff a b, C18_ident_norm_swap a,
   C18_parse_ident_normalize_agree u t i⟩

/-! ### the full property (not proved) -/

/-- The full statement of C18 over an abstract compiler.  `compile y src` is `some css` or `none`
    (failure).  `Prog` is the generator's program type with its two printers; `plainCss` holds of
    texts that use no Sass feature, `sassOnly` of texts that use one; `insignificant a b` is the
    rewrite relation generated by newline style, whitespace/silent comments between tokens,
    leading BOM / `@charset`, and `_`↔`-` in variable, function and mixin names.
    UNPROVED — checked metamorphically by tools/props/c18.py; the claim for C18 is partial. -/
def C18_full {Prog : Type} (compile : Syn → List Char → Option (List Char))
    (printScss printSass : Prog → List Char)
    (plainCss sassOnly : List Char → Prop) (insignificant : List Char → List Char → Prop) : Prop :=
  (∀ p, compile .scss (printScss p) = compile .sass (printSass p)) ∧
  (∀ t, plainCss t → compile .css t = compile .scss t) ∧
  (∀ t, sassOnly t → compile .css t = none) ∧
  (∀ y a b, insignificant a b → compile y a = compile y b)

end Grass.Lexer
