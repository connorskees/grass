import GrassProofs.Lemmas.Num
import GrassProofs.Lemmas.NumScan
/-
  C07 — Numbers are IEEE doubles with Sass rounding, modulo and printing rules.
  Property theorems about the model `Grass/Num.lean`.

  Conventions: a finite double is its exact rational value.  `…F` functions are the code as
  executed (every floating-point operation followed by `rnd53`); `…X` functions are the same
  formulas in exact arithmetic (the Sass rule).  Helper lemmas: `GrassProofs/Lemmas/Num.lean`.
-/
namespace Grass.Num

/-- the double a decimal literal denotes (used only to name concrete witnesses) -/
def dLit (s : String) : Rat := rnd53 ((parseLit s.toList).map Lit.value |>.getD 0)

/-! ## fuzzy equality (number.rs:40) -/

theorem C07_fuzzyEqF_refl (a : Rat) : fuzzyEqF a a = true := by
  simp [fuzzyEqF]
theorem C07_rnd53_neg (q : Rat) : rnd53 (-q) = -rnd53 q := by
  unfold rnd53
  by_cases h0 : q = 0
  · subst h0; simp
  · have : -q ≠ 0 := by grind
    simp only [h0, this, if_false]
    by_cases hn : q < 0
    · have : ¬ (-q < 0) := by grind
      simp [hn, this]
    · have : -q < 0 := by grind
      simp [hn, this]

theorem C07_fuzzyEqF_symm (a b : Rat) : fuzzyEqF a b = fuzzyEqF b a := by
  unfold fuzzyEqF
  have h1 : a - b = -(b - a) := by grind
  rw [h1, C07_rnd53_neg, absQ_neg]
  have h2 : (a == b) = (b == a) := BEq.comm
  rw [h2]
  congr 2
  exact BEq.comm
example : fuzzyEqF 1 (dLit "1.000000000001") = true ∧ fuzzyEqF 1 (dLit "1.00000000001") = false := by
  decide +kernel

/-- In exact arithmetic the rule is "same 10⁻¹¹ bucket": the `|a−b| ≤ ε` conjunct is implied. -/
theorem C07_fuzzyEqX_iff_bucket (a b : Rat) : fuzzyEqX a b = (bucket a == bucket b) :=
  fuzzyEqX_eq_bucket a b
/-- … hence an equivalence relation. -/
theorem C07_fuzzyEqX_equivalence : Equivalence (fun a b : Rat => fuzzyEqX a b = true) := by
  simp only [fuzzyEqX_eq_bucket, beq_iff_eq]
  exact ⟨fun _ => rfl, Eq.symm, Eq.trans⟩
example : fuzzyEqX 1 (1 + 1/1000000000000) = true ∧ fuzzyEqX 1 (1 + 1/100000000000) = false := by
  decide +kernel

/-- Transitivity of the relation *as executed in floating point* can only fail through the
    `|a − c| ≤ ε` conjunct: the bucket conjunct is transitive.  This is the exact guard. -/
theorem C07_fuzzyEqF_trans_guarded (a b c : Rat) (h1 : fuzzyEqF a b = true) (h2 : fuzzyEqF b c = true)
    (hg : absQ (rnd53 (a - c)) ≤ epsF) : fuzzyEqF a c = true := by
  have hb := (fuzzyEqF_bucket a b h1).trans (fuzzyEqF_bucket b c h2)
  unfold fuzzyEqF
  simp only [Bool.or_eq_true, Bool.and_eq_true, beq_iff_eq, decide_eq_true_eq]
  exact Or.inr ⟨hg, hb⟩
/-- Not claimed without the guard: stated here, not proved.  No counterexample exists among the extreme pairs of the
    buckets 0…3 (the only ones where the rounding of `a·10¹¹` at a binade border leaves a window against
    `ε = rnd53(10⁻¹¹) = 10⁻¹¹·(1 − 0.545·2⁻⁵³)`; checked numerically with exact rationals) and a targeted
    search found none; a proof needs an error analysis of the three roundings and is not done. -/
def C07_fuzzyEqF_transitive_full : Prop :=
  ∀ a b c : Rat, fuzzyEqF a b = true → fuzzyEqF b c = true → fuzzyEqF a c = true

/-! ## ordering consistent with equality (number.rs:79-85; value/mod.rs:341) -/

/-- Trichotomy of the specified ordering over `fuzzy_equals` as executed: exactly one of
    `a < b`, `a == b`, `b < a`. -/
theorem C07_trichotomyF (a b : Rat) :
    (fuzzyLt fuzzyEqF a b = true ∧ fuzzyEqF a b = false ∧ fuzzyLt fuzzyEqF b a = false) ∨
    (fuzzyLt fuzzyEqF a b = false ∧ fuzzyEqF a b = true ∧ fuzzyLt fuzzyEqF b a = false) ∨
    (fuzzyLt fuzzyEqF a b = false ∧ fuzzyEqF a b = false ∧ fuzzyLt fuzzyEqF b a = true) :=
  fuzzy_trichotomy fuzzyEqF C07_fuzzyEqF_refl C07_fuzzyEqF_symm a b

theorem C07_trichotomyX (a b : Rat) :
    (fuzzyLt fuzzyEqX a b = true ∧ fuzzyEqX a b = false ∧ fuzzyLt fuzzyEqX b a = false) ∨
    (fuzzyLt fuzzyEqX a b = false ∧ fuzzyEqX a b = true ∧ fuzzyLt fuzzyEqX b a = false) ∨
    (fuzzyLt fuzzyEqX a b = false ∧ fuzzyEqX a b = false ∧ fuzzyLt fuzzyEqX b a = true) :=
  fuzzy_trichotomy fuzzyEqX (fun a => C07_fuzzyEqX_equivalence.refl a)
    (fun a b => by rw [fuzzyEqX_eq_bucket, fuzzyEqX_eq_bucket]; exact BEq.comm) a b

/-- `<=` is `<` or `==`, and is the negation of the reversed `<`. -/
theorem C07_fuzzyLe_consistent (a b : Rat) :
    fuzzyLe fuzzyEqF a b = (fuzzyLt fuzzyEqF a b || fuzzyEqF a b) ∧
    fuzzyLe fuzzyEqF a b = !fuzzyLt fuzzyEqF b a := by
  refine ⟨?_, fuzzyLe_eq_not_lt fuzzyEqF C07_fuzzyEqF_refl C07_fuzzyEqF_symm a b⟩
  unfold fuzzyLe fuzzyLt
  cases decide (a < b) <;> cases fuzzyEqF a b <;> rfl

/-- `Value::cmp` as the code stands, on finite numbers: `Equal` when fuzzy-equal, else the IEEE order. -/
theorem C07_cmp_now (x y : Rat) :
    cmpD false (.fin x) (.fin y) =
      some (if fuzzyEqF x y = true then .eq else if x < y then .lt else .gt) := by
  have he : eqD (.fin x) (.fin y) = fuzzyEqF x y := by simp [eqD, D.toRat?]
  unfold cmpD
  simp only [D.isNan, Bool.or_self, Bool.false_eq_true, if_false, Bool.not_false, Bool.true_and, he]
  by_cases hf : fuzzyEqF x y = true
  · simp [hf]
  · simp only [hf]
    have hne : x ≠ y := by intro e; subst e; exact hf (C07_fuzzyEqF_refl x)
    simp only [D.lt, D.toRat?]
    by_cases h1 : x < y
    · simp [h1]
    · have h2 : y < x := by grind
      simp [h1, h2]

/-- The comparison of two finite numbers as the code stands (`cmpD false`, value/mod.rs:341) answers
    "equal" exactly when `==` does, so `<`/`==`/`>` cannot overlap. -/
theorem C07_cmp_specified_eq_iff (x y : Rat) :
    (cmpD false (.fin x) (.fin y) = some .eq) ↔ eqD (.fin x) (.fin y) = true := by
  rw [C07_cmp_now]
  show _ ↔ fuzzyEqF x y = true
  by_cases hf : fuzzyEqF x y = true
  · simp [hf]
  · have hf' : fuzzyEqF x y = false := by simpa using hf
    rw [hf']
    by_cases h : x < y <;> simp [h]

/-- **`<` and `<=` of the code as it stands are the tolerance-aware `fuzzy_less_than` /
    `fuzzy_less_than_or_equals`** — so the trichotomy and consistency theorems above
    (`C07_trichotomyF`, `C07_fuzzyLe_consistent`) are statements about the running code. -/
theorem C07_lt_le_now (x y : Rat) :
    cmpResult .lt (cmpD false (.fin x) (.fin y)) = fuzzyLt fuzzyEqF x y ∧
    cmpResult .le (cmpD false (.fin x) (.fin y)) = fuzzyLe fuzzyEqF x y ∧
    cmpResult .gt (cmpD false (.fin x) (.fin y)) = fuzzyLt fuzzyEqF y x ∧
    cmpResult .ge (cmpD false (.fin x) (.fin y)) = fuzzyLe fuzzyEqF y x := by
  rw [C07_cmp_now, fuzzyLe_eq_not_lt fuzzyEqF C07_fuzzyEqF_refl C07_fuzzyEqF_symm y x,
    fuzzyLt_rev fuzzyEqF C07_fuzzyEqF_refl C07_fuzzyEqF_symm x y]
  unfold fuzzyLt fuzzyLe cmpResult
  cases fuzzyEqF x y <;> by_cases h : x < y <;> simp [h]
example : cmpResult .lt (cmpD false (.fin 1) (.fin (dLit "1.000000000001"))) = false ∧
    cmpResult .le (cmpD false (.fin (dLit "1.000000000001")) (.fin 1)) = true ∧
    cmpResult .lt (cmpD false (.fin 1) (.fin (dLit "1.00000000002"))) = true := by decide +kernel

/-- **The variant found on the pinned tree** (fixed since, commit "<, <=, > and >= use the same
    tolerance as =="): the ordering was the exact IEEE order although `==` is fuzzy, so both
    `1 < 1.000000000001` and `1 == 1.000000000001` held; the code as it stands answers "equal". -/
theorem C07_asFound_order_overlaps_eq :
    cmpD true (.fin 1) (.fin (dLit "1.000000000001")) = some .lt ∧
    eqD (.fin 1) (.fin (dLit "1.000000000001")) = true ∧
    cmpD false (.fin 1) (.fin (dLit "1.000000000001")) = some .eq := by decide +kernel

/-! ## integer checks (number.rs:48) and round/ceil/floor -/

/-- `fuzzy_as_int` (exact rule) is sound: the answer is the nearest integer and lies within
    ½·10⁻¹¹ of the number. -/
theorem C07_fuzzyAsIntX_sound (x : Rat) (n : Int) (h : fuzzyAsInt fuzzyEqX x = some n) :
    n = roundHA x ∧ 2 * absQ (x - n) * invEps ≤ 1 := by
  unfold fuzzyAsInt at h
  simp only at h
  split at h
  · rename_i he
    injection h with h
    subst h
    refine ⟨rfl, ?_⟩
    rw [fuzzyEqX_eq_bucket, beq_iff_eq, bucket_intCast] at he
    have d := roundHA_dist (x * invEps)
    rw [← bucket, he, absQ_scaled] at d
    rwa [Rat.mul_assoc]
  · cases h
/-- … and complete: every number strictly within ½·10⁻¹¹ of an integer is that integer. -/
theorem C07_fuzzyAsIntX_complete (x : Rat) (n : Int) (h : 2 * absQ (x - n) * invEps < 1) :
    fuzzyAsInt fuzzyEqX x = some n := by
  have hr : roundHA x = n := by
    apply roundHA_eq_of_close
    have := absQ_nonneg (x - n)
    unfold invEps at h
    grind
  have hb : fuzzyEqX x (n : Rat) = true := by
    rw [fuzzyEqX_eq_bucket, beq_iff_eq, bucket_intCast]
    apply roundHA_eq_of_close
    rwa [absQ_scaled, ← Rat.mul_assoc]
  simp [fuzzyAsInt, hr, hb]
example : fuzzyAsInt fuzzyEqX (2 + 4/1000000000000) = some 2 ∧ fuzzyAsInt fuzzyEqX (2 + 1/100000000000) = none := by
  decide +kernel

/-- as executed: the answer is `round(x)` and is `==` to `x` -/
theorem C07_fuzzyAsIntF_sound (x : Rat) (n : Int) (h : fuzzyAsInt fuzzyEqF x = some n) :
    n = roundHA x ∧ fuzzyEqF x n = true := by
  unfold fuzzyAsInt at h
  simp only at h
  split at h
  · rename_i he; injection h with h; subst h; exact ⟨rfl, he⟩
  · cases h

/-- `round()` is the nearest integer (halves away from zero): within ½. -/
theorem C07_round_nearest (q : Rat) : 2 * absQ (q - (roundHA q : Int)) ≤ 1 := roundHA_dist q
theorem C07_round_int (k : Int) : roundHA (k : Rat) = k := roundHA_intCast k
/-- `floor`/`ceil` bracket the number within one unit -/
theorem C07_floor_ceil (q : Rat) :
    (q.floor : Rat) ≤ q ∧ q < (q.floor : Rat) + 1 ∧ q ≤ (ceilQ q : Rat) ∧ (ceilQ q : Rat) < q + 1 := by
  have h1 := Rat.floor_le q
  have h2 := Rat.lt_floor_add_one q
  have h3 := Rat.floor_le (-q)
  have h4 := Rat.lt_floor_add_one (-q)
  simp only [Rat.intCast_add] at h2 h4
  unfold ceilQ
  simp only [Rat.intCast_neg]
  refine ⟨h1, by simpa using h2, by grind, by grind⟩
example : roundHA (5/2) = 3 ∧ roundHA (-5/2) = -3 ∧ ceilQ (-1/2) = 0 ∧ (-1/2 : Rat).floor = -1 := by decide +kernel

/-- `nth` as the code stands checks the integer first: `nth(1 2 3, 3.000000000001)` is the third
    element; the variant found on the pinned tree compared the raw index with the length first. -/
theorem C07_asFound_nth_range_first :
    (match nthV true 3 (.fin (dLit "3.000000000001")) with | .error .badIdx => true | _ => false) = true ∧
    (match nthV false 3 (.fin (dLit "3.000000000001")) with | .ok (.num (.fin q)) => decide (q = 3) | _ => false) = true := by
  decide +kernel

/-- dormant (not reachable from Sass today, all callers pass non-negative channels):
    `fuzzy_round` floors every negative input because Rust's `%` truncates. -/
theorem C07_asFound_fuzzyRound_negative : fuzzyRoundX (-24/10) = -3 := by decide +kernel

/-! ## modulo (number.rs:378-398) -/

/-- Sass `%` in exact arithmetic: the result has the sign of the divisor (or is zero), is smaller in
    magnitude than the divisor and differs from the dividend by an integer multiple of the divisor. -/
theorem C07_modulo_sign (a b r : Rat) (hb : b ≠ 0) (h : moduloX a b = some r) :
    (0 < b → 0 ≤ r) ∧ (b < 0 → r ≤ 0) ∧ absQ r < absQ b ∧ ∃ k : Int, a = r + (k : Rat) * b :=
  modulo_sign a b r hb h
theorem C07_modulo_zero (a : Rat) : moduloX a 0 = none := by
  simp [moduloX]
example : moduloX 5 (-3) = some (-1) ∧ moduloX (-5) 3 = some 1 ∧ moduloX (11/2) (-2) = some (-1/2) := by
  decide +kernel

/-- Floating-point caveat, kernel-checked: as executed (`rem_euclid` rounds `r + |b|`) the strict
    bound `|r| < |b|` can degrade to equality: `-1e-20 % 3` is `3`. The sign law still holds there. -/
theorem C07_moduloD_rounding_edge :
    moduloD (.fin (dLit "-1e-20")) (.fin 3) = some (.fin 3) := by decide +kernel

/-! ## printing (serializer.rs:568, number.rs:265) -/

/-- **Exact value of the printed text**, both styles: re-parsing the text with the literal grammar
    of `parse_number` gives exactly `x` rounded (half-even) to 10 fractional digits. -/
theorem C07_print_parse_exact (compressed : Bool) (x : Rat) :
    ∃ l, parseLit (printFinite false compressed x) = some l ∧ l.value = round10 x := by
  obtain ⟨I0, F', p⟩ := printFinite_form compressed x
  rcases p.text with ⟨h, hz⟩ | ⟨h, hne, _⟩ <;> rw [h]
  · refine ⟨⟨false, ['0'], [], 0⟩, by decide, ?_⟩
    unfold round10
    rw [hz]
    split <;> decide +kernel
  · have hp := fun neg => parseBody_digits neg I0 F' p.intDigits p.fracDigits hne
    refine ⟨_, parse_signed_body (x < 0) _ (body_head I0 F' p.intDigits) _ hp, ?_⟩
    rw [lit_value_eq (decide (x < 0)) I0 F' (scaled10 x) p.value]
    unfold round10
    simp only [decide_eq_true_eq]

/-- **Correct rounding**: the printed text denotes a number within ½·10⁻¹⁰ of `x`. -/
theorem C07_print_correctly_rounded (compressed : Bool) (x : Rat) :
    ∃ l, parseLit (printFinite false compressed x) = some l ∧
      2 * absQ (l.value - x) * 10000000000 ≤ 1 := by
  obtain ⟨l, h1, h2⟩ := C07_print_parse_exact compressed x
  exact ⟨l, h1, by rw [h2]; exact round10_close x⟩

/-- the decidable predicate the driver evaluates on grass's text holds of the model's text -/
theorem C07_print_roundedOK (compressed : Bool) (x : Rat) :
    roundedOK x (printFinite false compressed x) = true := by
  obtain ⟨l, h1, h2⟩ := C07_print_correctly_rounded compressed x
  unfold roundedOK
  rw [h1]
  simpa using h2

/-- **Compressed and expanded spellings denote the same number.** -/
theorem C07_styles_same_value (x : Rat) :
    ∃ l₁ l₂, parseLit (printFinite false false x) = some l₁ ∧ parseLit (printFinite false true x) = some l₂ ∧
      l₁.value = l₂.value := by
  obtain ⟨l₁, a1, a2⟩ := C07_print_parse_exact false x
  obtain ⟨l₂, b1, b2⟩ := C07_print_parse_exact true x
  exact ⟨l₁, l₂, a1, b1, by rw [a2, b2]⟩
example : printFinite false false (dLit "-0.5") = "-0.5".toList ∧ printFinite false true (dLit "-0.5") = "-.5".toList ∧
    printFinite false false (dLit "-0.00000000004") = "0".toList ∧
    printFinite false true (dLit "0.99999999999") = "1".toList ∧
    printFinite false false (1/2048) = "0.0004882812".toList := by decide +kernel

/-- **Shape of the printed text**, both styles: plain decimal notation — optional `-`, digits, optional
    `.` followed by 1–10 digits the last of which is not `0`; no exponent, no `+`, at least one digit,
    and never a minus sign in front of an all-zero text (`-0`, `-0.0`, `-.0`). -/
theorem C07_print_shape (compressed : Bool) (x : Rat) :
    shapeOK (printFinite false compressed x) = true := by
  obtain ⟨I0, F', p⟩ := printFinite_form compressed x
  rcases p.text with ⟨h, _⟩ | ⟨h, hne, hnz⟩ <;> rw [h]
  · decide
  · exact shapeOK_body (x < 0) I0 F' p.intDigits p.fracDigits hne p.fracLen p.fracLast p.leadZero hnz
example : shapeOK "-0".toList = false ∧ shapeOK "1e3".toList = false ∧ shapeOK "+1".toList = false ∧
    shapeOK "0.50".toList = false ∧ shapeOK "0.12345678901".toList = false ∧ shapeOK "-.5".toList = true := by decide +kernel

/-- **No superfluous leading zero**: expanded style keeps exactly one `0` before the point, compressed
    style drops exactly the leading `0` of a number of magnitude below 1 (and nothing else). -/
theorem C07_print_lead (compressed : Bool) (x : Rat) :
    leadOK compressed (printFinite false compressed x) = true := by
  obtain ⟨I0, F', p⟩ := printFinite_form compressed x
  rcases p.text with ⟨h, _⟩ | ⟨h, _, _⟩ <;> rw [h]
  · exact lead_special compressed
  · rw [leadOK_eq, stripMinus_sign (x < 0) _ (body_head I0 F' p.intDigits)]
    exact leadB_body compressed I0 F' p.leadZero (fun hcomp h => p.noZeroCompressed hcomp h.1)
example : leadOK false "0.5".toList = true ∧ leadOK true "0.5".toList = false ∧ leadOK true ".5".toList = true ∧
    leadOK false "007".toList = false := by decide +kernel

/-- **Re-reading, characterised exactly** (exact arithmetic): the re-read number is `==` to `x`
    iff `x` lies in the 10⁻¹¹ bucket of its own 10-digit rounding, i.e. iff the bucket of `x` is ten
    times its scaled 10-digit value.  For every other `x` — those whose 11th fractional digit does
    not round away — Sass itself says printed and original differ (known finding D15). -/
theorem C07_reread_fuzzyEq_iff (compressed : Bool) (x : Rat) :
    rereadX x (printFinite false compressed x) = true ↔ d15ClassX x = false := by
  obtain ⟨l, h1, h2⟩ := C07_print_parse_exact compressed x
  unfold rereadX d15ClassX
  rw [h1]
  simp only [h2]
  rw [fuzzyEqX_eq_bucket]
  have hb : bucket (round10 x) = 10 * (if x < 0 then -(scaled10 x : Int) else (scaled10 x : Int)) := by
    unfold bucket round10 invEps
    have hs : ((scaled10 x : Nat) : Rat) / 10000000000 * 100000000000 = ((scaled10 x : Nat) : Rat) * 10 := by grind
    by_cases hx : x < 0
    · rw [if_pos hx, if_pos hx]
      have e : -(((scaled10 x : Nat) : Rat) / 10000000000) * 100000000000 = ((10 * -(scaled10 x : Int) : Int) : Rat) := by
        simp only [Rat.intCast_mul, Rat.intCast_neg, Rat.intCast_natCast]; grind
      rw [e, roundHA_intCast]
    · rw [if_neg hx, if_neg hx]
      have e : ((scaled10 x : Nat) : Rat) / 10000000000 * 100000000000 = ((10 * (scaled10 x : Int) : Int) : Rat) := by
        simp only [Rat.intCast_mul, Rat.intCast_natCast]; grind
      rw [e, roundHA_intCast]
  rw [hb]
  simp [BEq.comm]

/-- The last clause of the property is false of Sass's own rules — kernel-checked witness, floating
    point as executed: `0.12345678904` prints `0.123456789`, and re-reading that text gives a number
    that is not `==` to the original.  (Known finding D15; class predicate `d15Class`.) -/
theorem C07_asFound_reread_fails :
    printFinite false false (dLit "0.12345678904") = "0.123456789".toList ∧
    rereadF (dLit "0.12345678904") "0.123456789".toList = some false ∧
    d15Class (dLit "0.12345678904") = true ∧ d15ClassX (dLit "0.12345678904") = true := by decide +kernel

/-- the re-read clause as far as it holds: outside the characterised class re-reading succeeds -/
theorem C07_reread_partial (compressed : Bool) (x : Rat) (h : d15ClassX x = false) :
    rereadX x (printFinite false compressed x) = true := (C07_reread_fuzzyEq_iff compressed x).2 h
example : d15ClassX (dLit "0.5") = false ∧ d15ClassX (dLit "0.123456789") = false := by decide +kernel

/-- The variant found on the pinned tree (`format!(…)[1..]`, fixed since): compressed output of
    `0.99999999999` was `0`, eleven orders of magnitude off; the code as it stands prints `1`. -/
theorem C07_asFound_slice_prints_zero :
    printFinite true true (dLit "0.99999999999") = "0".toList ∧
    printFinite true true (dLit "-0.99999999999") = "0".toList ∧
    roundedOK (dLit "0.99999999999") (printFinite true true (dLit "0.99999999999")) = false ∧
    printFinite false true (dLit "0.99999999999") = "1".toList := by decide +kernel

/-! ## arithmetic is correctly rounded exact arithmetic (by construction of the model) -/

/-- `+` on finite doubles is the exact sum rounded once (`none` = result below the normal range). -/
theorem C07_add_rounded_exact (x y : Rat) : D.add (.fin x) (.fin y) = D.ofExact (x + y) false := rfl
theorem C07_mul_rounded_exact (x y : Rat) :
    D.mul (.fin x) (.fin y) = D.ofExact (x * y) (decide (x < 0) != decide (y < 0)) := rfl
/-- division by zero yields Infinity / NaN -/
theorem C07_div_zero (x : Rat) :
    D.div (.fin x) (.fin 0) = some (if x = 0 then .nan else if x < 0 then .ninf else .pinf) := by
  unfold D.div
  by_cases h0 : x = 0
  · subst h0; decide +kernel
  · by_cases hn : x < 0 <;> simp [D.isInf, D.isZero, D.isNeg, D.inf, h0, hn]
example : D.add (.fin (dLit "0.1")) (.fin (dLit "0.2")) = some (.fin (1351079888211149/4503599627370496)) ∧
    rnd53 (1/10) = 3602879701896397/36028797018963968 := by decide +kernel

/-- **`rnd53` is round-to-nearest to 53 significant bits** (unbounded exponent — the model guards the
    normal range separately): for every non-zero `q` the result is `±m·2^e` with `2^52 ≤ m ≤ 2^53` in the
    binade of `q`, within half a unit in the last place, and no multiple of `2^e` is nearer to `q`. -/
theorem C07_rnd53_nearest (q : Rat) (hq : q ≠ 0) :
    ∃ (m : Nat) (e : Int), absQ (rnd53 q) = (m : Rat) * pow2 e ∧ 4503599627370496 ≤ m ∧ m ≤ 9007199254740992 ∧
      pow2 (e + 52) ≤ absQ q ∧ absQ q < pow2 (e + 53) ∧ 2 * absQ (rnd53 q - q) ≤ pow2 e ∧
      ∀ j : Int, absQ (rnd53 q - q) ≤ absQ ((j : Rat) * pow2 e - absQ q) := rnd53_nearest q hq

theorem C07_rnd53_relative (q : Rat) (hq : q ≠ 0) : absQ (rnd53 q - q) * 9007199254740992 ≤ absQ q :=
  rnd53_relative q

/-- ties go to the even mantissa: `rndPosME` rounds the scaled quotient `N/D` with `divRoundEven` -/
theorem C07_rnd53_ties_even (N D : Nat) (h : 2 * (N % D) = D) : divRoundEven N D % 2 = 0 := by
  unfold divRoundEven
  simp only
  have h1 : ¬ 2 * (N % D) < D := by omega
  have h2 : ¬ D < 2 * (N % D) := by omega
  simp only [h1, h2, if_false]
  split <;> omega
example : rnd53 (9007199254740993 : Rat) = 9007199254740992 ∧ rnd53 (9007199254740995 : Rat) = 9007199254740996 := by
  decide +kernel

/-! ## the arithmetic clause as theorems about the model's `+ - * /` -/

/-- `+` inside the guard (finite, non-zero exact sum, result finite): the exact sum rounded ONCE to the
    nearest double, relative error ≤ 2⁻⁵³, inside the normal range. -/
theorem C07_add_correctly_rounded (x y r : Rat) (hne : x + y ≠ 0) (h : D.add (.fin x) (.fin y) = some (.fin r)) :
    r = rnd53 (x + y) ∧ absQ (r - (x + y)) * 9007199254740992 ≤ absQ (x + y) ∧ absQ r < pow2 1024 ∧ -1022 ≤ expOf r :=
  ofExact_fin (x + y) false r hne (by rw [← C07_add_rounded_exact]; exact h)
theorem C07_sub_correctly_rounded (x y r : Rat) (hy : y ≠ 0) (hne : x - y ≠ 0) (h : D.sub (.fin x) (.fin y) = some (.fin r)) :
    r = rnd53 (x - y) ∧ absQ (r - (x - y)) * 9007199254740992 ≤ absQ (x - y) ∧ absQ r < pow2 1024 ∧ -1022 ≤ expOf r :=
  ofExact_fin (x - y) false r hne (by rw [← sub_fin_fin x y hy]; exact h)
theorem C07_mul_correctly_rounded (x y r : Rat) (hne : x * y ≠ 0) (h : D.mul (.fin x) (.fin y) = some (.fin r)) :
    r = rnd53 (x * y) ∧ absQ (r - x * y) * 9007199254740992 ≤ absQ (x * y) ∧ absQ r < pow2 1024 ∧ -1022 ≤ expOf r :=
  ofExact_fin (x * y) _ r hne (by rw [← C07_mul_rounded_exact]; exact h)
theorem C07_div_correctly_rounded (x y r : Rat) (hy : y ≠ 0) (hne : x / y ≠ 0) (h : D.div (.fin x) (.fin y) = some (.fin r)) :
    r = rnd53 (x / y) ∧ absQ (r - x / y) * 9007199254740992 ≤ absQ (x / y) ∧ absQ r < pow2 1024 ∧ -1022 ≤ expOf r :=
  ofExact_fin (x / y) _ r hne (by rw [← div_fin_fin x y hy]; exact h)
example : D.div (.fin 1) (.fin 3) = some (.fin (6004799503160661/18014398509481984)) ∧
    D.sub (.fin (dLit "0.3")) (.fin (dLit "0.1")) = some (.fin (dLit "0.19999999999999998")) := by decide +kernel

/-- what the model refuses: exactly the non-zero results whose rounded value lies BELOW the normal range
    (answered `unsupported`, never guessed) … -/
theorem C07_arith_unsupported_iff (q : Rat) (z : Bool) :
    D.ofExact q z = none ↔ q ≠ 0 ∧ absQ (rnd53 q) < pow2 1024 ∧ expOf (rnd53 q) < -1022 := by
  unfold D.ofExact
  by_cases hq : q = 0
  · simp [hq]
  · rw [if_neg hq]
    unfold D.ofNonzero
    simp only
    split
    · rename_i h1; simp; intro _ h; grind
    · rename_i h1
      split
      · rename_i h2; simp [hq, h2]; grind
      · rename_i h2; simp; intro _ _; grind
/-- … while overflow is not refused: a result that rounds to 2¹⁰²⁴ or more is ±Infinity by its sign. -/
theorem C07_arith_overflow_infinity (q : Rat) (z : Bool) (hq : q ≠ 0) (h : pow2 1024 ≤ absQ (rnd53 q)) :
    D.ofExact q z = some (D.inf (decide (q < 0))) := by
  unfold D.ofExact
  rw [if_neg hq]
  unfold D.ofNonzero
  simp only
  rw [if_pos h]
example : D.mul (.fin (dLit "1e200")) (.fin (dLit "-1e200")) = some .ninf ∧
    D.mul (.fin (dLit "1e-200")) (.fin (dLit "1e-200")) = none := by decide +kernel

/-- division by NEGATIVE zero: the sign flips (`1 / -0` is `-Infinity`), `0 / -0` is NaN. -/
theorem C07_div_negzero (x : Rat) :
    D.div (.fin x) .nz = some (if x = 0 then .nan else if x < 0 then .pinf else .ninf) := by
  unfold D.div
  by_cases h0 : x = 0
  · subst h0; decide +kernel
  · by_cases hn : x < 0 <;> simp [D.isInf, D.isZero, D.isNeg, D.inf, h0, hn]
example : D.div .nz (.fin 0) = some .nan ∧ D.div .nz .nz = some .nan ∧ D.div .nz (.fin 2) = some .nz := by decide +kernel

/-- a finite number (negative zero included) is never printed as `-0`. -/
theorem C07_print_never_neg_zero (c : Bool) (q : Rat) :
    printD false c (.fin q) ≠ ['-', '0'] ∧ printD false c .nz ≠ ['-', '0'] := by
  have h2 : shapeOK ['-', '0'] = false := by decide +kernel
  refine ⟨fun h => ?_, by cases c <;> decide⟩
  have hs := C07_print_shape c q
  have h' : printFinite false c q = ['-', '0'] := h
  rw [h', h2] at hs
  exact Bool.noConfusion hs
example : printD false true .nz = ['0'] ∧ printD false false (.fin (dLit "-0.00000000001")) = ['0'] := by decide +kernel

/-! ## number literals: `parse_number` as a prefix scanner, decimal → double -/

/-- **A literal denotes the correctly rounded double of its decimal text** (any number of digits, any
    exponent spelling): inside the guard (non-zero value, finite result) the double is `rnd53` of the exact
    value — the nearest 53-bit value, ties to even (`C07_rnd53_nearest`, `C07_rnd53_ties_even`). -/
theorem C07_literal_correctly_rounded (l : Lit) (r : Rat) (hv : l.value ≠ 0) (h : litD l = some (.fin r)) :
    r = rnd53 l.value ∧ absQ (r - l.value) * 9007199254740992 ≤ absQ l.value ∧
    ∃ (m : Nat) (e : Int), absQ r = (m : Rat) * pow2 e ∧ 4503599627370496 ≤ m ∧ m ≤ 9007199254740992 ∧
      2 * absQ (r - l.value) ≤ pow2 e ∧ ∀ j : Int, absQ (r - l.value) ≤ absQ ((j : Rat) * pow2 e - absQ l.value) := by
  obtain ⟨h1, h2, _, _⟩ := ofExact_fin l.value l.neg r hv h
  obtain ⟨m, e, a, b, c, _, _, d, f⟩ := rnd53_nearest l.value hv
  subst h1
  exact ⟨rfl, h2, m, e, a, b, c, d, f⟩
/-- a literal whose value rounds to 2¹⁰²⁴ or beyond is ±Infinity (Rust `parse::<f64>` overflow). -/
theorem C07_literal_overflow_infinity (l : Lit) (hv : l.value ≠ 0) (h : pow2 1024 ≤ absQ (rnd53 l.value)) :
    litD l = some (D.inf (decide (l.value < 0))) := C07_arith_overflow_infinity l.value l.neg hv h
example : (parseLit "9007199254740993".toList).bind litD = some (.fin 9007199254740992) ∧
    (parseLit "0.1000000000000000055511151231257827021181583404541015625".toList).bind litD = some (.fin (dLit "0.1")) ∧
    (parseLit "1.797693134862315807e308".toList).bind litD = (parseLit "1.7976931348623157e308".toList).bind litD ∧
    (parseLit "-1.797693134862315808e308".toList).bind litD = some .ninf := by decide +kernel

/-- **The prefix scanner (`parse_number` as written) accepts every complete literal of the grammar
    `parseLit`, with the same digits, and consumes all of it** — so the printing/re-reading theorems, stated
    with `parseLit`, speak about what `parse_number` reads back. -/
theorem C07_scan_complete (s : List Char) (l : Lit) (h : parseLit s = some l) : scanNumber s = .ok l [] := by
  unfold parseLit at h
  unfold scanNumber
  split at h
  · exact scanBody_of_parseBody _ _ _ h
  · exact scanBody_of_parseBody _ _ _ h
  · rename_i hm hp
    split
    · rename_i r; exact absurd rfl (hp r)
    · rename_i r; exact absurd rfl (hm r)
    · exact scanBody_of_parseBody _ _ _ h
/-- the converse direction (what the scanner consumed is a literal of the grammar with the same digits) is
    NOT proved; the driver checks it on every generated text (`same=` in `num scan`). -/
def C07_scan_sound_full : Prop :=
  ∀ s l rest, scanNumber s = .ok l rest → ∃ pre, s = pre ++ rest ∧ parseLit pre = some l
example : scanNumber "+.5e1px".toList = .ok ⟨false, [], ['5'], 1⟩ ['p', 'x'] ∧ scanNumber "5.;".toList = .ok ⟨false, ['5'], [], 0⟩ ['.', ';'] ∧
    scanNumber "5.".toList = .expectedDigit ∧ scanNumber "1e-x".toList = .expectedDigit ∧
    scanNumber "1em".toList = .ok ⟨false, ['1'], [], 0⟩ ['e', 'm'] ∧ scanNumber ".;".toList = .expectedDigit := by decide +kernel

/-! ## sass:math min / max / clamp (no libm) -/

/-- `math.min` / `math.max` of two finite numbers return one of the arguments, the second only when it is
    tolerance-aware `<` / `>` the first; neither argument is then `<` (resp. `>`) the result. -/
theorem C07_min_two (x y : Rat) :
    minD (.fin x) [.fin y] = (if fuzzyLt fuzzyEqF y x = true then .fin y else .fin x) ∧
    maxD (.fin x) [.fin y] = (if fuzzyLt fuzzyEqF x y = true then .fin y else .fin x) := by
  have h := C07_lt_le_now y x
  constructor <;> simp [minD, maxD, h.1, h.2.2.1]
example : minD (.fin 1) [.fin (dLit "1.000000000001"), .fin (dLit "0.999999999999")] = .fin 1 ∧
    clampD (.fin 1) (.fin (dLit "0.5")) (.fin 3) = .fin 1 ∧ clampD (.fin 1) (.fin 7) (.fin 3) = .fin 3 := by decide +kernel

end Grass.Num
