import Grass.Media
/-
  C17 — Nested @media queries merge to their logical intersection.

  Every theorem about the truth-table model goes by cases on `MergeSpec`.  The property's own
  exclusions are hypotheses: `Query.adm` (`wf`, no modifier on `all` / no type) and
  `Excl a b = false` (not two negated queries of the same type).  `merge true` is the code as it
  stands; `merge false` (the pinned tree) appears only in `C17_asFound_violates`.
-/
namespace Grass.Media

/-! ### the cases of `merge` -/

/-- One constructor per branch of `MediaQuery::merge` (media.rs:63 ff.) that ends in `Success` or
    `Empty`, with the tests that lead there; every `Unrepresentable` exit is the last one. -/
inductive MergeSpec (a b : Query) : Merge → Prop
  | typeless : a.mtype = none → b.mtype = none →
      MergeSpec a b (.ok ⟨none, none, a.conds ++ b.conds, true⟩)
  | negPosEmpty : a.isNot = true → b.isNot = false → a.mtype = b.mtype →
      subset a.conds b.conds = true → MergeSpec a b .empty
  | posNegEmpty : a.isNot = false → b.isNot = true → a.mtype = b.mtype →
      subset b.conds a.conds = true → MergeSpec a b .empty
  | negPos : a.isNot = true → b.isNot = false → a.mtype ≠ b.mtype →
      a.matchesAllTypes = false → b.matchesAllTypes = false → MergeSpec a b (.ok b)
  | posNeg : a.isNot = false → b.isNot = true → a.mtype ≠ b.mtype →
      a.matchesAllTypes = false → b.matchesAllTypes = false → MergeSpec a b (.ok a)
  | bothNeg : a.isNot = true → b.isNot = true → a.mtype = b.mtype →
      subset (if a.conds.length > b.conds.length then b.conds else a.conds)
        (if a.conds.length > b.conds.length then a.conds else b.conds) = true →
      MergeSpec a b
        (.ok ⟨a.modifier, a.mtype, if a.conds.length > b.conds.length then a.conds else b.conds, true⟩)
  | leftAll : a.isNot = false → b.isNot = false → a.matchesAllTypes = true →
      MergeSpec a b (.ok ⟨b.modifier, if b.matchesAllTypes && a.mtype.isNone then none else b.mtype,
        a.conds ++ b.conds, true⟩)
  | rightAll : a.isNot = false → b.isNot = false → a.matchesAllTypes = false →
      b.matchesAllTypes = true →
      MergeSpec a b (.ok ⟨a.modifier, a.mtype, a.conds ++ b.conds, true⟩)
  | disjoint : a.isNot = false → b.isNot = false → a.matchesAllTypes = false →
      b.matchesAllTypes = false → a.mtype ≠ b.mtype → MergeSpec a b .empty
  | sameType : a.isNot = false → b.isNot = false → a.matchesAllTypes = false →
      b.matchesAllTypes = false → a.mtype = b.mtype →
      MergeSpec a b (.ok ⟨if a.modifier.isSome then a.modifier else b.modifier, a.mtype,
        a.conds ++ b.conds, true⟩)
  | unrepresentable : MergeSpec a b .unrepresentable

theorem merge_conj {tc : Bool} {a b : Query} (h : merge tc a b ≠ .unrepresentable) :
    a.conj = true ∧ b.conj = true := by
  unfold merge at h
  by_cases hj : (!a.conj || !b.conj) = true
  · rw [if_pos hj] at h; exact absurd rfl h
  · simpa using hj

-- The tree of tests is walked with `iteInduction`; `split` is far slower on a term of this size.
theorem merge_cases {a b : Query} (ja : a.conj = true) (jb : b.conj = true) :
    MergeSpec a b (merge true a b) := by
  unfold merge
  rw [if_neg (by simp [ja, jb]), if_pos rfl]
  refine iteInduction (fun ht => ?_) fun _ => iteInduction (fun hn => ?_) fun hn => ?_
  · rw [Bool.and_eq_true, Option.isNone_iff_eq_none, Option.isNone_iff_eq_none] at ht
    exact .typeless ht.1 ht.2
  · have hab : a.isNot = true ∧ b.isNot = false ∨ a.isNot = false ∧ b.isNot = true := by
      revert hn; cases a.isNot <;> cases b.isNot <;> simp
    rcases hab with ⟨na, nb⟩ | ⟨na, nb⟩ <;> simp only [na, Bool.false_eq_true, ↓reduceIte] <;>
      refine iteInduction (fun ht => iteInduction (fun hs => ?_) fun _ => .unrepresentable)
        fun ht => iteInduction (fun _ => .unrepresentable) fun hm => ?_
    any_goals rw [Bool.or_eq_true, not_or, Bool.not_eq_true, Bool.not_eq_true] at hm
    · exact .negPosEmpty na nb (of_decide_eq_true ht) hs
    · rw [← jb]; exact .negPos na nb (mt decide_eq_true ht) hm.1 hm.2
    · exact .posNegEmpty na nb (of_decide_eq_true ht) hs
    · rw [← ja]; exact .posNeg na nb (mt decide_eq_true ht) hm.1 hm.2
  · rw [bne_iff_ne, ne_eq, Decidable.not_not] at hn
    refine iteInduction (fun na => ?_) fun na => ?_
    · exact iteInduction (fun _ => .unrepresentable) fun ht =>
        iteInduction (.bothNeg na (hn ▸ na) (Decidable.not_not.mp ht)) fun _ => .unrepresentable
    · rw [Bool.not_eq_true] at na
      have nb := hn ▸ na
      refine iteInduction (.leftAll na nb) fun ma => ?_
      rw [Bool.not_eq_true] at ma
      refine iteInduction (.rightAll na nb ma) fun mb => ?_
      rw [Bool.not_eq_true] at mb
      exact iteInduction (.disjoint na nb ma mb) fun ht =>
        .sameType na nb ma mb (Decidable.not_not.mp ht)

theorem merge_inv {a b : Query} {r : Merge} (h : merge true a b = r) (hr : r ≠ .unrepresentable) :
    a.conj = true ∧ b.conj = true ∧ MergeSpec a b r := by
  subst h
  obtain ⟨ja, jb⟩ := merge_conj hr
  exact ⟨ja, jb, merge_cases ja jb⟩

/-! ### satisfaction of a single query -/

theorem Query.sat_pos {q : Query} (h : q.isNot = false) (e : Env) :
    q.sat e = (typeSat q.mtype e && condsSat q.conj q.conds e) := by
  unfold Query.sat
  split
  · simp [Query.isNot, *] at h
  · rfl

theorem Query.sat_neg {q : Query} (h : q.isNot = true) (e : Env) :
    q.sat e = !(typeSat q.mtype e && condsSat q.conj q.conds e) := by
  unfold Query.sat
  rw [show q.modifier = some .not by simpa [Query.isNot] using h]

theorem condsSat_append (a b : List Nat) (e : Env) :
    condsSat true (a ++ b) e = (condsSat true a e && condsSat true b e) := by
  simp [condsSat]

theorem condsSat_of_subset {a b : List Nat} {e : Env} (h : subset a b = true)
    (hb : condsSat true b e = true) : condsSat true a e = true := by
  simp only [condsSat, subset, if_true, List.all_eq_true, List.contains_iff_mem] at *
  exact fun x hx => hb x (h x hx)

theorem typeSat_of_matchesAll {q : Query} (h : q.matchesAllTypes = true) (e : Env) :
    typeSat q.mtype e = true := by
  unfold Query.matchesAllTypes at h
  cases hq : q.mtype with
  | none => rfl
  | some t => cases t <;> simp_all [typeSat]

theorem typeSat_of_specific {q : Query} (h : q.matchesAllTypes = false) (e : Env) :
    typeSat q.mtype e = decide (q.mtype = some e.device) := by
  unfold Query.matchesAllTypes at h
  cases hq : q.mtype with
  | none => simp [hq] at h
  | some t => cases t <;> simp_all [typeSat]

theorem typeSat_disjoint {a b : Query} (ha : a.matchesAllTypes = false) (hb : b.matchesAllTypes = false)
    (h : a.mtype ≠ b.mtype) (e : Env) : (typeSat a.mtype e && typeSat b.mtype e) = false := by
  rw [typeSat_of_specific ha, typeSat_of_specific hb, Bool.and_eq_false_imp, decide_eq_true_eq,
    decide_eq_false_iff_not]
  exact fun h1 h2 => h (h1.trans h2.symm)

theorem sat_neg_pos_absorb {n p : Query} (hn : n.isNot = true) (hp : p.isNot = false)
    (mn : n.matchesAllTypes = false) (mp : p.matchesAllTypes = false) (ht : n.mtype ≠ p.mtype)
    (e : Env) : (n.sat e && p.sat e) = p.sat e := by
  have hd := typeSat_disjoint mn mp ht e
  rw [Query.sat_neg hn, Query.sat_pos hp]
  revert hd
  cases typeSat n.mtype e <;> cases typeSat p.mtype e <;> simp

theorem sat_neg_pos_unsat {n p : Query} (hn : n.isNot = true) (hp : p.isNot = false)
    (jn : n.conj = true) (jp : p.conj = true) (ht : n.mtype = p.mtype)
    (hs : subset n.conds p.conds = true) (e : Env) : (n.sat e && p.sat e) = false := by
  have hc := condsSat_of_subset (e := e) hs
  rw [Query.sat_neg hn, Query.sat_pos hp, jn, jp, ht]
  revert hc
  cases condsSat true n.conds e <;> cases condsSat true p.conds e <;> cases typeSat p.mtype e <;> simp

theorem Query.isNot_of_typeless {q : Query} (h : q.adm = true) (ht : q.mtype = none) :
    q.isNot = false := by
  simp_all [Query.adm, Query.wf, Query.isNot]

/-! ### soundness of the merge -/

theorem sat_both_pos {a b : Query} {m : Option Modifier} {t : Option MType} {e : Env}
    (na : a.isNot = false) (nb : b.isNot = false) (ja : a.conj = true) (jb : b.conj = true)
    (hm : Query.isNot ⟨m, t, a.conds ++ b.conds, true⟩ = false)
    (ht : typeSat t e = (typeSat a.mtype e && typeSat b.mtype e)) :
    Query.sat ⟨m, t, a.conds ++ b.conds, true⟩ e = (a.sat e && b.sat e) := by
  rw [Query.sat_pos na, Query.sat_pos nb, Query.sat_pos hm, ja, jb, condsSat_append, ht]
  simp only [Bool.and_assoc, Bool.and_left_comm]

/-- Pairwise merge, success case: the merged query is satisfied by exactly the environments
    satisfying both operands. -/
theorem C17_merge_ok_sound (a b q : Query) (e : Env)
    (ha : a.adm = true) (hb : b.adm = true) (hx : Excl a b = false)
    (h : merge true a b = .ok q) :
    q.sat e = (a.sat e && b.sat e) := by
  obtain ⟨ja, jb, hs⟩ := merge_inv h nofun
  cases hs with
  | typeless ta tb =>
    exact sat_both_pos (Query.isNot_of_typeless ha ta) (Query.isNot_of_typeless hb tb) ja jb rfl
      (by rw [ta, tb]; rfl)
  | negPos na nb ht ma mb => exact (sat_neg_pos_absorb na nb ma mb ht e).symm
  | posNeg na nb ht ma mb => rw [Bool.and_comm]; exact (sat_neg_pos_absorb nb na mb ma ht.symm e).symm
  | bothNeg na nb ht _ => simp [Excl, na, nb, ht] at hx
  | leftAll na nb ma =>
    refine sat_both_pos na nb ja jb nb ?_
    rw [typeSat_of_matchesAll ma, Bool.true_and]
    split
    next hc => rw [typeSat_of_matchesAll (Bool.and_eq_true _ _ ▸ hc).1]; rfl
    · rfl
  | rightAll na nb _ mb =>
    exact sat_both_pos na nb ja jb na (by rw [typeSat_of_matchesAll mb, Bool.and_true])
  | sameType na nb _ _ ht =>
    refine sat_both_pos na nb ja jb ?_ (by rw [← ht, Bool.and_self])
    unfold Query.isNot at *
    split <;> assumption

/-- No admissibility needed. -/
theorem merge_empty_unsat {a b : Query} (h : merge true a b = .empty) (e : Env) :
    (a.sat e && b.sat e) = false := by
  obtain ⟨ja, jb, hs⟩ := merge_inv h nofun
  cases hs with
  | negPosEmpty na nb ht hs => exact sat_neg_pos_unsat na nb ja jb ht hs e
  | posNegEmpty na nb ht hs => rw [Bool.and_comm]; exact sat_neg_pos_unsat nb na jb ja ht.symm hs e
  | disjoint na nb ma mb ht =>
    have hd := typeSat_disjoint ma mb ht e
    rw [Query.sat_pos na, Query.sat_pos nb]
    revert hd
    cases typeSat a.mtype e <;> cases typeSat b.mtype e <;> simp

/-- Pairwise merge, empty case: no environment satisfies both operands. -/
theorem C17_merge_empty_sound (a b : Query) (e : Env)
    (ha : a.adm = true) (hb : b.adm = true)
    (h : merge true a b = .empty) :
    (a.sat e && b.sat e) = false := merge_empty_unsat h e

theorem satList_cons (q : Query) (qs : List Query) (e : Env) :
    satList (q :: qs) e = (q.sat e || satList qs e) := rfl

theorem satList_append (as bs : List Query) (e : Env) :
    satList (as ++ bs) e = (satList as e || satList bs e) := List.any_append

theorem mergeRow_sound (a : Query) (e : Env) (ha : a.adm = true) :
    ∀ (bs r : List Query), (∀ b ∈ bs, b.adm = true ∧ Excl a b = false) →
      mergeRow true a bs = some r → satList r e = (a.sat e && satList bs e)
  | [], _, _, h => by cases h; exact (Bool.and_false _).symm
  | b :: bs, r, hb, h => by
    have ⟨hb0, hx0⟩ := hb b List.mem_cons_self
    have ih := fun r => mergeRow_sound a e ha bs r fun b' m => hb b' (List.mem_cons_of_mem _ m)
    rw [satList_cons, Bool.and_or_distrib_left]
    unfold mergeRow at h
    split at h
    · cases h
    next hm => rw [merge_empty_unsat hm e, Bool.false_or]; exact ih r h
    next q hm =>
      obtain ⟨r', hr, rfl⟩ := Option.map_eq_some_iff.mp h
      rw [satList_cons, C17_merge_ok_sound a b q e ha hb0 hx0 hm, ih r' hr]

/-- **List level** (`merge_media_queries`): when the cartesian merge is representable, the
    merged list is satisfied by exactly the environments satisfying both lists. -/
theorem C17_mergeLists_sound (e : Env) :
    ∀ (as bs r : List Query),
      (∀ a ∈ as, a.adm = true) → (∀ b ∈ bs, b.adm = true) →
      (∀ a ∈ as, ∀ b ∈ bs, Excl a b = false) →
      mergeLists true as bs = some r →
      satList r e = (satList as e && satList bs e) := by
  intro as
  induction as with
  | nil => intro bs r _ _ _ h; cases h; rfl
  | cons a as ih =>
    intro bs r ha hb hx h
    unfold mergeLists at h
    split at h
    next r1 rs h1 h2 =>
      cases h
      rw [satList_append, satList_cons, Bool.and_or_distrib_right,
        mergeRow_sound a e (ha a List.mem_cons_self) bs r1
          (fun b m => ⟨hb b m, hx a List.mem_cons_self b m⟩) h1,
        ih bs rs (fun a' m => ha a' (List.mem_cons_of_mem _ m)) hb
          (fun a' m => hx a' (List.mem_cons_of_mem _ m)) h2]
    · cases h

/-- **The property, for the model of `visit_media_rule`**: whatever `@media A { @media B { … } }`
    emits — nothing, one merged rule, the two rules nested — the body is reached by exactly the
    environments satisfying both `A` and `B`. -/
theorem C17_nest_sound (e : Env) (as bs : List Query)
    (ha : ∀ a ∈ as, a.adm = true) (hb : ∀ b ∈ bs, b.adm = true)
    (hx : ∀ a ∈ as, ∀ b ∈ bs, Excl a b = false) :
    (nest true as bs).sat e = (satList as e && satList bs e) := by
  unfold nest
  cases h : mergeLists true as bs with
  | none => simp [Emitted.sat]
  | some r =>
    have := C17_mergeLists_sound e as bs r ha hb hx h
    cases r with
    | nil => simp only [Emitted.sat]; rw [← this]; simp [satList]
    | cons q r => simp [Emitted.sat, this]

/-- Dropped exactly when representable and empty: then no environment satisfies both. -/
theorem C17_dropped_means_empty (e : Env) (as bs : List Query)
    (ha : ∀ a ∈ as, a.adm = true) (hb : ∀ b ∈ bs, b.adm = true)
    (hx : ∀ a ∈ as, ∀ b ∈ bs, Excl a b = false)
    (h : nest true as bs = .dropped) : (satList as e && satList bs e) = false := by
  have := C17_nest_sound e as bs ha hb hx
  rw [h] at this; simpa [Emitted.sat] using this.symm

/-- Conditions are kept verbatim and in order when both queries are positive (text preservation
    at the level of the opaque feature ids). -/
theorem C17_conds_preserved (a b q : Query) (hn : a.isNot = false) (hn' : b.isNot = false)
    (h : merge true a b = .ok q) : q.conds = a.conds ++ b.conds := by
  obtain ⟨-, -, hs⟩ := merge_inv h nofun
  cases hs with
  | negPos na | bothNeg na => rw [hn] at na; cases na
  | posNeg _ nb => rw [hn'] at nb; cases nb
  | typeless | leftAll | rightAll | sameType => rfl

/-! ### chains of nested rules -/

theorem Query.adm_of_fields {q q' : Query} (h : q.adm = true) (hm : q'.modifier = q.modifier)
    (ht : q'.mtype = q.mtype) (hj : q'.conj = true) : q'.adm = true := by
  unfold Query.adm Query.wf Query.noModOnAll Query.matchesAllTypes at *
  rw [hm, ht, hj]
  simp_all

theorem merge_adm {a b q : Query} (ha : a.adm = true) (hb : b.adm = true)
    (h : merge true a b = .ok q) : q.adm = true := by
  obtain ⟨ja, jb, hs⟩ := merge_inv h nofun
  cases hs with
  | typeless => rfl
  | negPos => exact hb
  | posNeg => exact ha
  | bothNeg | rightAll => exact Query.adm_of_fields ha rfl rfl rfl
  | leftAll na nb ma =>
    by_cases hc : (b.matchesAllTypes && a.mtype.isNone) = true
    · have : b.modifier = none := by
        simp_all [Query.adm, Query.noModOnAll]
      rw [if_pos hc, this]; rfl
    · rw [if_neg hc]; exact Query.adm_of_fields hb rfl rfl rfl
  | sameType na nb _ _ ht =>
    by_cases hc : a.modifier.isSome = true
    · rw [if_pos hc]; exact Query.adm_of_fields ha rfl rfl rfl
    · rw [if_neg hc]; exact Query.adm_of_fields hb rfl ht rfl

theorem merge_ok_adm (a b q : Query) (ha : a.adm = true) (hb : b.adm = true)
    (hx : Excl a b = false) (h : merge true a b = .ok q) : q.adm = true := merge_adm ha hb h

/-- Representation invariant of the visitor state: the current queries are those of the
    innermost emitted rule. -/
def ChainInv (st : ChainSt) : Prop :=
  (st.mq = none ∧ st.levels = []) ∨ (∃ pre cur, st.mq = some cur ∧ st.levels = pre ++ [cur])

def levelsSat (ls : List (List Query)) (e : Env) : Bool := ls.all (fun qs => satList qs e)

theorem chainStep_inv {byEq : Bool} {st st' : ChainSt} {l : List Query}
    (h : chainStep true byEq st l = some st') : ChainInv st' := by
  revert h
  fun_cases chainStep true byEq st l <;> intro h <;> cases h <;> exact .inr ⟨_, _, rfl, rfl⟩

theorem chainStep_sound (e : Env) (st : ChainSt) (l : List Query)
    (hinv : ChainInv st) (hs : stepInScope st l = true) :
    match chainStep true false st l with
    | none => (levelsSat st.levels e && satList l e) = false
    | some st' => levelsSat st'.levels e = (levelsSat st.levels e && satList l e) := by
  unfold chainStep
  rcases hinv with ⟨hm, -⟩ | ⟨pre, cur, hm, hl⟩
  · simp [hm, levelsSat, List.all_append]
  · simp only [stepInScope, hm, Bool.and_eq_true, List.all_eq_true, Bool.not_eq_true'] at hs
    obtain ⟨hl_adm, hc_adm, hx⟩ := hs
    simp only [hm]
    cases hr : mergeLists true cur l with
    | none => simp [levelsSat, List.all_append]
    | some r =>
      have snd := C17_mergeLists_sound e cur l r hc_adm hl_adm hx hr
      cases r with
      | nil =>
        simp only [hl, levelsSat, List.all_append, List.all_cons, List.all_nil, Bool.and_true]
        rw [Bool.and_assoc, ← snd]
        exact Bool.and_false _
      | cons q r =>
        simp only [hl, levelsSat, List.dropLast_concat, List.all_append, List.all_cons,
          List.all_nil, Bool.and_true, Bool.false_eq_true, if_false]
        rw [snd, Bool.and_assoc]

theorem C17_chain_sound_aux (e : Env) :
    ∀ (ls : List (List Query)) (st : ChainSt), ChainInv st → chainInScope true false st ls = true →
      match chainRun true false st ls with
      | none => (levelsSat st.levels e && ls.all (fun qs => satList qs e)) = false
      | some st' => levelsSat st'.levels e = (levelsSat st.levels e && ls.all (fun qs => satList qs e)) := by
  intro ls
  induction ls with
  | nil => intro st _ _; simp [chainRun]
  | cons l ls ih =>
    intro st hinv hsc
    simp only [chainInScope, Bool.and_eq_true] at hsc
    obtain ⟨hs, hrest⟩ := hsc
    have step := chainStep_sound e st l hinv hs
    simp only [chainRun]
    cases hst : chainStep true false st l with
    | none =>
      simp only [hst] at step
      simp only [Option.bind_none, List.all_cons]
      rw [← Bool.and_assoc, step]; simp
    | some st' =>
      simp only [hst] at step hrest
      have := ih st' (chainStep_inv hst) hrest
      simp only [Option.bind_some, List.all_cons]
      cases hrun : chainRun true false st' ls <;> simp only [hrun] at this <;>
        rw [← Bool.and_assoc, ← step] <;> exact this

/-- **Chains of any length** (pairs, triples, …) under the specified `through` behaviour: the
    body of `@media L₁ { @media L₂ { … @media Lₙ { body } } }` is reached by exactly the
    environments satisfying every `Lᵢ`, for every in-scope chain. -/
theorem C17_chain_sound (e : Env) (ls : List (List Query))
    (h : chainInScope true false .init ls = true) :
    (chain true false ls).sat e = ls.all (fun qs => satList qs e) := by
  have := C17_chain_sound_aux e ls .init (Or.inl ⟨rfl, rfl⟩) h
  unfold chain
  cases hrun : chainRun true false .init ls with
  | none => simp only [hrun] at this; simpa [Emitted.sat, levelsSat, ChainSt.init] using this.symm
  | some st => simp only [hrun] at this; simpa [Emitted.sat, levelsSat, ChainSt.init] using this

/-- Known finding D22 (`through` by query *equality*, the code as it stands):
    `@media screen { @media screen, not screen and (f0) { @media print {…} } }` emits
    `@media print`, which a printer satisfies although the outer rule excludes it. -/
theorem C17_asFound_chain_violates :
    ∃ ls, chainInScope true true .init ls = true ∧
      ∃ e : Env, (chain true true ls).sat e ≠ ls.all (fun qs => satList qs e) :=
  ⟨[[⟨none, some .screen, [], true⟩],
    [⟨none, some .screen, [], true⟩, ⟨some .not, some .screen, [0], true⟩],
    [⟨none, some .print, [], true⟩]], by decide, ⟨⟨.print, fun _ => true⟩, by decide⟩⟩

/-! ### non-vacuity -/

private def qScreenF : Query := ⟨none, some .screen, [0], true⟩
private def qNotPrint : Query := ⟨some .not, some .print, [1], true⟩
private def qOnlyScreen : Query := ⟨some .only, some .screen, [2], true⟩

example : qScreenF.adm = true ∧ qNotPrint.adm = true ∧ Excl qScreenF qNotPrint = false ∧
    merge true qScreenF qNotPrint = .ok qScreenF := by decide
example : merge true qScreenF qOnlyScreen = .ok ⟨some .only, some .screen, [0, 2], true⟩ := by decide
example : nest true [qScreenF] [⟨none, some .print, [], true⟩] = .dropped := by decide
example : nest true [⟨none, none, [0, 1], false⟩] [qScreenF]
    = .levels [[⟨none, none, [0, 1], false⟩], [qScreenF]] := by decide

/-! ### the pinned-tree variant violates the property -/

/-- `@media not screen { @media screen {…} }`: the as-found comparison (modifiers instead of
    types) returns `screen`, which the screen device satisfies although it does not satisfy
    `not screen`. -/
theorem C17_asFound_violates :
    ∃ a b q, a.adm = true ∧ b.adm = true ∧ Excl a b = false ∧ merge false a b = .ok q ∧
      ∃ e : Env, q.sat e ≠ (a.sat e && b.sat e) :=
  ⟨⟨some .not, some .screen, [], true⟩, ⟨none, some .screen, [], true⟩,
   ⟨none, some .screen, [], true⟩, by decide, by decide, by decide, by decide,
   ⟨⟨.screen, fun _ => true⟩, by decide⟩⟩

/-! ## text level -/

/-- The result's conditions are both operands' in order — or one operand's, when one is negated —
    and its type and modifier, if any, are an operand's as spelled. -/
def FromOperands (a b : TQuery) : TMerge → Prop
  | .ok q =>
    (q.conds = a.conds ++ b.conds ∨
      (a.isNot = true ∨ b.isNot = true) ∧ (q.conds = a.conds ∨ q.conds = b.conds)) ∧
    (q.mtype = none ∨ q.mtype = a.mtype ∨ q.mtype = b.mtype) ∧
    (q.modifier = none ∨ q.modifier = a.modifier ∨ q.modifier = b.modifier)
  | _ => True

theorem finishT_fromOperands {a b : TQuery} {m t : Option (List Char)} {cs : List (List Char)}
    (hc : cs = a.conds ++ b.conds ∨ (a.isNot = true ∨ b.isNot = true) ∧ (cs = a.conds ∨ cs = b.conds)) :
    FromOperands a b (finishT a b m t cs) := by
  refine ⟨hc, .inr ?_, .inr ?_⟩ <;> dsimp only [finishT] <;> split <;> simp

theorem mergeT_fromOperands (a b : TQuery) : FromOperands a b (mergeT a b) := by
  unfold mergeT
  refine iteInduction (fun _ => trivial) fun _ =>
    iteInduction (fun _ => ⟨.inl rfl, .inl rfl, .inl rfl⟩) fun _ =>
    iteInduction (fun hn => ?_) fun _ => iteInduction (fun na => ?_) fun _ => ?_
  · have hab : a.isNot = true ∨ b.isNot = true := by
      revert hn; cases a.isNot <;> cases b.isNot <;> simp
    exact iteInduction (fun _ => iteInduction (fun _ => trivial) fun _ => trivial) fun _ =>
      iteInduction (fun _ => trivial) fun _ =>
      iteInduction (fun _ => finishT_fromOperands (.inr ⟨hab, .inr rfl⟩))
        fun _ => finishT_fromOperands (.inr ⟨hab, .inl rfl⟩)
  · refine iteInduction (fun _ => trivial) fun _ =>
      iteInduction (fun _ => finishT_fromOperands (.inr ⟨.inl na, ?_⟩)) fun _ => trivial
    split
    · exact .inl rfl
    · exact .inr rfl
  · exact iteInduction (fun _ => finishT_fromOperands (.inl rfl)) fun _ =>
      iteInduction (fun _ => finishT_fromOperands (.inl rfl)) fun _ =>
      iteInduction (fun _ => trivial) fun _ => finishT_fromOperands (.inl rfl)

/-- **Text clause, merge step** (`MediaQuery::merge` with the spelling selection of
    media.rs:208–221): every condition, type and modifier of the result is an operand's, verbatim. -/
theorem C17_mergeT_text_preserved (a b q : TQuery) (h : mergeT a b = .ok q) :
    q.textFrom [a, b] = true := by
  have hs := mergeT_fromOperands a b
  rw [h] at hs
  obtain ⟨hc, ht, hm⟩ := hs
  simp only [TQuery.textFrom, List.any_cons, List.any_nil, Bool.or_false, Bool.and_eq_true,
    List.all_eq_true, List.contains_iff_mem, Bool.or_eq_true]
  refine ⟨⟨fun c hq => ?_, ?_⟩, ?_⟩
  · rcases hc with hc | ⟨-, hc | hc⟩ <;> rw [hc] at hq
    · exact List.mem_append.mp hq
    · exact .inl hq
    · exact .inr hq
  · rcases ht with ht | ht | ht <;> rw [ht]
    · cases a.mtype <;> simp
    · cases b.mtype <;> simp
  · rcases hm with hm | hm | hm <;> rw [hm]
    · cases a.modifier <;> simp
    · cases b.modifier <;> simp

example : mergeT ⟨some "ONLY".toList, some "screen".toList, ["(f0)".toList], true⟩
      ⟨none, some "Screen".toList, ["(f1)".toList], true⟩
    = .ok ⟨some "ONLY".toList, some "screen".toList, ["(f0)".toList, "(f1)".toList], true⟩ := by decide +kernel

/-- Positive text queries: the merged conditions are the operands' conditions, in order. -/
theorem C17_mergeT_conds_preserved (a b q : TQuery) (hn : a.isNot = false) (hn' : b.isNot = false)
    (h : mergeT a b = .ok q) : q.conds = a.conds ++ b.conds := by
  have hs := mergeT_fromOperands a b
  rw [h] at hs
  rcases hs.1 with hc | ⟨na | nb, -⟩
  · exact hc
  · rw [hn] at na; cases na
  · rw [hn'] at nb; cases nb

/-! ### the parser keeps condition texts verbatim -/

def parTexts : List Tok → List (List Char)
  | [] => []
  | .par _ s :: r => s :: parTexts r
  | _ :: r => parTexts r

theorem logicSeq_conds (op : String) (ts : List Tok) :
    ∀ cs r, logicSeq op ts = .ok (cs, r) → ∀ c ∈ cs, c ∈ parTexts ts := by
  fun_induction logicSeq op ts <;> intro cs r h
  case case1 hl ih =>        -- `( s ) op ( … ) …`
    rw [hl] at h
    cases h
    exact List.forall_mem_cons.mpr
      ⟨List.mem_cons_self, fun c hc => List.mem_cons_of_mem _ (ih _ _ hl c hc)⟩
  case case2 hl _ => rw [hl] at h; cases h
  case case4 | case5 =>      -- a single `( s )`
    cases h
    exact List.forall_mem_singleton.mpr List.mem_cons_self
  all_goals cases h

def condFrom (ts : List Tok) (c : List Char) : Prop :=
  c ∈ parTexts ts ∨ ∃ s ∈ parTexts ts, c = notWrap s

theorem condFrom_par (w : Bool) (s : List Char) (ts : List Tok) : condFrom (.par w s :: ts) s :=
  .inl List.mem_cons_self

theorem condFrom_notWrap (w : Bool) (s : List Char) (ts : List Tok) :
    condFrom (.par w s :: ts) (notWrap s) :=
  .inr ⟨s, List.mem_cons_self, rfl⟩

theorem condFrom_cons (t : Tok) {ts : List Tok} {c : List Char} (h : condFrom ts c) :
    condFrom (t :: ts) c := by
  have sub : ∀ x, x ∈ parTexts ts → x ∈ parTexts (t :: ts) := by
    intro x hx; cases t <;> simp [parTexts, hx]
  exact h.imp (sub c) fun ⟨s, hs, hc⟩ => ⟨s, sub s hs, hc⟩

theorem afterAnd_conds (m t : Option (List Char)) (ts : List Tok) (q : TQuery) (r : List Tok)
    (h : afterAnd m t ts = .ok (q, r)) : ∀ c ∈ q.conds, condFrom ts c := by
  revert h
  fun_cases afterAnd m t ts <;> intro h
  case case2 =>              -- `not ( s )`
    cases h
    exact List.forall_mem_singleton.mpr (condFrom_cons _ (condFrom_notWrap ..))
  case case5 hl _ =>         -- `( … ) and ( … ) …`
    rw [hl] at h
    cases h
    exact fun c hc => .inl (logicSeq_conds _ _ _ _ hl c hc)
  case case6 hl _ => rw [hl] at h; cases h
  all_goals cases h

theorem afterIdent1_conds (i1 : List Char) (ts : List Tok) (q : TQuery) (r : List Tok)
    (h : afterIdent1 i1 ts = .ok (q, r)) : ∀ c ∈ q.conds, condFrom ts c := by
  revert h
  fun_cases afterIdent1 i1 ts <;> intro h
  case case1 => exact fun c hc => condFrom_cons _ (afterAnd_conds _ _ _ _ _ h c hc)
  case case2 => exact fun c hc => condFrom_cons _ (condFrom_cons _ (afterAnd_conds _ _ _ _ _ h c hc))
  all_goals cases h; exact nofun     -- no conditions

/-- **Text clause, parser** (`parse_media_query`, media_query.rs:43, on the scanned tokens): every
    condition of the parsed query is the text of a `( … )` token of the input, verbatim and
    untouched, or — for `not ( … )` — that text wrapped as `(not …)` (media_query.rs:70, :109). -/
theorem C17_parse_conds_verbatim (ts : List Tok) (q : TQuery) (r : List Tok)
    (h : parseQuery ts = .ok (q, r)) : ∀ c ∈ q.conds, condFrom ts c := by
  revert h
  fun_cases parseQuery ts <;> intro h
  case case2 hl | case5 hl =>          -- `( s ) and …`, `( s ) or …`
    cases h
    exact List.forall_mem_cons.mpr ⟨condFrom_par .., fun c hc =>
      condFrom_cons _ (condFrom_cons _ (.inl (logicSeq_conds _ _ _ _ hl c hc)))⟩
  case case7 | case8 =>                -- a single `( s )`
    cases h
    exact List.forall_mem_singleton.mpr (condFrom_par ..)
  case case10 =>                       -- `not ( s )`
    cases h
    exact List.forall_mem_singleton.mpr (condFrom_cons _ (condFrom_notWrap ..))
  case case11 | case12 =>              -- starts with an identifier
    exact fun c hc => condFrom_cons _ (afterIdent1_conds _ _ _ _ h c hc)
  all_goals cases h

example : parseQuery [.id false "screen".toList, .id true "AND".toList, .par true "(f0)".toList,
      .id false "and".toList, .par true "( f1 )".toList]
    = .ok (⟨none, some "screen".toList, ["(f0)".toList, "( f1 )".toList], true⟩, []) := by rfl

/-! ### wrappers (`@at-root`, style rules) -/

/-- **Only the not-escaped chain matters**: whatever encloses an `@at-root (without: media)` —
    as long as it is reached at all — the emitted media rules below it are those of the items
    that follow, run from the empty media context. -/
theorem C17_escape_resets (byEq : Bool) :
    ∀ (pre : List Item) (st : TChainSt) (post : List Item),
      chainRunT byEq st (pre ++ .escape :: post) =
        match chainRunT byEq st pre with
        | .ok _ => chainRunT byEq .init post
        | r => r := by
  intro pre st post
  fun_induction chainRunT byEq st pre <;> simp only [List.cons_append, List.nil_append, chainRunT, *]

/-- Style rules (and `@at-root` that keeps the media context) do not take part. -/
theorem C17_style_transparent (byEq : Bool) (st : TChainSt) (is : List Item) :
    chainRunT byEq st (.style :: is) = chainRunT byEq st is := rfl

example : (match chainRunT true .init [.media "screen".toList, .escape, .media "print".toList] with
    | .ok st => st.levels.length | _ => 0) = 1 := by decide +kernel

/-! ### D22: exactly when the as-found `through` test differs from the specified one -/

theorem popThrough_concat_of_covered (srcs : List Query) (pre : List (List Query)) {l : List Query}
    (h : l.all (fun q => srcs.contains q) = true) :
    popThrough srcs (pre ++ [l]) = popThrough srcs pre := by
  unfold popThrough
  rw [List.reverse_concat, List.dropWhile_cons, if_pos h]

theorem popThrough_concat_of_not_covered (srcs : List Query) (pre : List (List Query)) {l : List Query}
    (h : ¬l.all (fun q => srcs.contains q) = true) :
    popThrough srcs (pre ++ [l]) = pre ++ [l] := by
  unfold popThrough
  rw [List.reverse_concat, List.dropWhile_cons, if_neg h, List.reverse_cons, List.reverse_reverse]

/-- With the innermost level `cur` among the sources (it always is: `srcs' = srcs ++ cur ++ l`),
    the as-found pop removes exactly the innermost level — the specified behaviour — unless the
    next level out is also covered (`overPop`); then it removes more. -/
theorem C17_popThrough_exact (srcs : List Query) (pre : List (List Query)) (cur : List Query)
    (hc : cur.all (fun q => srcs.contains q) = true) :
    popThrough srcs (pre ++ [cur]) =
      if overPop srcs (pre ++ [cur]) then popThrough srcs pre else (pre ++ [cur]).dropLast := by
  rw [popThrough_concat_of_covered srcs pre hc, List.dropLast_concat]
  rcases List.eq_nil_or_concat pre with rfl | ⟨pre', l, rfl⟩
  · rfl
  · have ho : overPop srcs (pre'.concat l ++ [cur]) = l.all (fun q => srcs.contains q) := by
      simp [overPop]
    rw [ho, List.concat_eq_append]
    by_cases hl : l.all (fun q => srcs.contains q) = true
    · rw [if_pos hl]
    · rw [if_neg hl, popThrough_concat_of_not_covered srcs pre' hl]

theorem chainStep_asFound_eq (st : ChainSt) (l : List Query) (hinv : ChainInv st)
    (h : ∀ cur, st.mq = some cur → overPop (st.srcs ++ cur ++ l) st.levels = false) :
    chainStep true true st l = chainStep true false st l := by
  unfold chainStep
  rcases hinv with ⟨hm, _⟩ | ⟨pre, cur, hm, hl⟩
  · simp only [hm]
  · have hc : cur.all (fun q => (st.srcs ++ cur ++ l).contains q) = true :=
      List.all_eq_true.mpr fun q hq => by simp [hq]
    have hp : popThrough (st.srcs ++ cur ++ l) st.levels = st.levels.dropLast := by
      have := h cur hm
      rw [hl] at this ⊢
      rw [C17_popThrough_exact _ pre cur hc, this, if_neg Bool.false_ne_true]
    simp only [hm, hp, ite_self]

example : overPop [⟨none, some .screen, [], true⟩] [[⟨none, some .screen, [], true⟩], [⟨none, some .print, [], true⟩]] = true := by decide

theorem chainRun_asFound_eq : ∀ (ls : List (List Query)) (st : ChainSt), ChainInv st →
    noOverPop st ls = true → chainRun true true st ls = chainRun true false st ls := by
  intro ls
  induction ls with
  | nil => intro st _ _; rfl
  | cons l ls ih =>
    intro st hinv h
    simp only [noOverPop, Bool.and_eq_true] at h
    have e := chainStep_asFound_eq st l hinv fun cur hm => by simpa [hm] using h.1
    simp only [chainRun, e]
    cases hst : chainStep true false st l with
    | none => rfl
    | some st' => exact ih st' (chainStep_inv hst) (by simpa [hst] using h.2)

/-- **As-found soundness outside the D22 class**: the code as it stands (`through` by query
    equality) emits exactly the intersection for every in-scope chain along which no merge step
    finds the next enclosing level covered by the merged sources (`noOverPop`, decidable). -/
theorem C17_asFound_chain_sound (e : Env) (ls : List (List Query))
    (hs : chainInScope true false .init ls = true) (hn : noOverPop .init ls = true) :
    (chain true true ls).sat e = ls.all (fun qs => satList qs e) := by
  have := C17_chain_sound e ls hs
  unfold chain at this ⊢
  rw [chainRun_asFound_eq ls .init (Or.inl ⟨rfl, rfl⟩) hn]
  exact this

example : noOverPop .init [[⟨none, some .screen, [0], true⟩], [⟨none, none, [1], true⟩], [⟨some .only, some .screen, [2], true⟩]] = true := by decide

/-- The D22 witness is inside the class (`noOverPop` fails for it). -/
example : noOverPop .init [[⟨none, some .screen, [], true⟩],
    [⟨none, some .screen, [], true⟩, ⟨some .not, some .screen, [0], true⟩],
    [⟨none, some .print, [], true⟩]] = false := by decide

end Grass.Media
