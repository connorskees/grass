
import Grass.Builtins

import GrassProofs.Lemmas.Builtins

import GrassProofs.Lemmas.BuiltinsStr

import GrassProofs.Lemmas.BuiltinsNamed
/-
  C14 — list, map and string built-ins implement their documented semantics.

  Theorems about the model `Grass/Builtins.lean`.  Every theorem is stated for the full built-in
  (argument list in, value or error class out); `sw : Sw` carries one switch per deviation of /repo
  from the documentation that this check found (K14a–K14d, all repaired since: `Sw.now` = the code as
  it stands = documented, `Sw.beforeFix` = the code before the repairs); a theorem that needs the
  documented variant of a rule says so by a hypothesis such as `sw.appendAsList = true` and has a
  `…_now` corollary without it; all others hold for both variants.  The deviation K14e is open
  (`sw.namedStrict`: named arguments validated; `Sw.now` has it `false`, `Sw.spec` `true`).
  Not proved (tied by correspondence / laws only): the nested form of `map-merge`, the order of the
  key list of `map-merge`, "every other path unchanged" for `map.deep-remove`, named arguments of the
  variadic functions.  `numI n u` is the number `n` (an integer) with unit `u`.
  The `law…` predicates are the per-input predicates the check evaluates on grass's own answers
  (`blt law …`); each theorem ends by stating that the model's answers satisfy them.

  Map theorems take the equivalence of `==` on the keys involved as the hypothesis
  `KeyEquiv sw.eq P` together with `keysIn P m` (that is C09's subject); `strKeys` shows the
  hypothesis is satisfiable for all string keys under every equality variant.
-/

namespace Grass.Builtins

open Grass.Value

/-! ## append -/

theorem C14_length_append (sw : Sw) (h : sw.appendAsList = true) (l v : Value) :
    ∃ r, appendF sw [l, v] = .ok r ∧ elems r = elems l ++ [v] ∧
      lengthF [r] = .ok (natV ((elems l).length + 1)) ∧
      lawLengthAppend (natV (elems l).length) (natV ((elems l).length + 1)) = true := by
  refine ⟨_, appendF_two sw l v, ?_, ?_, ?_⟩
  · rw [elems_mkList, appendParts_eq sw h]
  · rw [lengthF_one, elems_mkList, appendParts_eq sw h, List.length_append]
    rfl
  · simp [lawLengthAppend, natOf_natV]

/-- the code as it stands, for every `l` (lists, maps, argument lists, single values) -/
theorem C14_length_append_now (l v : Value) :
    ∃ r, appendF Sw.now [l, v] = .ok r ∧ elems r = elems l ++ [v] ∧
      lengthF [r] = .ok (natV ((elems l).length + 1)) :=
  let ⟨r, h1, h2, h3, _⟩ := C14_length_append Sw.now rfl l v
  ⟨r, h1, h2, h3⟩

/-- `append` never returns a list without a separator: the list's own, `space` if it has none -/
theorem C14_append_result_decided (sw : Sw) (l v r : Value) (h : appendF sw [l, v] = .ok r) :
    ∃ s, innerSep r = some s ∧ s ≠ .undecided := by
  rw [appendF_two] at h
  cases h
  refine ⟨_, rfl, ?_⟩
  split
  · decide
  · assumption

/-- separator of `append(l, v)`: the list's own, `space` if it has none; brackets are kept; an explicit
    `$separator` decides -/
theorem C14_append_separator (sw : Sw) (h : sw.appendAsList = true) (l v : Value) :
    appendF sw [l, v] = .ok (mkList (elems l ++ [v]) (if argSep l = .undecided then .space else argSep l) (argBr l)) ∧
    (∀ (s : Sep) (q : Bool), appendF sw [l, v, .str (sepName s) q] = .ok (mkList (elems l ++ [v]) (sepOfName s) (argBr l))) ∧
    (∀ q, appendF sw [l, v, .str "foo".toList q] = .error .badSeparator) ∧
    appendF sw [l, v, .null] = .error .notString := by
  refine ⟨?_, fun s q => ?_, fun q => ?_, ?_⟩
  · rw [appendF_two, appendParts_eq sw h]
  · rw [appendF_three, sepArg_sepName, appendParts_eq sw h]
    rfl
  · rw [appendF_three, sepArg_unknown _ _ q (by decide +kernel)]
    rfl
  · rw [appendF_three]
    rfl

theorem C14_append_separator_now (l v : Value) :
    appendF Sw.now [l, v] = .ok (mkList (elems l ++ [v]) (if argSep l = .undecided then .space else argSep l) (argBr l)) :=
  (C14_append_separator Sw.now rfl l v).1

example : Sw.spec.appendAsList = true ∧ Sw.spec.joinArgAsList = true ∧ Sw.spec.rangeByInt = true ∧ Sw.spec.setArity = true :=
  ⟨rfl, rfl, rfl, rfl⟩

/-! ## nth / set-nth -/

/-- `nth(set-nth(l, n, v), n) = v` for every valid index `n` (either sign, any unit on the index),
    the length is unchanged, and every other position keeps its element. -/
theorem C14_nth_set_nth (sw : Sw) (l v : Value) (n : Int) (u u' : U)
    (h0 : n ≠ 0) (hr : n.natAbs ≤ (elems l).length) :
    ∃ r, setNthF sw [l, numI n u, v] = .ok r ∧
      nthF sw [r, numI n u'] = .ok v ∧
      lawNthSetNth v v = true ∧
      (elems r).length = (elems l).length ∧
      ∀ (m : Int) (um : U), m ≠ 0 → m.natAbs ≤ (elems l).length →
        posOf (elems l).length m ≠ posOf (elems l).length n →
        nthF sw [r, numI m um] = nthF sw [l, numI m um] := by
  have hl : (elems (mkList ((elems l).set (posOf (elems l).length n) v) (setNthParts l).2.1 (setNthParts l).2.2)).length
      = (elems l).length := by rw [elems_mkList, List.length_set]
  refine ⟨_, setNthF_int sw l v n u h0 hr, ?_, ?_, hl, ?_⟩
  · rw [nthF_int sw _ n u' h0 (Nat.le_trans hr (Nat.le_of_eq hl.symm)), hl, elems_mkList, List.getElem?_set_self (posOf_lt _ n h0 hr)]
  · simp [lawNthSetNth, sameV]
  · intro m um hm0 hmr hne
    rw [nthF_int sw _ m um hm0 (Nat.le_trans hmr (Nat.le_of_eq hl.symm)), nthF_int sw l m um hm0 hmr, hl, elems_mkList,
      List.getElem?_set_ne (Ne.symm hne)]

example : ∃ r, setNthF Sw.now [mkList [.null, .bool true, .null] .comma true, numI (-2) .px, .bool false] = .ok r ∧
    nthF Sw.now [r, numI (-2) .none] = .ok (.bool false) := by
  have h := C14_nth_set_nth Sw.now (mkList [.null, .bool true, .null] .comma true) (.bool false) (-2) .px .none
    (by decide) (by simp [elems_mkList])
  obtain ⟨r, h1, h2, _⟩ := h
  exact ⟨r, h1, h2⟩

/-- `nth(l, -k) = nth(l, len - k + 1)` for `1 ≤ k ≤ len` -/
theorem C14_nth_neg (sw : Sw) (l : Value) (k : Nat) (u u' : U) (h1 : 1 ≤ k) (h2 : k ≤ (elems l).length) :
    nthF sw [l, numI (-(k : Int)) u] = nthF sw [l, numI (((elems l).length : Int) - k + 1) u'] ∧
    ∃ v, nthF sw [l, numI (-(k : Int)) u] = .ok v ∧ (elems l)[(elems l).length - k]? = some v := by
  have e : ((elems l).length : Int) - k + 1 = ((elems l).length - k + 1 : Nat) := by omega
  rw [e, nthF_int sw l _ u (by omega) (by rw [Int.natAbs_neg]; exact h2),
    nthF_int sw l _ u' (by omega) (by rw [Int.natAbs_natCast]; omega), posOf_neg _ k h1,
    posOf_natCast _ _ (Nat.le_add_left 1 _), Nat.add_sub_cancel, List.getElem?_eq_getElem (by omega)]
  exact ⟨rfl, _, rfl, rfl⟩

/-- positive indices are 1-based -/
theorem C14_nth_pos (sw : Sw) (l : Value) (k : Nat) (u : U) (h1 : 1 ≤ k) (h2 : k ≤ (elems l).length) :
    ∃ v, nthF sw [l, numI (k : Int) u] = .ok v ∧ (elems l)[k - 1]? = some v := by
  rw [nthF_int sw l _ u (by omega) (by rw [Int.natAbs_natCast]; exact h2), posOf_natCast _ k h1, List.getElem?_eq_getElem (by omega)]
  exact ⟨_, rfl, rfl⟩

theorem C14_nth_zero_err (sw : Sw) (l : Value) (u : U) : nthF sw [l, numI 0 u] = .error .indexZero := by
  rw [numI, nthF_fin, Rat.intCast_zero, nthIndex_zero]

theorem C14_nth_range_err (sw : Sw) (l : Value) (n : Int) (u : U) (h : (elems l).length < n.natAbs) :
    nthF sw [l, numI n u] = .error .indexRange := by
  rw [numI, nthF_fin, nthIndex_int_range sw _ n (by omega) h]

/-- a non-integer index within the range is rejected as such -/
theorem C14_nth_nonint_err (sw : Sw) (l : Value) (q : Rat) (u : U)
    (hz : isZero q = false) (hr : sw.rangeByInt = false → ¬ (((elems l).length : Rat) < q.abs)) (hi : asInt q = none) :
    nthF sw [l, .num (.fin q) u] = .error .notInt := by
  cases hb : sw.rangeByInt with
  | true => simp [nthF, nthIndex, hz, hi, hb]
  | false => simp [nthF, nthIndex, hz, hi, hb, hr hb]

/-- the code as it stands: a non-integer index is rejected as such whatever its size (the integer
    check comes before the range check, as in `set-nth`) -/
theorem C14_nth_nonint_err_now (l : Value) (q : Rat) (u : U) (hz : isZero q = false) (hi : asInt q = none) :
    nthF Sw.now [l, .num (.fin q) u] = .error .notInt :=
  C14_nth_nonint_err Sw.now l q u hz (fun h => by cases h) hi

theorem C14_nth_not_number_err (sw : Sw) (l : Value) (s : List Char) (q : Bool) :
    nthF sw [l, .str s q] = .error .notNumber := rfl

theorem C14_set_nth_zero_err (sw : Sw) (l v : Value) (u : U) : setNthF sw [l, numI 0 u, v] = .error .indexZero := by
  rw [numI, setNthF_fin, Rat.intCast_zero, setNthIndex_zero]
  rfl

theorem C14_set_nth_range_err (sw : Sw) (l v : Value) (n : Int) (u : U) (h : (elems l).length < n.natAbs) :
    setNthF sw [l, numI n u, v] = .error .indexRange := by
  rw [numI, setNthF_fin, setNthIndex_int_range sw _ n (by omega) h]
  rfl

theorem C14_set_nth_nonint_err (sw : Sw) (l v : Value) (q : Rat) (u : U)
    (hz : isZero q = false) (hi : asInt q = none) :
    setNthF sw [l, .num (.fin q) u, v] = .error .notInt := by
  rw [setNthF_fin, setNthIndex, hz, hi]
  rfl

example : isZero (3/2) = false ∧ ¬ (((3 : Nat) : Rat) < (3/2 : Rat).abs) ∧ asInt (3/2) = none ∧
    isZero (7/2) = false ∧ asInt (7/2) = none := by
  decide +kernel

/-! ## join -/

/-- `length(join(a, b)) = length(a) + length(b)`; the elements are those of `a` followed by those of `b` -/
theorem C14_length_join (sw : Sw) (h : sw.joinArgAsList = true) (a b : Value) :
    ∃ r, joinF sw [a, b] = .ok r ∧ elems r = elems a ++ elems b ∧
      lengthF [r] = .ok (natV ((elems a).length + (elems b).length)) ∧
      lawLengthJoin (natV (elems a).length) (natV (elems b).length) (natV ((elems a).length + (elems b).length)) = true := by
  refine ⟨_, joinF_two sw a b, ?_, ?_, ?_⟩
  · rw [elems_mkList, joinParts_eq sw h, joinParts_eq sw h]
  · rw [lengthF_one, elems_mkList, joinParts_eq sw h, joinParts_eq sw h, List.length_append]
  · simp [lawLengthJoin, natOf_natV]

theorem C14_length_join_now (a b : Value) :
    ∃ r, joinF Sw.now [a, b] = .ok r ∧ elems r = elems a ++ elems b ∧
      lengthF [r] = .ok (natV ((elems a).length + (elems b).length)) :=
  let ⟨r, h1, h2, h3, _⟩ := C14_length_join Sw.now rfl a b
  ⟨r, h1, h2, h3⟩

/-- `join` never returns a list without a separator: with `auto` (or none given) it is the first
    operand's, else the second's, else space — so a later `join`/`append`/`==` sees a decided one -/
theorem C14_join_result_decided (sw : Sw) (a b r : Value) (h : joinF sw [a, b] = .ok r) :
    ∃ s, innerSep r = some s ∧ s ≠ .undecided := by
  rw [joinF_two] at h
  cases h
  refine ⟨_, rfl, ?_⟩
  unfold joinAutoSep
  split
  · assumption
  · split
    · assumption
    · decide

/-- separator of `join(a, b)`: the first argument's unless it has none, then the second's, then space;
    bracketed iff the first argument is -/
theorem C14_join_separator_rule (sw : Sw) (h : sw.joinArgAsList = true) (a b : Value) :
    ∃ es, joinF sw [a, b] = .ok (mkList es (joinSepRule (argSep a) (argSep b) none) (argBr a)) ∧
      lawJoinSep (argSep a) (argSep b) none (.str (sepName (joinSepRule (argSep a) (argSep b) none)) false) = true := by
  refine ⟨elems a ++ elems b, ?_, ?_⟩
  · rw [joinF_two, joinParts_eq sw h a, joinParts_eq sw h b]
    rfl
  · simp [lawJoinSep, sameV]

theorem C14_join_separator_rule_now (a b : Value) :
    ∃ es, joinF Sw.now [a, b] = .ok (mkList es (joinSepRule (argSep a) (argSep b) none) (argBr a)) :=
  let ⟨es, h, _⟩ := C14_join_separator_rule Sw.now rfl a b
  ⟨es, h⟩

/-- `$separator: auto` is the same as omitting it -/
theorem C14_join_separator_auto (sw : Sw) (a b : Value) (q : Bool) :
    joinF sw [a, b, .str "auto".toList q] = joinF sw [a, b] := by
  rw [joinF_three, sepArg_auto, joinF_two]
  rfl

/-- an explicit `$separator` (`comma`, `space` or `slash`, quoted or not) decides -/
theorem C14_join_separator_explicit (sw : Sw) (h : sw.joinArgAsList = true) (a b : Value) (s : Sep) (q : Bool) :
    ∃ es, joinF sw [a, b, .str (sepName s) q] = .ok (mkList es (joinSepRule (argSep a) (argSep b) (some (sepOfName s))) (argBr a)) ∧
      es = elems a ++ elems b := by
  refine ⟨_, ?_, rfl⟩
  rw [joinF_three, sepArg_sepName, joinParts_eq sw h a, joinParts_eq sw h b]
  rfl

theorem C14_join_bad_separator_err (sw : Sw) (a b : Value) (q : Bool) :
    joinF sw [a, b, .str "foo".toList q] = .error .badSeparator := by
  rw [joinF_three, sepArg_unknown _ _ q (by decide +kernel)]
  rfl

theorem C14_join_separator_not_string_err (sw : Sw) (a b : Value) :
    joinF sw [a, b, .null] = .error .notString := by
  rw [joinF_three]
  rfl

theorem C14_join_missing_err (sw : Sw) (a : Value) : joinF sw [a] = .error .missingArg := rfl

theorem separatorF_mkList (es : List Value) (s : Sep) (b : Bool) :
    separatorF [mkList es s b] = .ok (.str (sepName s) false) := rfl

/-- `list-separator` / `is-bracketed` read the list's own separator (`space` when it has none) and
    bracket flag; a map is an unbracketed comma list, an argument list an unbracketed list with the
    separator it carries, any other value an unbracketed space list -/
theorem C14_separator_bracketed (es : VList) (sep : Sep) (br : Bool) (ps kw : VPairs) (s : Sep) :
    separatorF [.list es sep br] = .ok (.str (sepName sep) false) ∧ isBracketedF [.list es sep br] = .ok (.bool br) ∧
    separatorF [.map ps] = .ok (.str "comma".toList false) ∧ isBracketedF [.map ps] = .ok (.bool false) ∧
    separatorF [.arglist es kw s] = .ok (.str (sepName s) false) ∧ isBracketedF [.arglist es kw s] = .ok (.bool false) ∧
    separatorF [.null] = .ok (.str "space".toList false) ∧ isBracketedF [.null] = .ok (.bool false) ∧
    sepName .undecided = "space".toList :=
  ⟨rfl, rfl, rfl, rfl, rfl, rfl, rfl, rfl, rfl⟩

/-! ## zip -/

/-- `length(zip(l₁ … lₖ))` is the least of the lengths (0 for no list): it is below every length and
    is attained; the result is an unbracketed comma list -/
theorem C14_zip_length (args : List Value) :
    ∃ rows, zipF args = .ok (mkList rows .comma false) ∧
      rows.length = minLen (args.map elems) ∧
      (∀ a, a ∈ args → rows.length ≤ (elems a).length) ∧
      (args ≠ [] → ∃ a, a ∈ args ∧ rows.length = (elems a).length) ∧
      (args = [] → rows.length = 0) := by
  refine ⟨_, rfl, length_zipRows _ _, ?_, ?_, ?_⟩
  · intro a ha
    rw [length_zipRows]
    exact minLen_le _ _ (List.mem_map_of_mem ha)
  · intro hne
    rw [length_zipRows]
    obtain ⟨l, hl, hm⟩ := minLen_attained (args.map elems) (by simpa using hne)
    obtain ⟨a, ha, rfl⟩ := List.mem_map.mp hl
    exact ⟨a, ha, hm⟩
  · intro h; subst h; rfl

/-! ## strings -/

/-- `str-slice(s, 1, k) ++ str-slice(s, k + 1, -1) = s` for `0 ≤ k ≤ length`; quotes are kept -/
theorem C14_slice_concat (s : List Char) (q : Bool) (k : Nat) (hk : k ≤ s.length) :
    ∃ a b, strSliceF [.str s q, numI 1 .none, numI (k : Int) .none] = .ok (.str a q) ∧
      strSliceF [.str s q, numI ((k : Int) + 1) .none, numI (-1) .none] = .ok (.str b q) ∧
      strSliceF [.str s q, numI ((k : Int) + 1) .none] = .ok (.str b q) ∧
      a ++ b = s ∧ lawSliceConcat (.str s q) (.str a q) (.str b q) = true := by
  refine ⟨_, _, strSliceF_int s q 1 k, strSliceF_int s q _ (-1), strSliceF_int1 s q _, slice_concat s k hk, ?_⟩
  simp [lawSliceConcat, strOf, slice_concat s k hk]

example : ∃ a b, strSliceF [.str "aé中".toList true, numI 1 .none, numI 2 .none] = .ok (.str a true) ∧
    strSliceF [.str "aé中".toList true, numI 3 .none, numI (-1) .none] = .ok (.str b true) ∧ a ++ b = "aé中".toList := by
  obtain ⟨a, b, h1, h2, _, h4, _⟩ := C14_slice_concat "aé中".toList true 2 (by decide)
  exact ⟨a, b, h1, h2, h4⟩

/-- `str-length(str-slice(s, a, b)) = b - a + 1` for `1 ≤ a ≤ b + 1`, `b ≤ length`, and the slice is
    the code points `a … b` -/
theorem C14_length_slice (s : List Char) (q : Bool) (a b : Int) (ha : 1 ≤ a) (hab : a ≤ b + 1) (hb : b ≤ (s.length : Int)) :
    ∃ r, strSliceF [.str s q, numI a .none, numI b .none] = .ok (.str r q) ∧
      r = (s.drop (a.toNat - 1)).take (b - a + 1).toNat ∧
      strLengthF [.str r q] = .ok (natV (b - a + 1).toNat) ∧
      (a ≤ b → lawLengthSlice a.toNat b.toNat (natV (b - a + 1).toNat) = true) := by
  refine ⟨_, strSliceF_int s q a b, slice_eq_take_drop s a b ha hab hb, ?_, ?_⟩
  · simp [strLengthF, assertString, length_slice s a b ha hab hb]
  · intro h
    simp only [lawLengthSlice, natOf_natV]
    simp
    omega

example : (1 : Int) ≤ 2 ∧ (2 : Int) ≤ 3 + 1 ∧ (3 : Int) ≤ ("abcd".toList.length : Int) := by decide +kernel

/-- negative positions count from the end (`-1` = last code point), on either argument -/
theorem C14_slice_neg (s : List Char) (q : Bool) (k e : Int) (hk1 : 1 ≤ k) (hk2 : k ≤ (s.length : Int)) :
    strSliceF [.str s q, numI (-k) .none, numI e .none] =
        strSliceF [.str s q, numI ((s.length : Int) - k + 1) .none, numI e .none] ∧
    strSliceF [.str s q, numI e .none, numI (-k) .none] =
        strSliceF [.str s q, numI e .none, numI ((s.length : Int) - k + 1) .none] := by
  simp only [strSliceF_int, slice_neg_start s k e hk1 hk2, slice_neg_end s e k hk1 hk2, and_self]

/-- positions beyond the ends are clamped; start `0` is start `1` -/
theorem C14_slice_clamp (s : List Char) (q : Bool) (a e : Int) (he : (s.length : Int) ≤ e) :
    strSliceF [.str s q, numI a .none, numI e .none] = strSliceF [.str s q, numI a .none, numI (s.length : Int) .none] ∧
    strSliceF [.str s q, numI 0 .none, numI e .none] = strSliceF [.str s q, numI 1 .none, numI e .none] := by
  simp only [strSliceF_int, slice_clamp_end s a e he, slice_start_zero, and_self]

theorem C14_slice_units_err (s : List Char) (q : Bool) (n : Int) :
    strSliceF [.str s q, numI n .px] = .error .hasUnits := by
  simp [strSliceF, assertString, intArg, numI]

theorem C14_slice_nonint_err (s : List Char) (q : Bool) (x : Rat) (h : asInt x = none) :
    strSliceF [.str s q, .num (.fin x) .none] = .error .notInt := by
  simp [strSliceF, assertString, intArg, h]

example : asInt (3/2) = none := by decide +kernel

theorem C14_slice_not_number_err (s : List Char) (q : Bool) :
    strSliceF [.str s q, .null] = .error .notNumber := by
  simp [strSliceF, assertString, intArg]

theorem C14_str_not_string_err (v : Value) (h : ∀ s q, v ≠ .str s q) :
    strLengthF [v] = .error .notString ∧ quoteF [v] = .error .notString ∧ unquoteF [v] = .error .notString ∧
      strSliceF [v, numI 1 .none] = .error .notString := by
  have ha : assertString v = .error .notString := by
    cases v <;> first | rfl | exact absurd rfl (h _ _)
  simp [strLengthF, quoteF, unquoteF, strSliceF, ha]

example : ∀ s q, (Value.null) ≠ .str s q := by intro s q h; cases h

/-- `str-length(str-insert(s, ins, i)) = str-length(s) + str-length(ins)` for every integer `i`;
    the quotes of `s` are kept -/
theorem C14_length_insert (s ins : List Char) (q q' : Bool) (i : Int) :
    ∃ r, strInsertF [.str s q, .str ins q', numI i .none] = .ok (.str r q) ∧
      strLengthF [.str r q] = .ok (natV (s.length + ins.length)) ∧
      lawLengthInsert (natV s.length) (natV ins.length) (natV (s.length + ins.length)) = true := by
  refine ⟨_, strInsertF_int s ins q q' i, ?_, ?_⟩
  · simp [strLengthF, assertString, length_insert]
  · simp [lawLengthInsert, natOf_natV]

/-- where the text goes: before position `i` for `1 ≤ i ≤ length + 1`; for `-k`, after the `k`-th code
    point from the end; beyond either end it is clamped to that end -/
theorem C14_insert_position (s ins : List Char) (q q' : Bool) :
    (∀ i : Int, 1 ≤ i → i ≤ (s.length : Int) + 1 →
      strInsertF [.str s q, .str ins q', numI i .none] = .ok (.str (s.take (i.toNat - 1) ++ ins ++ s.drop (i.toNat - 1)) q)) ∧
    (∀ k : Int, 1 ≤ k → k ≤ (s.length : Int) + 1 →
      strInsertF [.str s q, .str ins q', numI (-k) .none] =
        .ok (.str (s.take ((s.length : Int) - k + 1).toNat ++ ins ++ s.drop ((s.length : Int) - k + 1).toNat) q)) ∧
    (∀ i : Int, (s.length : Int) + 1 ≤ i → strInsertF [.str s q, .str ins q', numI i .none] = .ok (.str (s ++ ins) q)) ∧
    (∀ i : Int, i ≤ -((s.length : Int) + 1) → strInsertF [.str s q, .str ins q', numI i .none] = .ok (.str (ins ++ s) q)) := by
  refine ⟨?_, ?_, ?_, ?_⟩
  · intro i h1 h2; rw [strInsertF_int, insert_pos s ins i h1 h2]
  · intro k h1 h2; rw [strInsertF_int, insert_neg s ins k h1 h2]
  · intro i h; rw [strInsertF_int, insert_clamp_hi s ins i h]
  · intro i h; rw [strInsertF_int, insert_clamp_lo s ins i h]

theorem C14_insert_units_err (s ins : List Char) (q q' : Bool) (n : Int) :
    strInsertF [.str s q, .str ins q', numI n .px] = .error .hasUnits := by
  simp [strInsertF, assertString, intArg, numI]

/-- `str-index(s, sub) = i` ⇒ `str-slice(s, i, i + length(sub) − 1) = sub`, `sub` does not occur at
    any earlier position; `null` ⇔ `sub` occurs nowhere -/
theorem C14_index_slice (s sub : List Char) (q q' : Bool) (hne : sub ≠ []) :
    (∀ i, findSub sub s = some i →
      strIndexF [.str s q, .str sub q'] = .ok (natV (i + 1)) ∧
      strSliceF [.str s q, numI ((i : Int) + 1) .none, numI ((i : Int) + (sub.length : Int)) .none] = .ok (.str sub q) ∧
      occursAt sub s i = true ∧ (∀ j, j < i → occursAt sub s j = false)) ∧
    (findSub sub s = none →
      strIndexF [.str s q, .str sub q'] = .ok .null ∧ ∀ j, j ≤ s.length → occursAt sub s j = false) ∧
    ((∀ j, j ≤ s.length → occursAt sub s j = false) → strIndexF [.str s q, .str sub q'] = .ok .null) := by
  refine ⟨?_, ?_, ?_⟩
  · intro i h
    obtain ⟨h1, h2⟩ := findSub_some sub s i h
    refine ⟨by rw [strIndexF_str, h], ?_, h1, h2⟩
    rw [strSliceF_int, findSub_slice sub s i h hne]
  · intro h
    exact ⟨by rw [strIndexF_str, h], (findSub_none sub s).mp h⟩
  · intro h
    rw [strIndexF_str, (findSub_none sub s).mpr h]

example : findSub "é中".toList "aé中b".toList = some 1 := by decide +kernel

/-- `unquote(quote(s))` is `s` without quotes and `quote(unquote(s))` is `s` with quotes: the text is
    never changed by either -/
theorem C14_unquote_quote (s : List Char) (q : Bool) :
    ∃ a b, quoteF [.str s q] = .ok a ∧ unquoteF [a] = .ok (.str s false) ∧
      unquoteF [.str s q] = .ok b ∧ quoteF [b] = .ok (.str s true) ∧
      lawUnquoteQuote (.str s q) (.str s false) (.str s true) = true := by
  refine ⟨.str s true, .str s false, rfl, rfl, rfl, rfl, ?_⟩
  simp [lawUnquoteQuote, strOf, sameV]

/-- `to-upper-case` / `to-lower-case` change ASCII letters only and keep the length -/
theorem C14_case_length (s : List Char) (q : Bool) :
    ∃ a b, upperF [.str s q] = .ok (.str a q) ∧ lowerF [.str s q] = .ok (.str b q) ∧
      a.length = s.length ∧ b.length = s.length ∧
      (∀ c, c ∈ s → ¬ ('a' ≤ c ∧ c ≤ 'z') → upperC c = c) ∧ (∀ c, c ∈ s → ¬ ('A' ≤ c ∧ c ≤ 'Z') → lowerC c = c) := by
  refine ⟨s.map upperC, s.map lowerC, rfl, rfl, by simp, by simp, ?_, ?_⟩
  · intro c _ h; simp [upperC, h]
  · intro c _ h; simp [lowerC, h]

/-! ## maps -/

/-- all strings, under every variant of `==` (quotes are ignored, contents compared exactly) -/
theorem strKeys (e : Grass.Value.Sw) : KeyEquiv e (fun x => ∃ s q, x = .str s q) where
  refl := by rintro x ⟨s, q, rfl⟩; simp [veq]
  symm := by
    rintro x y ⟨s, q, rfl⟩ ⟨s', q', rfl⟩ h
    simp only [veq, decide_eq_true_eq] at h ⊢
    exact h.symm
  trans := by
    rintro x y z ⟨s, q, rfl⟩ ⟨s', q', rfl⟩ ⟨s'', q'', rfl⟩ h1 h2
    simp only [veq, decide_eq_true_eq] at h1 h2 ⊢
    exact h1.trans h2

/-- `map-get(map-merge(a, b), k)` is `map-get(b, k)` if `b` has the key, else `map-get(a, k)` -/
theorem C14_get_merge (sw : Sw) {P : Value → Prop} (E : KeyEquiv sw.eq P) (a b : VPairs) (q : Value)
    (ha : keysIn P a) (hb : keysIn P b) (hq : P q) (hd : distinctKeys sw.eq b = true) :
    ∃ r hB gA gB gR, mapMergeF sw [.map a, .map b] = .ok r ∧
      mapHasKeyF sw [.map b, q] = .ok hB ∧ mapGetF sw [.map a, q] = .ok gA ∧ mapGetF sw [.map b, q] = .ok gB ∧
      mapGetF sw [r, q] = .ok gR ∧
      hB = .bool (Grass.Value.get sw.eq b q).isSome ∧
      gR = (if (Grass.Value.get sw.eq b q).isSome then gB else gA) ∧
      lawGetMerge hB gA gB gR = true := by
  refine ⟨_, _, _, _, _, mapMergeF_maps sw a b, mapHasKeyF_map sw b q, mapGetF_map sw a q, mapGetF_map sw b q,
    mapGetF_map sw _ q, rfl, ?_, ?_⟩
  · rw [get_merge E a b q ha hb hq hd]
    cases Grass.Value.get sw.eq b q <;> simp
  · rw [get_merge E a b q ha hb hq hd]
    cases Grass.Value.get sw.eq b q <;> simp [lawGetMerge, sameV]

/-- the keys of `map-merge(a, b)` are those of `a` or `b` -/
theorem C14_keys_merge (sw : Sw) {P : Value → Prop} (E : KeyEquiv sw.eq P) (a b : VPairs) (q : Value)
    (ha : keysIn P a) (hb : keysIn P b) (hq : P q) (hd : distinctKeys sw.eq b = true) :
    ∃ r, mapMergeF sw [.map a, .map b] = .ok r ∧
      mapHasKeyF sw [r, q] =
        .ok (.bool ((Grass.Value.get sw.eq a q).isSome || (Grass.Value.get sw.eq b q).isSome)) ∧
      lawKeysMerge (.bool (Grass.Value.get sw.eq a q).isSome) (.bool (Grass.Value.get sw.eq b q).isSome)
        (.bool ((Grass.Value.get sw.eq a q).isSome || (Grass.Value.get sw.eq b q).isSome)) = true := by
  refine ⟨_, mapMergeF_maps sw a b, ?_, ?_⟩
  · rw [mapHasKeyF_map, get_merge E a b q ha hb hq hd]
    cases Grass.Value.get sw.eq b q <;> cases Grass.Value.get sw.eq a q <;> simp
  · simp [lawKeysMerge]

example : keysIn (fun x => ∃ s q, x = Value.str s q) (.cons (.str "a".toList false) .null (.cons (.str "b".toList true) .null .nil)) ∧
    distinctKeys Grass.Value.Sw.now (.cons (.str "a".toList false) .null (.cons (.str "b".toList true) .null .nil)) = true := by
  exact ⟨⟨⟨_, _, rfl⟩, ⟨_, _, rfl⟩, trivial⟩, by decide +kernel⟩

/-- `map-get(map.set(m, k, v), k) = v` (needs only `k == k`), and every other key keeps its value -/
theorem C14_get_set (sw : Sw) (m : VPairs) (k v : Value) (hr : veq sw.eq k k = true) :
    ∃ r, mapSetF sw [.map m, k, v] = .ok r ∧ mapGetF sw [r, k] = .ok v ∧ lawGetSet v v = true ∧
      ∀ {P : Value → Prop}, KeyEquiv sw.eq P → keysIn P m → P k → ∀ q, P q → veq sw.eq k q = false →
        mapGetF sw [r, q] = mapGetF sw [.map m, q] := by
  refine ⟨_, mapSetF_map sw m k v, ?_, ?_, ?_⟩
  · rw [mapGetF_map, get_insert_self sw.eq m k v hr]; rfl
  · simp [lawGetSet, sameV]
  · intro P E hm hk q hq hne
    rw [mapGetF_map, mapGetF_map, get_insert E m k v q hm hk hq]
    simp [hne]

/-- nested keys: `map-get(map.set(m, k₁ … kₙ, k, v), k₁ … kₙ, k) = v` (needs only `x == x` for the keys
    on the path) -/
theorem C14_get_set_nested (sw : Sw) (m : VPairs) (ks : List Value) (k v : Value)
    (hr : ∀ x, x ∈ ks → veq sw.eq x x = true) (hk : veq sw.eq k k = true) :
    ∃ r, mapSetF sw (.map m :: (ks ++ [k, v])) = .ok (.map r) ∧ mapGetF sw (.map r :: (ks ++ [k])) = .ok v := by
  refine ⟨_, mapSetF_nested sw m ks k v, ?_⟩
  rw [mapGetF_path sw _ _ (by simp), getPath_setNested sw ks m k v hr hk]

example : ∀ x, x ∈ [Value.str "a".toList false, Value.null] → veq Grass.Value.Sw.now x x = true := by
  intro x hx
  simp at hx
  rcases hx with rfl | rfl <;> simp [veq]

/-- the map that holds nothing but the path `k₁ … kₙ, key ↦ v` -/
def chain : List Value → Value → Value → VPairs
  | [], key, v => .cons key v .nil
  | k :: ks, key, v => .cons k (.map (chain ks key v)) .nil

theorem setNested_nil (sw : Sw) (ks : List Value) (key v : Value) :
    setNested sw ks .nil key v = chain ks key v := by
  induction ks with
  | nil => rfl
  | cons k ks ih => simp [setNested, childMap, Grass.Value.get, Grass.Value.insert, chain, ih]

/-- a path key that is missing, or whose value is not a map, starts a FRESH map: below it the result
    holds nothing but the rest of the path (nothing of `m` leaks into the new level) -/
theorem C14_set_fresh_level (sw : Sw) (m : VPairs) (k1 : Value) (ks : List Value) (key v : Value)
    (h : childMap sw m k1 = .nil) :
    mapSetF sw (.map m :: (k1 :: ks ++ [key, v])) =
      .ok (.map (Grass.Value.insert sw.eq m k1 (.map (chain ks key v)))) := by
  rw [mapSetF_nested sw m (k1 :: ks) key v]
  simp [setNested, h, setNested_nil]

example : childMap Sw.now (.cons (.str "b".toList false) (.map (.cons (.str "x".toList false) .null .nil)) .nil)
    (.str "a".toList false) = .nil := by
  simp [childMap, Grass.Value.get, veq]

/-- `map-has-key(m, k)` ⇔ some key of `map-keys(m)` is `== k` — whatever the value stored under it
    (`null`, `false`, `()` … are values like any other) -/
theorem C14_has_key_index (sw : Sw) (m : VPairs) (k : Value) :
    ∃ h i, mapHasKeyF sw [.map m, k] = .ok h ∧ mapKeysF [.map m] = .ok (.list (keys m) .comma false) ∧
      indexF sw [.list (keys m) .comma false, k] = .ok i ∧
      h = .bool (indexOf sw.eq (keys m) k).isSome ∧ lawHasKeyIndex h i = true := by
  refine ⟨_, _, mapHasKeyF_map sw m k, rfl, indexF_eq sw _ k, by rw [isSome_indexOf_keys], ?_⟩
  rw [← isSome_indexOf_keys]
  show lawHasKeyIndex _ (match indexOf sw.eq (keys m) k with | some i => natV (i + 1) | none => .null) = true
  cases indexOf sw.eq (keys m) k <;> rfl

example : mapHasKeyF Sw.now [.map (.cons (.str "a".toList false) .null .nil), .str "a".toList true] = .ok (.bool true) := by
  simp [mapHasKeyF, assertMap, tryMap, Grass.Value.get, veq, hasPath]

/-- `map-keys` / `map-values` are unbracketed comma lists with one element per entry, and `length`
    of the map itself is the number of entries -/
theorem C14_keys_values_length (m : VPairs) :
    mapKeysF [.map m] = .ok (.list (keys m) .comma false) ∧ mapValuesF [.map m] = .ok (.list (values m) .comma false) ∧
    lengthF [.list (keys m) .comma false] = .ok (natV m.length) ∧
    lengthF [.list (values m) .comma false] = .ok (natV m.length) ∧
    lengthF [.map m] = .ok (natV m.length) := by
  refine ⟨rfl, rfl, ?_, ?_, ?_⟩
  · simp [lengthF, elems, asList, length_keys]
  · simp [lengthF, elems, asList, length_values]
  · simp [lengthF, elems, asList, length_pairsAsList]

/-- `map-get(map-remove(m, k), k) = null` and the key is gone, when removal is by `==`
    (`sw.eq.removeEq`; before C09's K4 was repaired it was by `not_equals`) -/
theorem C14_remove_get (sw : Sw) (h : sw.eq.removeEq = true) (m : VPairs) (k : Value) :
    ∃ r, mapRemoveF sw [.map m, k] = .ok r ∧ mapGetF sw [r, k] = .ok .null ∧
      mapHasKeyF sw [r, k] = .ok (.bool false) ∧ lawRemoveGet .null (.bool false) = true ∧
      ∀ {P : Value → Prop}, KeyEquiv sw.eq P → keysIn P m → P k → ∀ q, P q → veq sw.eq k q = false →
        mapGetF sw [r, q] = mapGetF sw [.map m, q] := by
  refine ⟨_, mapRemoveF_map sw m k, ?_, ?_, ?_, ?_⟩
  · rw [mapGetF_map, get_remove_self sw.eq h m k]; rfl
  · rw [mapHasKeyF_map, get_remove_self sw.eq h m k]; rfl
  · simp [lawRemoveGet, sameV]
  · intro P E hm hk q hq hne
    rw [mapGetF_map, mapGetF_map, get_remove_other E h m k q hm hk hq hne]

/-- the code as it stands removes by `==` -/
theorem C14_remove_get_now (m : VPairs) (k : Value) :
    ∃ r, mapRemoveF Sw.now [.map m, k] = .ok r ∧ mapGetF Sw.now [r, k] = .ok .null ∧
      mapHasKeyF Sw.now [r, k] = .ok (.bool false) :=
  let ⟨r, h1, h2, h3, _⟩ := C14_remove_get Sw.now rfl m k
  ⟨r, h1, h2, h3⟩

example : Sw.spec.eq.removeEq = true := rfl

/-- `map.deep-remove(m, k)` with a single key removes it (when removal is by `==`) -/
theorem C14_deep_remove_get (sw : Sw) (h : sw.eq.removeEq = true) (m : VPairs) (k : Value) :
    ∃ r, deepRemoveF sw [.map m, k] = .ok (.map r) ∧ mapGetF sw [.map r, k] = .ok .null ∧
      mapHasKeyF sw [.map r, k] = .ok (.bool false) := by
  obtain ⟨r, hr⟩ : ∃ r, dropKey sw k (.map m) = .map r := by
    unfold dropKey
    simp only [tryMap]
    split
    · exact ⟨_, rfl⟩
    · exact ⟨_, rfl⟩
  have hg : Grass.Value.get sw.eq r k = none := dropKey_get sw h k (.map m) r (by rw [hr]; rfl)
  refine ⟨r, ?_, ?_, ?_⟩
  · simp [deepRemoveF, assertMap, tryMap, hr]
  · rw [mapGetF_map, hg]
    rfl
  · rw [mapHasKeyF_map, hg]
    rfl

/-- `map.deep-merge(a, b)` at a key: absent from `b` ⇒ `a`'s value; both values maps (`()` counts as the
    empty map) ⇒ the deep merge of the two; otherwise `b`'s value -/
theorem C14_deep_merge_get (sw : Sw) {P : Value → Prop} (E : KeyEquiv sw.eq P) (a b : VPairs) (q : Value)
    (ha : keysIn P a) (hb : keysIn P b) (hq : P q) (hd : distinctKeys sw.eq b = true) :
    ∃ r, deepMergeF sw [.map a, .map b] = .ok r ∧
      mapGetF sw [r, q] =
        (match Grass.Value.get sw.eq b q with
         | none => mapGetF sw [.map a, q]
         | some vb =>
           match (Grass.Value.get sw.eq a q).bind tryMap, tryMap vb with
           | some ma, some mb => deepMergeF sw [.map ma, .map mb]
           | _, _ => .ok vb) := by
  refine ⟨_, deepMergeF_maps sw a b, ?_⟩
  rw [mapGetF_map, get_deepMerge sw E a b q ha hb hq hd]
  cases hB : Grass.Value.get sw.eq b q with
  | none => rfl
  | some vb =>
    simp only [Option.getD_some, dmVal_eq]
    cases (Grass.Value.get sw.eq a q).bind tryMap <;> cases tryMap vb <;> simp [deepMergeF_maps]

/-- the law the check evaluates on grass's own answers follows -/
theorem C14_deep_merge_get_law (sw : Sw) {P : Value → Prop} (E : KeyEquiv sw.eq P) (a b : VPairs) (q : Value)
    (ha : keysIn P a) (hb : keysIn P b) (hq : P q) (hd : distinctKeys sw.eq b = true) :
    lawDeepMergeGet (.bool (Grass.Value.get sw.eq b q).isSome)
      ((Grass.Value.get sw.eq a q).getD .null) ((Grass.Value.get sw.eq b q).getD .null)
      (match tryMap ((Grass.Value.get sw.eq a q).getD .null), tryMap ((Grass.Value.get sw.eq b q).getD .null) with
        | some ma, some mb => .map (deepMerge sw ma mb)
        | _, _ => .null)
      ((Grass.Value.get sw.eq (deepMerge sw a b) q).getD .null) = true := by
  rw [get_deepMerge sw E a b q ha hb hq hd]
  cases hB : Grass.Value.get sw.eq b q with
  | none => simp [lawDeepMergeGet, sameV]
  | some vb =>
    simp only [Option.getD_some, dmVal_eq, Option.isSome_some, lawDeepMergeGet]
    cases hA : Grass.Value.get sw.eq a q with
    | none => simp [tryMap, sameV]
    | some va =>
      simp only [Option.bind_some, Option.getD_some]
      cases tryMap va <;> cases tryMap vb <;> simp [sameV]

theorem C14_map_not_map_err (sw : Sw) (k : Value) (n : Num) (u : U) :
    mapGetF sw [.num n u, k] = .error .notMap ∧ mapKeysF [.num n u] = .error .notMap ∧
      mapMergeF sw [.num n u, .map .nil] = .error .notMap ∧ mapMergeF sw [.map .nil, .num n u] = .error .notMap := by
  simp [mapGetF, mapKeysF, mapMergeF, assertMap, tryMap]

theorem C14_map_missing_err (sw : Sw) (m : Value) :
    mapGetF sw [m] = .error .missingArg ∧ mapHasKeyF sw [m] = .error .missingArg ∧
      mapMergeF sw [m] = .error .noKey ∧ deepMergeF sw [] = .error .missingArg ∧
      (∀ ps, deepMergeF sw [.map ps] = .error .missingArg) := by
  simp [mapGetF, mapHasKeyF, mapMergeF, deepMergeF, assertMap, tryMap]

/-- arity of `map.set`: after the map, a key and a value are required -/
theorem C14_map_set_arity_err (sw : Sw) (h : sw.setArity = true) (ps : VPairs) (v : Value) (n : Num) (u : U) :
    mapSetF sw [.map ps] = .error .noKey ∧ mapSetF sw [.map ps, v] = .error .noValue ∧
    mapSetF sw [] = .error .missingArg ∧ mapSetF sw [.num n u, v] = .error .notMap := by
  simp [mapSetF, assertMap, tryMap, h]

theorem C14_map_set_arity_err_now (ps : VPairs) (v : Value) :
    mapSetF Sw.now [.map ps] = .error .noKey ∧ mapSetF Sw.now [.map ps, v] = .error .noValue :=
  let ⟨h1, h2, _, _⟩ := C14_map_set_arity_err Sw.now rfl ps v .nan .none
  ⟨h1, h2⟩

/-! ## `index`, `string.split`, key paths -/

def isErr (r : R) (e : Err) : Bool := match r with | .error x => x == e | _ => false

def isOk (r : R) (v : Value) : Bool := match r with | .ok x => sameV x v | _ => false

/-- `index(l, v)` is the 1-based position of the FIRST element `== v`: that element is `== v`, none
    before it is; `null` iff no element is `== v` -/
theorem C14_index_first (sw : Sw) (l v : Value) :
    (∀ i, indexOf sw.eq (asList l) v = some i →
      indexF sw [l, v] = .ok (natV (i + 1)) ∧
      (∃ x, (elems l)[i]? = some x ∧ veq sw.eq x v = true) ∧
      (∀ j, j < i → ∀ y, (elems l)[j]? = some y → veq sw.eq y v = false) ∧
      lawIndexFirst sw l v (natV (i + 1)) = true) ∧
    (indexOf sw.eq (asList l) v = none →
      indexF sw [l, v] = .ok .null ∧ (∀ y, y ∈ elems l → veq sw.eq y v = false) ∧
      lawIndexFirst sw l v .null = true) ∧
    (indexF sw [l, v] = .ok .null → ∀ y, y ∈ elems l → veq sw.eq y v = false) := by
  refine ⟨?_, ?_, ?_⟩
  · intro i h
    obtain ⟨⟨x, hx, hxv⟩, hlt⟩ := indexOf_some sw.eq (asList l) v i h
    refine ⟨by rw [indexF_eq, h], ⟨x, hx, hxv⟩, hlt, ?_⟩
    have hx' : (elems l)[i]? = some x := hx
    simp only [lawIndexFirst, natV]
    have hn : natOf (natV (i + 1)) = some (i + 1) := natOf_natV _
    simp only [natV] at hn
    simp only [hn, hx', hxv, Bool.true_and, List.all_eq_true, List.mem_range]
    intro j hj
    cases hy : (elems l)[j]? with
    | none => rfl
    | some y => simp [hlt j hj y hy]
  · intro h
    have hn := (indexOf_none sw.eq (asList l) v).mp h
    refine ⟨by rw [indexF_eq, h], hn, ?_⟩
    simp only [lawIndexFirst, List.all_eq_true]
    intro e he
    simp [hn e he]
  · intro h
    rw [indexF_eq] at h
    cases hi : indexOf sw.eq (asList l) v with
    | none => exact (indexOf_none sw.eq (asList l) v).mp hi
    | some i =>
      rw [hi] at h
      cases h

example : isOk (indexF Sw.now [mkList [.str "a".toList false, .str "b".toList true, .str "b".toList false] .space false,
    .str "b".toList false]) (natV 2) = true := by decide +kernel

/-- `string.split(s, sep[, limit])` for EVERY `s` and `sep` (empty ones included): a bracketed comma
    list of quoted strings that, joined with `sep`, give `s` back; with `$limit: k` (`k ≥ 1`) at most
    `k + 1` of them; a limit below 1 is an error -/
theorem C14_split_join (s sep : List Char) (q q' : Bool) :
    (∃ ps, splitF [.str s q, .str sep q'] = .ok (mkList (ps.map (fun p => Value.str p true)) .comma true) ∧
      joinWith sep ps = s ∧ 1 ≤ ps.length ∧
      lawSplitJoin (.str s q) (.str sep q') none (mkList (ps.map (fun p => Value.str p true)) .comma true) = true) ∧
    (∀ k : Nat, 1 ≤ k →
      ∃ ps, splitF [.str s q, .str sep q', numI (k : Int) .none] = .ok (mkList (ps.map (fun p => Value.str p true)) .comma true) ∧
        joinWith sep ps = s ∧ 1 ≤ ps.length ∧ ps.length ≤ k + 1 ∧
        lawSplitJoin (.str s q) (.str sep q') (some k) (mkList (ps.map (fun p => Value.str p true)) .comma true) = true) ∧
    (∀ k : Int, k < 1 → splitF [.str s q, .str sep q', numI k .none] = .error .limitRange) := by
  refine ⟨?_, ?_, ?_⟩
  · exact ⟨splitPieces sep (s.length + 1) s, by simp [splitF, assertString, limitArg], joinWith_splitPieces _ _ _,
      length_splitPieces_pos _ _ _, lawSplitJoin_splitPieces s sep q q' none _ (fun _ h => nomatch h)⟩
  · intro k hk
    exact ⟨splitPieces sep k s, by simp [splitF, assertString, limitArg_nat k hk], joinWith_splitPieces _ _ _,
      length_splitPieces_pos _ _ _, length_splitPieces_le _ _ _,
      lawSplitJoin_splitPieces s sep q q' (some k) k (fun _ h => Option.some.inj h)⟩
  · intro k hk
    simp [splitF, assertString, limitArg, numI, asInt_intCast, hk]

example : isOk (splitF [.str "a,b,,c".toList true, .str ",".toList true, numI 2 .none])
    (mkList [.str "a".toList true, .str "b".toList true, .str ",c".toList true] .comma true) = true := by decide +kernel

/-- the empty operands, as the code behaves (`str::split`): an empty separator cuts at every code-point
    boundary, the two ends included; an empty string is one empty piece -/
theorem C14_split_empty_operands (s sep : List Char) (q q' : Bool) :
    splitF [.str s q, .str [] q'] =
      .ok (mkList (([] :: (s.map (fun c => [c]) ++ [[]])).map (fun p => Value.str p true)) .comma true) ∧
    (sep ≠ [] → splitF [.str [] q, .str sep q'] = .ok (mkList [.str [] true] .comma true)) := by
  constructor
  · simp [splitF, assertString, limitArg, splitPieces, splitEmpty, splitEmptyRest_all]
  · intro h
    simp [splitF, assertString, limitArg, splitPieces, h, splitAux]

/-- nested keys: `map-get(m, k₁ … kₙ, k)` / `map-has-key(m, k₁ … kₙ, k)` are the single-level functions on
    the nested map the path `k₁ … kₙ` leads to; `null` / `false` when a key on the path is missing or its
    value is not a map -/
theorem C14_get_has_key_path (sw : Sw) (m : VPairs) (ks : List Value) (k : Value) :
    mapGetF sw (.map m :: (ks ++ [k])) =
      .ok (match subMap sw ks (.map m) with | some m' => (Grass.Value.get sw.eq m' k).getD .null | none => .null) ∧
    mapHasKeyF sw (.map m :: (ks ++ [k])) =
      .ok (.bool (match subMap sw ks (.map m) with | some m' => (Grass.Value.get sw.eq m' k).isSome | none => false)) := by
  rw [mapGetF_path sw m _ (by simp), mapHasKeyF_path sw m _ (by simp), getPath_snoc, hasPath_snoc]
  exact ⟨rfl, rfl⟩

example : (subMap Sw.now [.str "a".toList false]
    (.map (.cons (.str "a".toList false) (.map (.cons (.str "b".toList false) .null .nil)) .nil))).isSome = true := by
  decide +kernel

/-- a key whose value is `null` is there: `map-has-key` is `true` while `map-get` is `null` -/
example : isOk (mapHasKeyF Sw.now [.map (.cons (.str "a".toList false) (.map (.cons (.str "b".toList false) .null .nil)) .nil),
    .str "a".toList false, .str "b".toList false]) (.bool true) = true ∧
  isOk (mapGetF Sw.now [.map (.cons (.str "a".toList false) (.map (.cons (.str "b".toList false) .null .nil)) .nil),
    .str "a".toList false, .str "b".toList false]) .null = true := by decide +kernel

/-- `map.deep-remove(m, k₁ … kₙ, last)` (`n ≥ 1`, removal by `==`, `x == x` for the keys on the path):
    afterwards the path reads `null` and `map-has-key` along it is `false` — also when a key on the path was
    missing (the code then stores `kₙ: null` at the last level, which reads `null` as well).
    That every OTHER path reads as before is not proved here (it is the law `deep_remove` the check
    evaluates on grass's own answers, and part of the correspondence). -/
theorem C14_deep_remove_path (sw : Sw) (h : sw.eq.removeEq = true) (m : VPairs) (k1 : Value) (ks : List Value) (last : Value)
    (hr : ∀ x, x ∈ k1 :: ks → veq sw.eq x x = true) :
    ∃ r, deepRemoveF sw (.map m :: (k1 :: ks ++ [last])) = .ok (.map r) ∧
      mapGetF sw (.map r :: (k1 :: ks ++ [last])) = .ok .null ∧
      mapHasKeyF sw (.map r :: (k1 :: ks ++ [last])) = .ok (.bool false) ∧
      lawDeepRemove .null .null .null = true := by
  have hnone : ∀ m', subMap sw (k1 :: ks) (.map (modNested sw last (k1 :: ks) m)) = some m' →
      Grass.Value.get sw.eq m' last = none :=
    subMap_modNested sw h last (k1 :: ks) (by simp) hr m
  obtain ⟨hg, hk⟩ := C14_get_has_key_path sw (modNested sw last (k1 :: ks) m) (k1 :: ks) last
  have hd := deepRemoveF_path sw m (k1 :: ks) (by simp) last
  cases hs : subMap sw (k1 :: ks) (.map (modNested sw last (k1 :: ks) m)) with
  | none =>
    simp only [hs] at hg hk
    exact ⟨_, hd, hg, hk, rfl⟩
  | some m' =>
    simp only [hs, hnone m' hs] at hg hk
    exact ⟨_, hd, hg, hk, rfl⟩

example : isOk (deepRemoveF Sw.now [.map (.cons (.str "a".toList false) (natV 1) .nil), .str "z".toList false, .str "y".toList false])
    (.map (.cons (.str "a".toList false) (natV 1) (.cons (.str "z".toList false) .null .nil))) = true := by decide +kernel

/-! ## named arguments -/

/-- **named call = positional call.**  `f` a fixed-arity built-in whose parameters are `pre ++ mid ++ post`;
    the `pre` ones are given by position, the `mid` ones by name (in any order; `vals` are their values
    in parameter order), the `post` ones not at all.  (The guards of the documented variant:
    `C14_named_guard`.) -/
theorem C14_named_eq_positional (sw : Sw) (f : String) (sg : Sig) (pre mid post : List String)
    (pos vals : List Value) (nm : Named)
    (hsig : sigOf f = some sg) (hmax : sg.max = some sg.params.length) (hpar : sg.params = pre ++ (mid ++ post))
    (hf : (f == "slash") = false ∧ (f == "map-merge") = false ∧ (f == "map-set") = false)
    (hpos : pre.length = pos.length) (hnm : nm.length = mid.length) (hne : nm.isEmpty = false)
    (hpre : ∀ p, p ∈ pre → nm.get p = none) (hmid : mid.map nm.get = vals.map some)
    (hpost : ∀ p, p ∈ post → nm.get p = none)
    (hstrict : sw.namedStrict = true → namesKnown f nm = true ∧ namesFresh f pos.length nm = true) :
    callN sw f pos nm = call sw f (pos ++ vals) :=
  callN_fixed sw f sg pre [] mid post pos [] vals _ nm hsig hmax hpar rfl hf hpos rfl hnm hne hpre
    (fun _ h => nomatch h) hmid hpost hstrict

/-- `join(a, b, $bracketed: true, $separator: comma)` is `join(a, b, comma, true)` -/
example (sw : Sw) (a b : Value) :
    callN sw "join" [a, b] [("bracketed", .bool true), ("separator", .str "comma".toList false)] =
      call sw "join" [a, b, .str "comma".toList false, .bool true] := by
  refine C14_named_eq_positional sw "join" _
    ["list1", "list2"] ["separator", "bracketed"] [] [a, b] [.str "comma".toList false, .bool true] _
    sigOf_join rfl rfl (by decide +kernel) rfl rfl rfl ?_ ?_ (by simp) ?_
  · simp [Named.get]
  · simp [Named.get]
  · intro _
    simp only [List.length_cons, List.length_nil]
    decide +kernel

/-- an optional parameter left out in between takes its default: `join(a, b, $bracketed: v)` is
    `join(a, b, auto, v)` -/
theorem C14_named_default_between (sw : Sw) (a b v : Value) :
    callN sw "join" [a, b] [("bracketed", v)] = call sw "join" [a, b, autoV, v] := by
  refine callN_fixed sw "join" _ ["list1", "list2"] ["separator"] ["bracketed"] [] [a, b] [autoV] [v] [some autoV] _
    sigOf_join rfl rfl rfl (by decide +kernel) rfl rfl rfl rfl ?_ ?_ ?_ (fun _ h => nomatch h) ?_
  · simp [Named.get]
  · simp [Named.get]
  · simp [Named.get]
  · intro _
    simp [namesKnown, namesFresh, docParams, sigOf_join, noDup]

/-- what the documented variant demands of the names: each is a parameter, none twice, none also
    given by position; otherwise the call is an error (K14e: the code accepts such calls) -/
theorem C14_named_guard (sw : Sw) (h : sw.namedStrict = true) (f : String) (pos : List Value) (nm : Named)
    (hne : nm.isEmpty = false) :
    (namesKnown f nm = false → callN sw f pos nm = some (.error .noNamedArg)) ∧
    (namesKnown f nm = true → (f == "map-merge") = false → (f == "map-set") = false → namesFresh f pos.length nm = false →
      callN sw f pos nm = some (.error .dupArg)) := by
  constructor
  · intro hk; simp [callN, hne, h, hk]
  · intro hk h1 h2 hf; simp [callN, hne, h, hk, h1, h2, hf]

/-- K14e (open): the code accepts a name that is no parameter and a parameter given twice; documented: an error -/
theorem C14_asFound_named_unchecked :
    isOk ((callN Sw.now "join" [.str "a".toList false, .str "b".toList false] [("foo", natV 1)]).getD (.error .unsupported))
      (mkList [.str "a".toList false, .str "b".toList false] .space false) = true ∧
    isErr ((callN { Sw.now with namedStrict := true } "join" [.str "a".toList false, .str "b".toList false] [("foo", natV 1)]).getD (.ok .null))
      .noNamedArg = true ∧
    isOk ((callN Sw.now "append" [mkList [natV 1, natV 2] .space false, natV 3] [("val", natV 4)]).getD (.error .unsupported))
      (mkList [natV 1, natV 2, natV 4] .space false) = true ∧
    isErr ((callN { Sw.now with namedStrict := true } "append" [mkList [natV 1, natV 2] .space false, natV 3] [("val", natV 4)]).getD (.ok .null))
      .dupArg = true := by
  decide +kernel

/-! ## module members ≡ global aliases -/

/-- every member of `sass:list`, `sass:map`, `sass:string` (but `unique-id`) is modelled, and a member
    implemented by the same Rust function as a global name is the same model function: the two calls
    are equal for all arguments, positional and named, under every variant -/
theorem C14_module_alias_same (sw : Sw) (mod mem g : String) (pos : List Value) (nm : Named)
    (h : rustOfMember mod mem = rustOfGlobal g) :
    callMember sw mod mem pos nm = callGlobal sw g pos nm := by
  simp only [callMember, callGlobal, h]

/-- the premise holds for every global name of a list/map/string function, with the member the check calls -/
theorem C14_module_alias_table :
    (Grass.Generated.moduleTable.filter (fun e => e.1 == "list" || e.1 == "map" || e.1 == "string")).all
      (fun e => e.2.1 == "unique-id" || (modelOfRust e.2.2).isSome) = true ∧
    (Grass.Generated.globalTable.filter (fun e => (modelOfRust e.2).isSome)).all
      (fun e => (Grass.Generated.moduleTable.any (fun m => m.2.2 == e.2 && rustOfMember m.1 m.2.1 == rustOfGlobal e.1))) = true ∧
    rustOfMember "list" "separator" = rustOfGlobal "list-separator" ∧
    rustOfMember "map" "get" = rustOfGlobal "map-get" ∧
    rustOfMember "string" "slice" = rustOfGlobal "str-slice" := by
  decide +kernel

/-! ## witnesses for the code before the repairs (`Sw.beforeFix`) against the code as it stands (`Sw.now`) -/

def m2 : Value := .map (.cons (.str "a".toList false) (natV 1) (.cons (.str "c".toList false) (natV 2) .nil))

def l3 : Value := mkList [.str "a".toList false, .str "b".toList false, .str "c".toList false] .space false

/-- K14a (repaired in 6e994a1): before, `length(append((a: 1, c: 2), b))` was 2; now 3 -/
theorem C14_asFound_before_fix_append_map :
    (match appendF Sw.beforeFix [m2, .null] with | .ok r => lengthF [r] | e => e) = .ok (natV 2) ∧
    (match appendF Sw.now [m2, .null] with | .ok r => lengthF [r] | e => e) = .ok (natV 3) := by
  constructor <;> rfl

/-- K14b (repaired in 30ed358): before, `length(join(args(1, 2), (3, 4)))` was 3; now 4 -/
theorem C14_asFound_before_fix_join_arglist :
    (match joinF Sw.beforeFix [.arglist (.cons .null (.cons .null .nil)) .nil .comma, mkList [.null, .null] .comma false] with
      | .ok r => lengthF [r] | e => e) = .ok (natV 3) ∧
    (match joinF Sw.now [.arglist (.cons .null (.cons .null .nil)) .nil .comma, mkList [.null, .null] .comma false] with
      | .ok r => lengthF [r] | e => e) = .ok (natV 4) := by
  constructor <;> rfl

/-- K14c (repaired in ca51d14): before, `nth(a b c, 3.000000000001)` was an index error although the
    index is the integer 3 by the documented tolerance, and `nth(a b c, 3.5)` an index error rather
    than "not an int"; now `c` and "not an int" -/
theorem C14_asFound_before_fix_nth_fuzzy :
    isErr (nthF Sw.beforeFix [l3, .num (.fin (3000000000001 / 1000000000000)) .none]) .indexRange = true ∧
    isOk (nthF Sw.now [l3, .num (.fin (3000000000001 / 1000000000000)) .none]) (.str "c".toList false) = true ∧
    isErr (nthF Sw.beforeFix [l3, .num (.fin (7 / 2)) .none]) .indexRange = true ∧
    isErr (nthF Sw.now [l3, .num (.fin (7 / 2)) .none]) .notInt = true := by
  decide +kernel

/-- K14d (repaired in 1b37b59): before, `map.set((a: 1), 2)` answered `(a: 1, null: 2)`; now it fails -/
theorem C14_asFound_before_fix_map_set_arity :
    isOk (mapSetF Sw.beforeFix [.map (.cons (.str "a".toList false) (natV 1) .nil), natV 2])
      (.map (.cons (.str "a".toList false) (natV 1) (.cons .null (natV 2) .nil))) = true ∧
    isErr (mapSetF Sw.now [.map (.cons (.str "a".toList false) (natV 1) .nil), natV 2]) .noValue = true := by
  decide +kernel

end Grass.Builtins
