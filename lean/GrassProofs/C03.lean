import Grass.Scope
import Grass.Eval
import GrassProofs.Lemmas.Scope
import GrassProofs.Lemmas.Eval
import GrassProofs.Lemmas.EvalScope
import GrassProofs.Lemmas.EvalSem
/-
  C03 — SassScript evaluation follows the language scoping and control-flow rules.

  Part 1: CACHE TRANSPARENCY.  grass's `Scopes` (Grass/Scope.lean, written from
  evaluate/scope.rs, env.rs:341 and the environment switches of visitor.rs) answers every variable
  lookup exactly as the cache-free specification `stepSpec` does, for every sequence of
  operations: scope entry/exit, loop/argument bindings, plain / semi-global / `!global`
  assignment, lookups, closure creation, closure calls, `for_import` switches and returns.
  All theorems are about `Cfg.now` (the code as it stands).  The `C03_asFound_…` theorems at the
  end show that each of the two variants found on tree 8539e4d (defect D3) violates the
  refinement, with the concrete traces.
-/
namespace Grass.Scope

/-- Structural well-formedness of one environment w.r.t. the heap (grass asserts the first clause
    with `debug_assert_eq!(self.len(), variables.len())` in every method). -/
structure Scopes.WF (h : Heap) (s : Scopes) : Prop where
  len_eq : s.len = s.vars.length
  ne : s.vars ≠ []
  valid : ∀ f ∈ s.vars, f < h.length
  nodup : s.vars.Nodup

/-- The cache invariant: a cached `(name, index)` is what a full scan would find — frame `index`
    holds the name and no frame above it does. -/
def CacheOk (h : Heap) (s : Scopes) : Prop :=
  ∀ m i, s.cache = some (m, i) → find h s.vars m = some i

/-- The invariant is local to the running environment: suspended and stored environments only
    need to be well-formed, because their cache is discarded whenever they are resumed/called. -/
structure Inv (w : World) : Prop where
  cur_wf : w.cur.WF w.heap
  cur_cache : CacheOk w.heap w.cur
  saved_wf : ∀ s ∈ w.saved, s.WF w.heap
  clos_wf : ∀ s ∈ w.closures, s.WF w.heap

theorem Scopes.WF.mono {h h' : Heap} {s : Scopes} (hl : h.length ≤ h'.length) (w : s.WF h) : s.WF h' :=
  ⟨w.len_eq, w.ne, fun f hf => Nat.lt_of_lt_of_le (w.valid f hf) hl, w.nodup⟩

theorem wfB_iff (h : Heap) (s : Scopes) : s.wfB h = true ↔ s.WF h := by
  simp only [Scopes.wfB, Bool.and_eq_true, beq_iff_eq, Bool.not_eq_true', List.isEmpty_eq_false_iff,
    List.all_eq_true, decide_eq_true_eq]
  exact ⟨fun ⟨⟨⟨a, b⟩, c⟩, d⟩ => ⟨a, b, c, d⟩, fun w => ⟨⟨⟨w.len_eq, w.ne⟩, w.valid⟩, w.nodup⟩⟩

theorem cacheOkB_iff (h : Heap) (s : Scopes) : s.cacheOkB h = true ↔ CacheOk h s := by
  unfold Scopes.cacheOkB CacheOk
  cases s.cache with
  | none => simp
  | some p =>
    obtain ⟨m, i⟩ := p
    simp

/-- The decidable form of the invariant that the driver evaluates after every step is the same
    predicate. -/
theorem C03_invB_iff (w : World) : invB w = true ↔ Inv w := by
  unfold invB
  simp only [Bool.and_eq_true, List.all_eq_true, wfB_iff, cacheOkB_iff]
  exact ⟨fun ⟨⟨⟨a, b⟩, c⟩, d⟩ => ⟨a, b, c, d⟩, fun ⟨a, b, c, d⟩ => ⟨⟨⟨a, b⟩, c⟩, d⟩⟩

/-- The initial world (one empty global frame, no cache) satisfies the invariant. -/
theorem C03_inv_init : Inv World.init := by
  rw [← C03_invB_iff]; decide

/-! ### `find_var` and `get_var` under the invariant -/

theorem findVar_spec (h : Heap) (s : Scopes) (n : Name) (hc : CacheOk h s) :
    (findVar h s n).1 = find h s.vars n ∧ (findVar h s n).2.vars = s.vars ∧
    (findVar h s n).2.len = s.len := by
  have scan : ∀ (o : Option Nat × Scopes),
      o = (match find h s.vars n with
        | some i => (some i, { s with cache := some (n, i) })
        | none => (none, s)) →
      o.1 = find h s.vars n ∧ o.2.vars = s.vars ∧ o.2.len = s.len := by
    rintro _ rfl
    cases find h s.vars n <;> exact ⟨rfl, rfl, rfl⟩
  unfold findVar
  cases hcache : s.cache with
  | none => exact scan _ rfl
  | some p =>
    obtain ⟨m, i⟩ := p
    simp only []
    split
    next e =>
      obtain rfl : m = n := by simpa using e
      exact ⟨(hc m i hcache).symm, rfl, rfl⟩
    next => exact scan _ rfl

theorem getVar_spec (h : Heap) (s : Scopes) (n : Name) (hc : CacheOk h s) :
    (getVar h s n).1 = lookupSpec h s.vars n ∧ (getVar h s n).2.vars = s.vars ∧
    (getVar h s n).2.len = s.len ∧ CacheOk h (getVar h s n).2 := by
  have scan : ∀ (o : Out × Scopes),
      o = (match find h s.vars n with
        | some i =>
          match frameAt s.vars i with
          | some fid =>
            match getAt h fid n with
            | some v => (Out.val v, { s with cache := some (n, i) })
            | none => (.panic, s)
          | none => (.panic, s)
        | none => (.undefined, s)) →
      o.1 = lookupSpec h s.vars n ∧ o.2.vars = s.vars ∧ o.2.len = s.len ∧ CacheOk h o.2 := by
    rintro _ rfl
    cases hf : find h s.vars n with
    | none => exact ⟨(lookupSpec_none h s.vars n hf).symm, rfl, rfl, hc⟩
    | some i =>
      obtain ⟨fid, v, h1, h3, h4⟩ := lookupSpec_some h s.vars n i hf
      simp only [h1, h3]
      refine ⟨h4.symm, trivial, trivial, fun m j e => ?_⟩
      cases e
      exact hf
  unfold getVar
  cases hcache : s.cache with
  | none => exact scan _ rfl
  | some p =>
    obtain ⟨m, i⟩ := p
    simp only []
    split
    next e =>
      obtain rfl : m = n := by simpa using e
      obtain ⟨fid, v, h1, h3, h4⟩ := lookupSpec_some h s.vars m i (hc m i hcache)
      simp only [h1, h3]
      exact ⟨h4.symm, trivial, trivial, hc⟩
    next => exact scan _ rfl

/-! ### one step: simulation and invariant preservation -/

theorem frameAt_last_of_wf {h : Heap} {s : Scopes} (w : s.WF h) :
    ∃ g gs, s.vars = g :: gs ∧ s.len ≠ 0 ∧ frameAt s.vars (s.len - 1) = some g := by
  obtain ⟨g, gs, hv⟩ := List.exists_cons_of_ne_nil w.ne
  have hl : s.len = gs.length + 1 := by rw [w.len_eq, hv]; rfl
  exact ⟨g, gs, hv, by rw [hl]; exact Nat.succ_ne_zero _, by rw [hl, hv]; exact frameAt_top g gs⟩

theorem Scopes.WF.congr {h : Heap} {s s' : Scopes} (w : s.WF h) (hv : s'.vars = s.vars)
    (hl : s'.len = s.len) : s'.WF h := by
  refine ⟨?_, ?_, ?_, ?_⟩
  · rw [hl, hv]; exact w.len_eq
  · rw [hv]; exact w.ne
  · rw [hv]; exact w.valid
  · rw [hv]; exact w.nodup

theorem CacheOk.of_none {h : Heap} {s : Scopes} (hc : s.cache = none) : CacheOk h s := by
  intro m i e; rw [hc] at e; cases e

/-- Writing `n` into the frame at Rust index `j`, at or above the innermost frame that holds it,
    makes `(n, j)` a valid cache entry. -/
theorem CacheOk.putAt {h : Heap} {s s' : Scopes} {n : Name} {j fid : Nat} (v : Val) (w : s.WF h)
    (hfa : frameAt s.vars j = some fid) (hle : (find h s.vars n).getD 0 ≤ j)
    (hv : s'.vars = s.vars) (hc : s'.cache = some (n, j)) : CacheOk (putAt h fid n v) s' := by
  intro m i e
  rw [hc] at e; cases e
  rw [hv, find_putAt_same h fid n v (w.valid fid (frameAt_mem _ _ _ hfa)) _ _ w.nodup hfa,
    Nat.max_eq_right hle]

theorem envInsertVar_spec (h : Heap) (s : Scopes) (n : Name) (v : Val) (isGlobal semi : Bool)
    (w : s.WF h) (hc : CacheOk h s) :
    ∃ fid s', targetSpec h s.vars n isGlobal semi = some fid ∧
      envInsertVar h s n v isGlobal semi = some (putAt h fid n v, s') ∧
      s'.vars = s.vars ∧ s'.len = s.len ∧ CacheOk (putAt h fid n v) s' := by
  obtain ⟨g, gs, hv, _, hfl⟩ := frameAt_last_of_wf w
  have hlen := w.len_eq
  obtain ⟨g0, hg0⟩ := frameAt_of_lt s.vars 0 (by rw [hv]; simp)
  have hglob : s.vars.getLast? = some g0 := by rw [← frameAt_zero]; exact hg0
  unfold envInsertVar targetSpec
  rw [← hlen]
  by_cases hgl : (isGlobal || s.len == 1) = true
  · -- `!global` or at the root: frame 0, cache untouched
    simp only [hgl, if_true, insertVar, hg0]
    refine ⟨g0, s, hglob, rfl, rfl, rfl, ?_⟩
    have hg0v := w.valid g0 (frameAt_mem _ _ _ hg0)
    intro m i e
    have hf := hc m i e
    by_cases hm : m = n
    · subst hm
      rw [find_putAt_same h g0 m v hg0v _ _ w.nodup hg0, hf, Option.getD_some, Nat.max_eq_left (Nat.zero_le _)]
    · rw [find_putAt_other h g0 n m v s.vars hg0v hm]; exact hf
  · obtain ⟨hfst, hsv, hsl⟩ := findVar_spec h s n hc
    simp only [hgl, hfst, hsl, insertVar, hsv]
    have hhead : s.vars.head? = some g := by rw [hv]; rfl
    -- the Rust index written to, the frame there, and that it is not below the old hit
    cases hf : find h s.vars n with
    | none =>
      simp only [ite_self, hfl]
      exact ⟨g, _, hhead, rfl, rfl, rfl, .putAt v w hfl (by rw [hf]; exact Nat.zero_le _) rfl rfl⟩
    | some i =>
      by_cases hi : i = 0
      · subst hi
        cases semi with
        | false =>
          simp only [Bool.not_false, beq_self_eq_true, Bool.and_self, if_true, hfl, Bool.false_eq_true, if_false]
          exact ⟨g, _, hhead, rfl, rfl, rfl, .putAt v w hfl (by rw [hf]; exact Nat.zero_le _) rfl rfl⟩
        | true =>
          simp only [Bool.not_true, Bool.false_and, Bool.false_eq_true, if_false, hg0, beq_self_eq_true, if_true]
          exact ⟨g0, _, hglob, rfl, rfl, rfl, .putAt v w hg0 (by rw [hf]; exact Nat.le_refl _) rfl rfl⟩
      · obtain ⟨fid, hfa, _⟩ := find_frameAt h s.vars n i hf
        have hbeq : (i == 0) = false := beq_false_of_ne hi
        simp only [hbeq, Bool.and_false, Bool.false_eq_true, if_false, hfa]
        exact ⟨fid, _, rfl, rfl, rfl, rfl, .putAt v w hfa (by rw [hf]; exact Nat.le_refl _) rfl rfl⟩

theorem step_sim (w : World) (op : Op) (hi : Inv w) :
    stepSpec (erase w) op = (erase (step .now w op).1, (step .now w op).2) ∧
    (step .now w op).2 ≠ .panic := by
  obtain ⟨cw, cc, sw, clw⟩ := hi
  cases op with
  | enter => simp [step, stepSpec, erase, enter]
  | exit =>
    simp only [step, stepSpec, erase, exit, cw.len_eq]
    by_cases hle : w.cur.vars.length ≤ 1 <;> simp [hle]
  | insertLast n v =>
    obtain ⟨g, gs, hv, hl0, hfl⟩ := frameAt_last_of_wf cw
    simp only [step, stepSpec, erase, insertVarLast, hl0, if_false, insertVar, hfl]
    simp [hv]
  | assign n v semi =>
    obtain ⟨fid, s', h1, h3, h4, _, _⟩ := envInsertVar_spec w.heap w.cur n v false semi cw cc
    simp [step, stepSpec, erase, h1, h3, h4]
  | assignGlobal n v =>
    obtain ⟨fid, s', h1, h3, h4, _, _⟩ := envInsertVar_spec w.heap w.cur n v true false cw cc
    simp [step, stepSpec, erase, h1, h3, h4]
  | lookup n =>
    obtain ⟨h1, h2, _, _⟩ := getVar_spec w.heap w.cur n cc
    simp only [step, stepSpec, erase, h1, h2]
    exact ⟨trivial, lookupSpec_ne_panic _ n _⟩
  | closure => simp [step, stepSpec, erase, Scopes.newClosure]
  | call k =>
    simp only [step, stepSpec, erase, List.getElem?_map]
    cases w.closures[k]? <;> simp [Scopes.newClosure]
  | imp => simp [step, stepSpec, erase, Scopes.newClosure]
  | ret =>
    simp only [step, stepSpec, erase]
    cases hs : w.saved <;> simp [hs, Cfg.now]

theorem Inv.set_cur {w : World} (hi : Inv w) {h' : Heap} {s' : Scopes} (hl : w.heap.length ≤ h'.length)
    (hw : s'.WF h') (hc : CacheOk h' s') : Inv { w with heap := h', cur := s' } :=
  ⟨hw, hc, fun s hs => (hi.saved_wf s hs).mono hl, fun s hs => (hi.clos_wf s hs).mono hl⟩

theorem Inv.putAt {w : World} (hi : Inv w) (fid : Nat) (n : Name) (v : Val) {s' : Scopes}
    (hv : s'.vars = w.cur.vars) (hl : s'.len = w.cur.len) (hc : CacheOk (putAt w.heap fid n v) s') :
    Inv { w with heap := putAt w.heap fid n v, cur := s' } :=
  have hle := Nat.le_of_eq (putAt_length w.heap fid n v).symm
  hi.set_cur hle ((hi.cur_wf.congr hv hl).mono hle) hc

/-- `with_environment`: another well-formed environment starts or resumes running without a cache. -/
theorem Inv.switch {w : World} (hi : Inv w) {s : Scopes} {saved : List Scopes} (hw : s.WF w.heap)
    (hc : s.cache = none) (hs : ∀ t ∈ saved, t.WF w.heap) : Inv { w with cur := s, saved := saved } :=
  ⟨hw, .of_none hc, hs, hi.clos_wf⟩

/-- **Invariant preservation** for every operation of the code as it stands. -/
theorem C03_inv_step (w : World) (op : Op) (hi : Inv w) : Inv (step .now w op).1 := by
  have cw := hi.cur_wf
  cases op with
  | enter =>
    refine hi.set_cur (by simp) ⟨?_, ?_, ?_, ?_⟩ ?_
    · simp [cw.len_eq]
    · simp
    · intro f hf
      rcases List.mem_cons.mp hf with rfl | hf
      · simp
      · have := cw.valid f hf; simp; omega
    · exact List.nodup_cons.mpr ⟨fun hmem => Nat.lt_irrefl _ (cw.valid _ hmem), cw.nodup⟩
    · intro m i e
      exact (find_enter w.heap w.cur.vars m).trans (hi.cur_cache m i e)
  | exit =>
    simp only [step]
    split
    · exact hi
    next hlen =>
      refine hi.set_cur (Nat.le_refl _) ⟨?_, ?_, ?_, ?_⟩ (.of_none rfl)
      · simp [exit, cw.len_eq]
      · intro e
        have := congrArg List.length e
        simp [exit, ← cw.len_eq] at this
        omega
      · intro f hf; exact cw.valid f (List.mem_of_mem_tail hf)
      · exact cw.nodup.sublist (List.tail_sublist _)
  | insertLast n v =>
    obtain ⟨g, gs, hv, hl0, hfl⟩ := frameAt_last_of_wf cw
    have hle := find_getD_le w.heap w.cur.vars n
    rw [← cw.len_eq] at hle
    simp only [step, insertVarLast, hl0, if_false, insertVar, hfl]
    exact hi.putAt g n v rfl rfl (.putAt v cw hfl hle rfl rfl)
  | assign n v semi =>
    obtain ⟨fid, s', _, h3, h4, h5, h6⟩ := envInsertVar_spec w.heap w.cur n v false semi cw hi.cur_cache
    simp only [step, h3]
    exact hi.putAt fid n v h4 h5 h6
  | assignGlobal n v =>
    obtain ⟨fid, s', _, h3, h4, h5, h6⟩ := envInsertVar_spec w.heap w.cur n v true false cw hi.cur_cache
    simp only [step, h3]
    exact hi.putAt fid n v h4 h5 h6
  | lookup n =>
    obtain ⟨_, h2, h3, h4⟩ := getVar_spec w.heap w.cur n hi.cur_cache
    exact hi.set_cur (Nat.le_refl _) (cw.congr h2 h3) h4
  | closure =>
    refine ⟨cw, hi.cur_cache, hi.saved_wf, fun s hs => ?_⟩
    rcases List.mem_append.mp hs with hs | hs
    · exact hi.clos_wf s hs
    · obtain rfl := List.mem_singleton.mp hs
      exact cw.congr rfl rfl
  | call k =>
    simp only [step]
    cases hk : w.closures[k]? with
    | none => exact hi
    | some cl =>
      exact hi.switch ((hi.clos_wf cl (List.mem_of_getElem? hk)).congr rfl rfl) rfl
        (List.forall_mem_cons.mpr ⟨cw, hi.saved_wf⟩)
  | imp => exact hi.switch (cw.congr rfl rfl) rfl (List.forall_mem_cons.mpr ⟨cw, hi.saved_wf⟩)
  | ret =>
    have sw := hi.saved_wf
    simp only [step]
    cases hs : w.saved with
    | nil => exact hi
    | cons old rest =>
      rw [hs] at sw
      obtain ⟨hold, hrest⟩ := List.forall_mem_cons.mp sw
      exact hi.switch (s := { old with cache := none }) (hold.congr rfl rfl) rfl hrest

example : Inv (step .now (run .now .init [.assignGlobal 1 10, .enter, .lookup 1, .closure]).1 (.assign 1 20 false)).1 :=
  C03_inv_step _ _ (by rw [← C03_invB_iff]; decide)

/-- The invariant holds in every reachable world. -/
theorem C03_inv_reachable (ops : List Op) : Inv (run .now .init ops).1 := by
  suffices ∀ (w : World), Inv w → Inv (run .now w ops).1 from this _ C03_inv_init
  induction ops with
  | nil => intro w hw; exact hw
  | cons op ops ih =>
    intro w hw
    simp only [run]
    exact ih _ (C03_inv_step w op hw)

theorem run_sim (ops : List Op) : ∀ (w : World), Inv w →
    runSpec (erase w) ops = (erase (run .now w ops).1, (run .now w ops).2) := by
  induction ops with
  | nil => intro w _; rfl
  | cons op ops ih =>
    intro w hw
    simp only [run, runSpec]
    rw [(step_sim w op hw).1]
    simp only []
    rw [ih _ (C03_inv_step w op hw)]

/-- **Cache transparency.**  For every operation sequence, every output of grass's `Scopes` with
    its `last_variable_index` cache (lookups: value / undefined / panic; structural rejections)
    equals the output of the cache-free specification; in particular no lookup or assignment ever
    hits the panicking index paths of scope.rs:120/142. -/
theorem C03_lookup_cached_eq_spec (ops : List Op) :
    (run .now .init ops).2 = (runSpec .init ops).2 := by
  have h := run_sim ops World.init C03_inv_init
  have e : erase World.init = SWorld.init := rfl
  rw [e] at h
  rw [h]

example : (run .now .init [.assignGlobal 1 10, .enter, .lookup 1, .closure, .assign 1 20 false,
    .call 0, .enter, .lookup 1, .exit, .ret, .lookup 1, .exit]).2
    = [.none, .none, .val 10, .none, .none, .none, .none, .val 20, .none, .none, .val 20, .none] := by
  decide

/-- A single lookup in a reachable world: through the cache = specification scan. -/
theorem C03_lookup_reachable (ops : List Op) (n : Name) :
    (getVar (run .now .init ops).1.heap (run .now .init ops).1.cur n).1
      = lookupSpec (run .now .init ops).1.heap (run .now .init ops).1.cur.vars n :=
  (getVar_spec _ _ n (C03_inv_reachable ops).cur_cache).1

example : (getVar (run .now .init [.assignGlobal 1 10, .enter, .lookup 1, .assign 1 20 false]).1.heap
    (run .now .init [.assignGlobal 1 10, .enter, .lookup 1, .assign 1 20 false]).1.cur 1).1 = .val 20 := by decide

/-- No operation sequence makes the cached machine panic (nor, by `C03_lookup_cached_eq_spec`, the
    specification). -/
theorem C03_no_panic (ops : List Op) : Out.panic ∉ (run .now .init ops).2 := by
  suffices ∀ (w : World), Inv w → Out.panic ∉ (run .now w ops).2 from this _ C03_inv_init
  induction ops with
  | nil => intro w _; simp [run]
  | cons op ops ih =>
    intro w hw
    simp only [run, List.mem_cons, not_or]
    exact ⟨(step_sim w op hw).2.symm, ih _ (C03_inv_step w op hw)⟩

/-! ### The as-found variants (tree 8539e4d, defect D3) violate the refinement -/

/-- D3, first variant.  `$x: global; a { z: $x; @mixin m { b: $x } $x: local; @include m }`:
    the read fills the cache with (x, 0); `new_closure` copied the cache into the mixin's
    environment; `$x: local` is declared in the rule's frame, which the closure shares; the call
    reads `$x` through the stale cache and sees the global value 10 instead of 20. -/
def d3ClosureTrace : List Op :=
  [.assignGlobal 1 10, .enter, .lookup 1, .closure, .assign 1 20 false, .call 0, .enter, .lookup 1]

theorem C03_asFound_closure_keeps_cache :
    (run .asFoundClosure .init d3ClosureTrace).2 ≠ (runSpec .init d3ClosureTrace).2 ∧
    (run .asFoundClosure .init d3ClosureTrace).2.getLast? = some (.val 10) ∧
    (runSpec .init d3ClosureTrace).2.getLast? = some (.val 20) ∧
    (run .now .init d3ClosureTrace).2.getLast? = some (.val 20) := by
  decide

/-- D3, second variant.  Inside a rule, after a read of the global `$x`, an `@import` that runs in
    a `for_import` environment (imported file with `@use`) declares `$x` in the rule's frame; on
    return `with_environment` swapped the old environment back with its cache, so the next read
    still answers from frame 0. -/
def d3RestoreTrace : List Op :=
  [.assignGlobal 1 10, .enter, .lookup 1, .imp, .assign 1 20 false, .ret, .lookup 1]

theorem C03_asFound_restore_keeps_cache :
    (run .asFoundRestore .init d3RestoreTrace).2 ≠ (runSpec .init d3RestoreTrace).2 ∧
    (run .asFoundRestore .init d3RestoreTrace).2.getLast? = some (.val 10) ∧
    (runSpec .init d3RestoreTrace).2.getLast? = some (.val 20) ∧
    (run .now .init d3RestoreTrace).2.getLast? = some (.val 20) := by
  decide

/-- In both as-found variants it is the invariant that breaks (so `C03_inv_step` is exactly what
    the repair re-establishes). -/
theorem C03_asFound_inv_broken :
    invB (run .asFoundClosure .init (d3ClosureTrace.take 6)).1 = false ∧
    invB (run .asFoundRestore .init (d3RestoreTrace.take 6)).1 = false ∧
    invB (run .now .init (d3ClosureTrace.take 6)).1 = true ∧
    invB (run .now .init (d3RestoreTrace.take 6)).1 = true := by
  decide

end Grass.Scope

/-!
  Part 2: THE REFERENCE EVALUATOR (Grass/Eval.lean).  The property's main sentence — grass computes
  the values the specification assigns — is the program correspondence of tools/props/c03.py, in
  which `evalProgram` is the specification.  The theorems below are about that specification:
  results do not depend on the amount of fuel once evaluation finishes, `@for` visits exactly the
  specified range, `and`/`or` do not evaluate their right operand when the left decides, and the
  arity rules are exactly the conditions under which binding succeeds.

  `C03_full` (below) stays unproved: it would need a model of the whole of grass's visitor.
-/
namespace Grass.Eval

/-- The full property for the modelled core, for reference (NOT proved; tied by correspondence):
    for every program of the core language on which the specification finishes, real grass emits
    exactly the specification's declarations and log messages.  `grassObservation` stands for the
    real compiler and cannot be defined in Lean. -/
def C03_full (grassObservation : List Stmt → Option (Array (String × String × Option String) × Array (String × String))) : Prop :=
  ∀ (prog : List Stmt) (fuel : Nat) (st : St), evalProgram Dev.spec fuel prog = .finished st →
    grassObservation prog = some (st.css, st.log)

/-! ### fuel -/

theorem run_block_mono (n k : Nat) (ctx : Ctx) (ss : List Stmt) (st : St)
    (h : (run n).block ctx ss st ≠ .oof) : (run (n + k)).block ctx ss st = (run n).block ctx ss st :=
  ((run_le_add n k).block ctx ss st).eq_of_ne_oof h

theorem run_expr_mono (n k : Nat) (ctx : Ctx) (e : Expr) (st : St)
    (h : (run n).expr ctx e st ≠ .oof) : (run (n + k)).expr ctx e st = (run n).expr ctx e st :=
  ((run_le_add n k).expr ctx e st).eq_of_ne_oof h

def Outcome.ranOut : Outcome → Bool
  | .outOfFuel => true
  | _ => false

/-- **Fuel monotonicity**: once a program's evaluation finishes (normally or with an error) with
    some amount of fuel, every larger amount gives the same declarations, log and outcome. -/
theorem C03_fuel_mono (dev : Dev) (n k : Nat) (prog : List Stmt)
    (h : (evalProgram dev n prog).ranOut = false) : evalProgram dev (n + k) prog = evalProgram dev n prog := by
  unfold evalProgram at *
  have hm := run_block_mono n k (Ctx.root dev) prog St.init
  cases hr : (run n).block (Ctx.root dev) prog St.init with
  | oof => rw [hr] at h; simp [Outcome.ranOut] at h
  | ok a st => rw [hm (by rw [hr]; intro c; cases c), hr]
  | err e st => rw [hm (by rw [hr]; intro c; cases c), hr]

example : (evalProgram Dev.spec 3 [.debug (.lit (.bool true))]).ranOut = false := by
  decide

/-! ### and / or -/

/-- `and`: the left operand is evaluated first; the right one only if the left is truthy. -/
theorem C03_and_unfold (n : Nat) (ctx : Ctx) (a b : Expr) (st : St) :
    (run (n + 1)).expr ctx (.bin .and a b) st =
      match (run n).expr ctx a st with
      | .ok x st' => if x.truthy then (run n).expr ctx b st' else .ok x st'
      | .err e st' => .err e st'
      | .oof => .oof := by
  show M.bind ((run n).expr ctx a) _ st = _
  unfold M.bind
  cases (run n).expr ctx a st with
  | ok x st' => simp only []; split <;> rfl
  | err e st' => rfl
  | oof => rfl

theorem C03_or_unfold (n : Nat) (ctx : Ctx) (a b : Expr) (st : St) :
    (run (n + 1)).expr ctx (.bin .or a b) st =
      match (run n).expr ctx a st with
      | .ok x st' => if x.truthy then .ok x st' else (run n).expr ctx b st'
      | .err e st' => .err e st'
      | .oof => .oof := by
  show M.bind ((run n).expr ctx a) _ st = _
  unfold M.bind
  cases (run n).expr ctx a st with
  | ok x st' => simp only []; split <;> rfl
  | err e st' => rfl
  | oof => rfl

/-- **Short circuit**: when the left operand of `and` is falsey (of `or`: truthy) the result is the
    left operand's value and state whatever the right operand is — it is not evaluated, so it can
    neither fail, nor log, nor assign. -/
theorem C03_and_or_short_circuit (n : Nat) (ctx : Ctx) (a b : Expr) (st st' : St) (x : Value)
    (ha : (run n).expr ctx a st = .ok x st') :
    (x.truthy = false → (run (n + 1)).expr ctx (.bin .and a b) st = .ok x st') ∧
    (x.truthy = true → (run (n + 1)).expr ctx (.bin .or a b) st = .ok x st') := by
  constructor
  · intro hx; rw [C03_and_unfold, ha]; simp [hx]
  · intro hx; rw [C03_or_unfold, ha]; simp [hx]

example : (run 3).expr (Ctx.root Dev.spec) (.bin .and (.lit (.bool false)) (.var "undefined")) St.init
    = .ok (.bool false) St.init := by
  have := (C03_and_or_short_circuit 2 (Ctx.root Dev.spec) (.lit (.bool false)) (.var "undefined")
    St.init St.init (.bool false) rfl).1 rfl
  exact this

/-! ### `if()` is lazy -/

/-- **`if($c, $a, $b)` evaluates only the chosen branch**: once the condition has evaluated to `x`,
    the result is the evaluation of `a` (truthy) resp. `b` (falsey) in the state the condition left;
    the other branch does not occur in the result, so an erroring, logging or non-terminating
    expression there does not matter. -/
theorem C03_if_lazy (n : Nat) (ctx : Ctx) (c a b : Expr) (st st' : St) (x : Value)
    (hc : (run n).expr ctx c st = .ok x st') :
    (x.truthy = true → (run (n + 1)).expr ctx (.iff c a b) st = (run n).expr ctx a st') ∧
    (x.truthy = false → (run (n + 1)).expr ctx (.iff c a b) st = (run n).expr ctx b st') := by
  have hu : (run (n + 1)).expr ctx (.iff c a b) st =
      (if x.truthy then (run n).expr ctx a else (run n).expr ctx b) st' := by
    show exprF (run n) ctx (.iff c a b) st = _
    unfold exprF
    exact bind_ok _ _ _ _ _ hc
  constructor
  · intro h; rw [hu]; simp [h]
  · intro h; rw [hu]; simp [h]

/-- the unchosen branch may be an undefined variable (an error if it were evaluated) -/
example : (run 3).expr (Ctx.root Dev.spec) (.iff (.lit (.bool true)) (.lit (.num 1)) (.var "undefined")) St.init
    = .ok (.num 1) St.init :=
  (C03_if_lazy 2 (Ctx.root Dev.spec) (.lit (.bool true)) (.lit (.num 1)) (.var "undefined") St.init St.init
    (.bool true) rfl).1 rfl

/-! ### @for -/

/-- **@for range**: `forRange lo hi inclusive` has the specified length and its `i`-th element is
    `lo ± i` (ascending when `lo ≤ hi`, descending otherwise). -/
theorem C03_for_range (lo hi : Int) (inclusive : Bool) :
    (forRange lo hi inclusive).length =
        (if lo ≤ hi then hi - lo else lo - hi).toNat + (if inclusive then 1 else 0) ∧
    ∀ i, i < (forRange lo hi inclusive).length →
      (forRange lo hi inclusive)[i]? = some (if lo ≤ hi then lo + (i : Int) else lo - (i : Int)) := by
  unfold forRange
  constructor
  · simp
  · intro i hi'
    simp only [List.length_map, List.length_range] at hi'
    simp [List.getElem?_map, List.getElem?_range hi']

/-- Membership form: `to` excludes the end point, `through` includes it, in both directions. -/
theorem C03_for_range_mem (lo hi x : Int) (inclusive : Bool) :
    x ∈ forRange lo hi inclusive ↔
      (lo ≤ hi ∧ lo ≤ x ∧ (if inclusive then x ≤ hi else x < hi)) ∨
      (hi < lo ∧ x ≤ lo ∧ (if inclusive then hi ≤ x else hi < x)) := by
  unfold forRange
  simp only [List.mem_map, List.mem_range]
  constructor
  · rintro ⟨i, hi', rfl⟩
    by_cases h : lo ≤ hi
    · left; simp only [h, if_true] at hi' ⊢
      cases inclusive <;> simp at hi' ⊢ <;> omega
    · right; simp only [h, if_false] at hi' ⊢
      cases inclusive <;> simp at hi' ⊢ <;> omega
  · rintro (⟨h, h1, h2⟩ | ⟨h, h1, h2⟩)
    · refine ⟨(x - lo).toNat, ?_, ?_⟩
      · simp only [h, if_true]; cases inclusive <;> simp at h2 ⊢ <;> omega
      · simp only [h, if_true]; omega
    · have h' : ¬ lo ≤ hi := by omega
      refine ⟨(lo - x).toNat, ?_, ?_⟩
      · simp only [h', if_false]; cases inclusive <;> simp at h2 ⊢ <;> omega
      · simp only [h', if_false]; omega

example : forRange 1 4 false = [1, 2, 3] ∧ forRange 1 4 true = [1, 2, 3, 4] ∧
    forRange 3 0 false = [3, 2, 1] ∧ forRange 3 0 true = [3, 2, 1, 0] ∧ forRange 2 2 false = [] ∧
    forRange 2 2 true = [2] := by decide

/-- grass's loop (`visit_for_stmt`, visitor.rs:1896-1938): `direction = if from > to {-1} else {1}`, `to += direction`
    for `through`, then `while i != to { body(i); i += direction }`; `n` bounds the iterations. -/
def grassForLoop (dir stop : Int) : Nat → Int → List Int
  | 0, _ => []
  | n + 1, i => if i = stop then [] else i :: grassForLoop dir stop n (i + dir)

def grassFor (lo hi : Int) (inclusive : Bool) (fuel : Nat) : List Int :=
  let dir : Int := if lo > hi then -1 else 1
  let stop := if inclusive then hi + dir else hi
  grassForLoop dir stop fuel lo

theorem grassForLoop_eq (dir : Int) (hd : dir ≠ 0) : ∀ (n k : Nat) (i : Int), k ≤ n →
    grassForLoop dir (i + dir * k) n i = (List.range k).map fun (j : Nat) => i + dir * j
  | 0, k, i, hk => by
    have : k = 0 := by omega
    subst this; rfl
  | n + 1, 0, i, _ => by simp [grassForLoop]
  | n + 1, k + 1, i, hk => by
    have hstep : ∀ j : Int, i + dir * (j + 1) = i + dir + dir * j := by
      intro j; rw [Int.mul_add, Int.mul_one]; omega
    have hne : i ≠ i + dir * ((k + 1 : Nat) : Int) := by
      intro e
      have : dir * ((k + 1 : Nat) : Int) = 0 := by omega
      rcases Int.mul_eq_zero.mp this with h | h
      · exact hd h
      · omega
    unfold grassForLoop
    rw [if_neg hne, Int.natCast_succ, hstep, grassForLoop_eq dir hd n k (i + dir) (by omega), List.range_succ_eq_map]
    simp [hstep]

example : grassFor 3 0 true 10 = [3, 2, 1, 0] ∧ grassFor 1 4 false 4 = [1, 2, 3] := by decide

/-- The loop as written in grass visits exactly the specified range (given enough iterations). -/
theorem C03_for_grass_loop (lo hi : Int) (inclusive : Bool) (fuel : Nat)
    (hf : (if lo ≤ hi then hi - lo else lo - hi).toNat + 1 ≤ fuel) :
    grassFor lo hi inclusive fuel = forRange lo hi inclusive := by
  unfold grassFor forRange
  generalize hT : (if lo ≤ hi then hi - lo else lo - hi).toNat = T at hf
  have hkf : T + (if inclusive then 1 else 0) ≤ fuel := by split <;> omega
  -- in both directions the stop value is `lo + dir * (number of values)`
  by_cases h : lo ≤ hi
  · have hd : ¬ lo > hi := Int.not_lt.mpr h
    have hs : (if inclusive then hi + 1 else hi) = lo + 1 * ((T + if inclusive then 1 else 0 : Nat) : Int) := by
      have hT' : (T : Int) = hi - lo := by rw [← hT, if_pos h, Int.toNat_of_nonneg (Int.sub_nonneg_of_le h)]
      split <;> omega
    simp only [hd, h, if_false, if_true, hs]
    rw [grassForLoop_eq 1 (by decide) fuel _ lo hkf]
    simp
  · have hd : lo > hi := Int.not_le.mp h
    have hs : (if inclusive then hi + -1 else hi) = lo + -1 * ((T + if inclusive then 1 else 0 : Nat) : Int) := by
      have hT' : (T : Int) = lo - hi := by
        rw [← hT, if_neg h, Int.toNat_of_nonneg (Int.sub_nonneg_of_le (Int.le_of_lt hd))]
      split <;> omega
    simp only [hd, h, if_false, if_true, hs]
    rw [grassForLoop_eq (-1) (by decide) fuel _ lo hkf]
    apply List.map_congr_left; intro j _; omega

/-! ### argument binding -/

/-- Number of declared parameters at index ≥ `npos` (counting from `i`) that are passed by name. -/
def usedCount (names : List String) (npos : Nat) : Nat → List (String × Option Expr) → Nat
  | _, [] => 0
  | i, (p, _) :: r => (if npos ≤ i ∧ p ∈ names then 1 else 0) + usedCount names npos (i + 1) r

/-- What the arity rules demand of each declared parameter: one passed by position is not also
    named; one not passed by position is named or has a default. -/
def ParamsOk (names : List String) (npos : Nat) (i : Nat) (ps : List (String × Option Expr)) : Prop :=
  ∀ j p d, ps[j]? = some (p, d) →
    (i + j < npos → p ∉ names) ∧ (npos ≤ i + j → p ∈ names ∨ d.isSome = true)

theorem paramsOk_nil (names : List String) (npos i : Nat) : ParamsOk names npos i [] := by
  intro j p d h; simp at h

theorem paramsOk_cons (names : List String) (npos i : Nat) (p : String) (d : Option Expr)
    (rest : List (String × Option Expr)) :
    ParamsOk names npos i ((p, d) :: rest) ↔
      ((i < npos → p ∉ names) ∧ (npos ≤ i → p ∈ names ∨ d.isSome = true)) ∧
      ParamsOk names npos (i + 1) rest := by
  unfold ParamsOk
  constructor
  · intro h
    exact ⟨by simpa using h 0 p d rfl,
      fun j q e hj => by simpa [Nat.add_assoc, Nat.add_comm 1 j] using h (j + 1) q e hj⟩
  · rintro ⟨h0, hr⟩ (_ | j) q e hj
    · obtain ⟨rfl, rfl⟩ : p = q ∧ d = e := by simpa using hj
      simpa using h0
    · simpa [Nat.add_assoc, Nat.add_comm 1 j] using hr j q e hj

theorem go_iff (names : List String) (npos : Nat) (ps : List (String × Option Expr)) (i used u : Nat) :
      verifyArgs.go npos names i ps used = .inr u ↔
        ParamsOk names npos i ps ∧ u = used + usedCount names npos i ps := by
  fun_induction verifyArgs.go npos names i ps used with
  | case1 => simp [paramsOk_nil, usedCount, eq_comm]
  | case2 i p d rest used h1 h2 => simp_all [paramsOk_cons]
  | case3 i p d rest used h1 h2 ih => simp_all [paramsOk_cons, usedCount, Nat.not_le.mpr h1]
  | case4 i p d rest used h1 h2 ih => simp_all [paramsOk_cons, usedCount, Nat.add_assoc]
  | case5 i p d rest used h1 h2 h3 => simp_all [paramsOk_cons]
  | case6 i p d rest used h1 h2 h3 ih => simp_all [paramsOk_cons, usedCount, Option.isSome_iff_ne_none]

theorem go_inl_isSome (names : List String) (npos : Nat) (ps : List (String × Option Expr)) (i used : Nat)
    (e : Option Err) : verifyArgs.go npos names i ps used = .inl e → e.isSome = true := by
  fun_induction verifyArgs.go npos names i ps used with
  | case1 => intro h; cases h
  | case2 => intro h; cases h; rfl
  | case5 => intro h; cases h; rfl
  | case3 _ _ _ _ _ _ _ ih => exact ih
  | case4 _ _ _ _ _ _ _ ih => exact ih
  | case6 _ _ _ _ _ _ _ _ ih => exact ih

/-- **Arity errors ⇔ binding fails.**  `verifyArgs` accepts a call exactly when every declared
    parameter can be bound (not passed twice; passed, named or defaulted) and — without a rest
    parameter — there is no surplus positional argument and every name was consumed by a declared
    parameter (`names.length ≤ usedCount`; with pairwise distinct names this says that every name
    is a declared parameter not passed by position). -/
theorem C03_verify_iff (ps : Params) (npos : Nat) (names : List String) :
    bindable ps npos names = true ↔
      ParamsOk names npos 0 ps.ps ∧
      (ps.rest = none → npos ≤ ps.ps.length ∧ names.length ≤ usedCount names npos 0 ps.ps) := by
  unfold bindable verifyArgs
  cases hgo : verifyArgs.go npos names 0 ps.ps 0 with
  | inl e =>
    have hno : ¬ ParamsOk names npos 0 ps.ps := by
      intro hp
      have := (go_iff names npos ps.ps 0 0 (0 + usedCount names npos 0 ps.ps)).2 ⟨hp, rfl⟩
      rw [hgo] at this; cases this
    obtain ⟨e', rfl⟩ := Option.isSome_iff_exists.mp (go_inl_isSome names npos _ _ _ _ hgo)
    simp [hno]
  | inr used =>
    obtain ⟨hp, hu⟩ := (go_iff names npos ps.ps 0 0 used).1 hgo
    rw [Nat.zero_add] at hu
    subst hu
    simp only [hp, true_and]
    cases hr : ps.rest with
    | some r => simp
    | none =>
      simp only [Option.isSome_none, Bool.false_eq_true, if_false, true_implies]
      split
      · simp; omega
      · split
        · simp; omega
        · simp; omega

example : bindable ⟨[("a", none), ("b", some (.lit .null))], none⟩ 1 [] = true ∧
    bindable ⟨[("a", none), ("b", none)], none⟩ 1 [] = false ∧
    bindable ⟨[("a", none)], none⟩ 2 [] = false ∧
    bindable ⟨[("a", none)], some "rest"⟩ 3 ["zz"] = true ∧
    bindable ⟨[("a", none)], none⟩ 1 ["a"] = false := by decide

/-- Consequences used by the binder: after a successful arity check no `missing-argument` can
    arise while binding, and no parameter is bound twice. -/
theorem C03_verify_ok_binds (ps : Params) (npos : Nat) (names : List String)
    (h : verifyArgs ps npos names = none) (j : Nat) (p : String) (d : Option Expr)
    (hj : ps.ps[j]? = some (p, d)) :
    (j < npos → p ∉ names) ∧ (npos ≤ j → p ∈ names ∨ d.isSome = true) := by
  have hb : bindable ps npos names = true := by simp [bindable, h]
  have := ((C03_verify_iff ps npos names).1 hb).1 j p d hj
  simpa using this

/-!
  ## Scoping, `@return`, `@each`, closures

  The reference evaluator has the semantics the property lists: lexical scoping, `@return` leaving
  loops, `@each` destructuring, closures and content blocks.  The theorems are stated
  over the evaluator's environment operations (`lookupVar`, `findFrame`, `assignTarget`, `setV` =
  the heap after `setVarIn`, `inScope` = entering a block) and over `stmtF` / `run` directly.
  (`C03_precedence` — printer output re-parses to the same tree — is NOT stated: there is no
  model of the Sass expression parser here; the printer lives in tools/props/c03_gen.py.)
-/

/-! ### lexical scoping -/

/-- (a) A variable declared in a nested block (no enclosing scope declares it) lives in the
    block's own frame: visible inside, not visible once the block is left. -/
theorem C03_lexical_scoping_block_local (h : Array Frame) (env : List Nat) (n : String) (v : Value) (semi : Bool)
    (hne : env ≠ []) (hval : ∀ f ∈ env, f < h.size) (hnew : findFrame h env n = none) :
    assignTarget (h.push {}) (h.size :: env) n false semi = some h.size ∧
    lookupVar (setV (h.push {}) h.size n v) (h.size :: env) n = some v ∧
    lookupVar (setV (h.push {}) h.size n v) env n = none := by
  have hsz : h.size < (h.push ({} : Frame)).size := by simp
  refine ⟨?_, lookupVar_setV_top _ _ _ _ _ hsz,
    (lookupVar_setV_fresh h env n n v hval).trans (findFrame_none_lookup h env n hnew)⟩
  rw [assignTarget_child h env n semi hne hval, hnew]

/-- (b) An assignment in a nested block to a variable that an enclosing LOCAL scope declares (or
    to a global one when the block is semi-global) updates that outer variable: the new value is
    what the enclosing scope sees after the block. -/
theorem C03_lexical_scoping_assign_outer (h : Array Frame) (env : List Nat) (n : String) (v : Value) (semi : Bool)
    (f : Nat) (hval : ∀ g ∈ env, g < h.size) (hf : findFrame h env n = some f)
    (hloc : semi = true ∨ some f ≠ env.getLast?) :
    assignTarget (h.push {}) (h.size :: env) n false semi = some f ∧
    lookupVar (setV (h.push {}) f n v) env n = some v := by
  obtain ⟨hmem, _⟩ := findFrame_some h env n f hf
  have hfs : f < h.size := hval f hmem
  constructor
  · rw [assignTarget_child h env n semi (List.ne_nil_of_mem hmem) hval, hf]
    rcases hloc with rfl | hn
    · simp only [if_true]
      split
      next hq => exact (beq_iff_eq.mp hq).symm
      next => rfl
    · simp [hn]
  · have hff' : findFrame (h.push {}) env n = some f := by rw [findFrame_push h env n hval]; exact hf
    exact lookupVar_setV_found _ n v env f hff' (by simp; omega)

/-- (b') … but a GLOBAL variable is not assigned from a local scope that is not semi-global (a
    style rule, a mixin, a function): a local variable of that name is declared instead and the
    global keeps its value. -/
theorem C03_lexical_scoping_global_shadowed (h : Array Frame) (env : List Nat) (n : String) (v : Value) (g : Nat)
    (hval : ∀ f ∈ env, f < h.size) (hf : findFrame h env n = some g) (hg : env.getLast? = some g) :
    assignTarget (h.push {}) (h.size :: env) n false false = some h.size ∧
    lookupVar (setV (h.push {}) h.size n v) env n = lookupVar h env n := by
  obtain ⟨hmem, _⟩ := findFrame_some h env n g hf
  refine ⟨?_, lookupVar_setV_fresh h env n n v hval⟩
  rw [assignTarget_child h env n false (List.ne_nil_of_mem hmem) hval, hf, hg]
  simp

/-- (c) `!global` writes the global frame (the last of the chain) from anywhere, creating the
    variable if need be; the root scope then sees the value. -/
theorem C03_lexical_scoping_global_flag (h : Array Frame) (env : List Nat) (n : String) (v : Value) (semi : Bool)
    (g : Nat) (hg : env.getLast? = some g) (hs : g < h.size) :
    assignTarget h env n true semi = some g ∧ lookupVar (setV h g n v) [g] n = some v := by
  refine ⟨by rw [assignTarget_global, hg], lookupVar_setV_top h g n v [] hs⟩

/-- (d) `!default` assigns only when the variable is unset or null: otherwise the statement does
    nothing at all (the expression is not even evaluated). -/
theorem C03_lexical_scoping_default (r : Rec) (ctx : Ctx) (n : String) (e : Expr) (glob : Bool) (st : St) :
    (∀ cur, lookupVar st.heap ctx.env n = some cur → cur.eq .null = false →
        stmtF r ctx (.var n e glob true) st = .ok none st) ∧
    (lookupVar st.heap ctx.env n = none ∨ (∃ cur, lookupVar st.heap ctx.env n = some cur ∧ cur.eq .null = true) →
        stmtF r ctx (.var n e glob true) st = stmtF r ctx (.var n e glob false) st) := by
  constructor
  · intro cur hc hn
    unfold stmtF
    show M.bind getSt _ st = _
    simp only [M.bind, getSt, hc, hn, Bool.true_and, Bool.not_false, if_true]
    rfl
  · intro hc
    unfold stmtF
    show M.bind getSt _ st = M.bind getSt _ st
    simp only [M.bind, getSt]
    rcases hc with hc | ⟨cur, hc, hn⟩
    · simp [hc]
    · simp [hc, hn]

/-- (e) Control flow keeps the semi-global flag, everything else clears it; at the root the flag
    is set.  Together with (b): `@if/@for/@each/@while` at the top level assign to existing
    global variables, while the same assignment inside a style rule, mixin or function declares a
    local (b'). -/
theorem C03_lexical_scoping_semi_global (r : Rec) (ctx : Ctx) (dev : Dev) (c : Expr) (body : List Stmt) (sel : String) (st : St) :
    (Ctx.root dev).semi = true ∧
    stmtF r ctx (.whil c body) st =
      r.loop { ctx with env := st.heap.size :: ctx.env, semi := ctx.semi } c body { st with heap := st.heap.push {} } ∧
    stmtF r ctx (.rule sel body) st =
      r.block { ctx with env := st.heap.size :: ctx.env, semi := false, sel := sel :: ctx.sel } body
        { st with heap := st.heap.push {} } :=
  ⟨rfl, rfl, rfl⟩

/-- **Lexical scoping**, all clauses: (a) block-local declaration, (b) assignment to an enclosing
    variable, (b') globals are shadowed from non-semi-global local scopes, (c) `!global`,
    (d) `!default`, (e) the semi-global flag. -/
theorem C03_lexical_scoping :
    type_of% @C03_lexical_scoping_block_local ∧ type_of% @C03_lexical_scoping_assign_outer ∧
    type_of% @C03_lexical_scoping_global_shadowed ∧ type_of% @C03_lexical_scoping_global_flag ∧
    type_of% @C03_lexical_scoping_default ∧ type_of% @C03_lexical_scoping_semi_global :=
  ⟨@C03_lexical_scoping_block_local, @C03_lexical_scoping_assign_outer, @C03_lexical_scoping_global_shadowed,
   @C03_lexical_scoping_global_flag, @C03_lexical_scoping_default, @C03_lexical_scoping_semi_global⟩

/-- concrete instance of (a)/(b): `$x: 1` in the global frame 0, a block frame 1 -/
example : assignTarget (#[{ vars := [("x", .num 1)] }, {}] : Array Frame) [1, 0] "x" false true = some 0 ∧
    assignTarget (#[{ vars := [("x", .num 1)] }, {}] : Array Frame) [1, 0] "x" false false = some 1 ∧
    assignTarget (#[{ vars := [("x", .num 1)] }, {}] : Array Frame) [1, 0] "y" false true = some 1 ∧
    assignTarget (#[{ vars := [("x", .num 1)] }, {}] : Array Frame) [1, 0] "y" true false = some 0 := by
  decide

/-! ### @return exits loops -/

/-- Core: running a list of iterations (or statements) stops at the first one that yields a
    `@return` value; the result is that value and the state is the state right after it — nothing
    after it runs, whatever it is. -/
theorem C03_return_exits_loops_forEach {α : Type} (f : α → M (Option Value)) :
    ∀ (pre : List α) (a : α) (post : List α) (st st1 st2 : St) (v : Value),
      forEachM f pre st = .ok none st1 → f a st1 = .ok (some v) st2 →
      forEachM f (pre ++ a :: post) st = .ok (some v) st2
  | [], a, post, st, st1, st2, v, h1, h2 => by
    cases h1
    rw [List.nil_append, forEachM_cons, h2]
  | p :: pre, a, post, st, st1, st2, v, h1, h2 => by
    rw [List.cons_append, forEachM_cons] at *
    generalize f p st = o at h1 ⊢
    match o, h1 with
    | .ok none st', h1 => exact C03_return_exits_loops_forEach f pre a post st' st1 st2 v h1 h2
    | .ok (some _) _, h1 => cases h1
    | .err _ _, h1 => cases h1
    | .oof, h1 => cases h1

/-- A block: statements after a returning statement do not run. -/
theorem C03_return_exits_loops_block (n : Nat) (ctx : Ctx) (pre : List Stmt) (s : Stmt) (post : List Stmt)
    (st st1 st2 : St) (v : Value)
    (h1 : (run (n + 1)).block ctx pre st = .ok none st1)
    (h2 : (tick >>= fun _ => stmtF (run n) ctx s) st1 = .ok (some v) st2) :
    (run (n + 1)).block ctx (pre ++ s :: post) st = .ok (some v) st2 :=
  C03_return_exits_loops_forEach _ pre s post st st1 st2 v h1 h2

/-- `@while`: when the body returns, the condition is not evaluated again. -/
theorem C03_return_exits_loops_while (r : Rec) (ctx : Ctx) (c : Expr) (body : List Stmt)
    (st st1 st2 : St) (x v : Value) (hc : r.expr ctx c st = .ok x st1) (hx : x.truthy = true)
    (hb : r.block ctx body st1 = .ok (some v) st2) :
    loopF r ctx c body st = .ok (some v) st2 := by
  unfold loopF
  rw [bind_ok _ _ _ _ _ hc]
  simp only [hx, if_true]
  rw [bind_ok _ _ _ _ _ hb]; rfl

/-- `@each` (one variable): if iteration `a` returns `v`, the statement returns `v` in the state
    right after that iteration; the remaining elements `post` are irrelevant. -/
theorem C03_return_exits_loops_each (r : Rec) (ctx : Ctx) (x : String) (e : Expr) (body : List Stmt)
    (st st0 st1 st2 : St) (l : Value) (pre post : List Value) (a v : Value)
    (he : r.expr ctx e st = .ok l st0) (hl : asList l = pre ++ a :: post) :
    let fid := st0.heap.size
    let ctx' : Ctx := { ctx with env := fid :: ctx.env, semi := ctx.semi }
    let iter : Value → M (Option Value) := fun w => do setVarIn fid x w; r.block ctx' body
    forEachM iter pre { st0 with heap := st0.heap.push {} } = .ok none st1 →
    iter a st1 = .ok (some v) st2 →
    stmtF r ctx (.each [x] e body) st = .ok (some v) st2 := by
  intro fid ctx' iter h1 h2
  unfold stmtF
  show (r.expr ctx e >>= _) st = _
  rw [bind_ok _ _ _ _ _ he, inScope_eq]
  simp only [Bool.true_and, hl]
  exact C03_return_exits_loops_forEach iter pre a post _ st1 st2 v h1 h2

/-- A user function's value is the value of the `@return` that ended its body. -/
theorem C03_return_exits_loops_call (r : Rec) (ctx' : Ctx) (body : List Stmt) (st st1 : St) (v : Value)
    (hb : r.block ctx' body st = .ok (some v) st1) :
    (do match ← r.block ctx' body with
        | some v => pure v
        | none => fail Err.noReturn : M Value) st = .ok v st1 := by
  rw [bind_ok _ _ _ _ _ hb]; rfl

/-- `@for` (ascending or descending): if the iteration for `i` returns `v`, the statement returns
    `v` in the state right after that iteration; the remaining values `post` of the range are not
    visited. -/
theorem C03_return_exits_loops_for (r : Rec) (ctx : Ctx) (x : String) (lo hi : Expr) (incl : Bool)
    (body : List Stmt) (st st0 st0' st1 st2 : St) (a b : Int) (pre post : List Int) (i : Int) (v : Value)
    (hlo : r.expr ctx lo st = .ok (.num (a : Rat)) st0) (hhi : r.expr ctx hi st0 = .ok (.num (b : Rat)) st0')
    (hl : forRange a b incl = pre ++ i :: post) :
    let fid := st0'.heap.size
    let ctx' : Ctx := { ctx with env := fid :: ctx.env, semi := ctx.semi }
    let iter : Int → M (Option Value) := fun k => do setVarIn fid x (.num k); r.block ctx' body
    forEachM iter pre { st0' with heap := st0'.heap.push {} } = .ok none st1 →
    iter i st1 = .ok (some v) st2 →
    stmtF r ctx (.forr x lo hi incl body) st = .ok (some v) st2 := by
  intro fid ctx' iter h1 h2
  unfold stmtF
  show (r.expr ctx lo >>= _) st = _
  rw [bind_ok _ _ _ _ _ hlo]
  show (intOf _ >>= _) st0 = _
  rw [bind_ok _ _ _ _ _ (intOf_int a st0)]
  show (r.expr ctx hi >>= _) st0 = _
  rw [bind_ok _ _ _ _ _ hhi]
  show (intOf _ >>= _) st0' = _
  rw [bind_ok _ _ _ _ _ (intOf_int b st0'), inScope_eq]
  simp only [Bool.true_and, hl]
  exact C03_return_exits_loops_forEach iter pre i post _ st1 st2 v h1 h2

/-- **Nested loops**: a `@return` in an inner loop (any statement `s` of the outer loop's body that
    yields a value — in particular an inner `@for/@each/@while`, by the theorems above) ends the
    outer `@each` as well: later statements of the body (`spost`) and later elements (`post`) do
    not run; the function then returns that value (`C03_return_exits_loops_call`). -/
theorem C03_return_exits_loops (n : Nat) (ctx : Ctx) (x : String) (e : Expr)
    (spre : List Stmt) (s : Stmt) (spost : List Stmt)
    (st st0 st1 st1' st1'' st2 : St) (l : Value) (pre post : List Value) (a v : Value)
    (he : (run (n + 1)).expr ctx e st = .ok l st0) (hl : asList l = pre ++ a :: post) :
    let fid := st0.heap.size
    let ctx' : Ctx := { ctx with env := fid :: ctx.env, semi := ctx.semi }
    let iter : List Stmt → Value → M (Option Value) := fun b w => do setVarIn fid x w; (run (n + 1)).block ctx' b
    forEachM (iter (spre ++ s :: spost)) pre { st0 with heap := st0.heap.push {} } = .ok none st1 →
    setVarIn fid x a st1 = .ok () st1' →
    (run (n + 1)).block ctx' spre st1' = .ok none st1'' →
    (tick >>= fun _ => stmtF (run n) ctx' s) st1'' = .ok (some v) st2 →
    stmtF (run (n + 1)) ctx (.each [x] e (spre ++ s :: spost)) st = .ok (some v) st2 := by
  intro fid ctx' iter h1 hset hpre hs
  have hiter : iter (spre ++ s :: spost) a st1 = .ok (some v) st2 := by
    show (setVarIn fid x a >>= fun _ => (run (n + 1)).block ctx' (spre ++ s :: spost)) st1 = _
    rw [bind_ok _ _ _ _ _ hset]
    exact C03_return_exits_loops_block n ctx' spre s spost st1' st1'' st2 v hpre hs
  exact C03_return_exits_loops_each (run (n + 1)) ctx x e (spre ++ s :: spost) st st0 st1 st2 l pre post a v
    he hl h1 hiter

/-! ### @each destructuring -/

theorem eachBind_cons (fid : Nat) (x : String) (xs : List String) (vs : List Value) (st : St) :
    eachBind fid (x :: xs) vs st =
      eachBind fid xs vs.tail { st with heap := setV st.heap fid x (vs.head?.getD .null) } := by
  cases vs <;> rfl

/-- Binding `xs` (pairwise distinct) to the elements `vs` of one list element: the `i`-th variable
    gets the `i`-th element, `null` when the element is too short; extra elements are ignored; no
    other variable, frame, declaration or log entry changes. -/
theorem C03_each_destructuring (fid : Nat) :
    ∀ (xs : List String) (vs : List Value) (st : St), xs.Nodup → fid < st.heap.size →
      ∃ st', eachBind fid xs vs st = .ok () st' ∧ st'.css = st.css ∧ st'.log = st.log ∧
        st'.heap.size = st.heap.size ∧
        (∀ (i : Nat) (x : String), xs[i]? = some x → getV st'.heap fid x = some (vs[i]?.getD .null)) ∧
        (∀ g m, (g ≠ fid ∨ m ∉ xs) → getV st'.heap g m = getV st.heap g m)
  | [], vs, st, _, _ => by
    refine ⟨st, ?_, rfl, rfl, rfl, ?_, fun _ _ _ => rfl⟩
    · cases vs <;> rfl
    · intro i x h; simp at h
  | x :: xs, vs, st, hnd, hf => by
    obtain ⟨hx, hnd'⟩ := List.nodup_cons.mp hnd
    obtain ⟨st', h1, h2, h3, h4, h5, h6⟩ := C03_each_destructuring fid xs vs.tail
      { st with heap := setV st.heap fid x (vs.head?.getD .null) } hnd' (by rw [setV_size]; exact hf)
    refine ⟨st', (eachBind_cons fid x xs vs st).trans h1, h2, h3, h4.trans (setV_size ..), ?_, ?_⟩
    · intro i y hy
      cases i with
      | zero =>
        obtain rfl : x = y := by simpa using hy
        rw [h6 fid x (.inr hx), getV_setV _ _ _ _ _ _ hf, if_pos ⟨rfl, rfl⟩]
        cases vs <;> rfl
      | succ i =>
        rw [h5 i y (by simpa using hy)]
        cases vs <;> simp
    · intro g m hgm
      have hne : ¬ (g = fid ∧ m = x) := fun ⟨hg, hm⟩ => hgm.elim (· hg) (· (hm ▸ List.mem_cons_self))
      rw [h6 g m (hgm.imp_right fun h c => h (List.mem_cons_of_mem _ c)), getV_setV _ _ _ _ _ _ hf, if_neg hne]

/-! ### closures and content blocks -/

/-- **Closures capture the defining scope.**  A function whose body is `@return $x`, called from
    ANY context `ctx`, returns what `$x` is in the scope chain `denv` it was defined in, looked up
    in the heap as it is NOW (so later assignments to the defining scope's variables are seen):
    the caller's scope chain `ctx.env` does not occur in the result. -/
theorem C03_closure_captures_definition_scope (n : Nat) (ctx : Ctx) (f x : String) (denv : List Nat) (st : St)
    (hfn : lookupFn st.heap ctx.env f = some { params := ⟨[], none⟩, body := [.ret (.var x)], env := denv })
    (hval : ∀ g ∈ denv, g < st.heap.size) (hw : st.work ≠ 0) :
    (run (n + 4)).expr ctx (.call f [] [] none) st =
      match lookupVar st.heap denv x with
      | some v => .ok v { st with heap := st.heap.push {}, work := st.work - 1 }
      | none => .err .undefinedVariable { st with heap := st.heap.push {}, work := st.work - 1 } := by
  show exprF (run (n + 3)) ctx (.call f [] [] none) st = _
  rw [call_nil_eq _ ctx f _ denv st hfn, block_singleton _ _ _ { st with heap := st.heap.push {} } hw,
    ret_eq _ _ _ _ rfl, show (run (n + 2)).expr = exprF (run (n + 1)) from rfl, var_eq]
  simp only [(lookupVar_fresh_child st.heap denv x hval).1]
  cases lookupVar st.heap denv x <;> rfl

/-- **Mixin bodies run in the defining scope** (any body): including a parameterless mixin runs
    its body in a fresh child frame of the chain `denv` the mixin was DEFINED in — the caller
    contributes only the current style rule (`sel`) and the content block, not its variables. -/
theorem C03_closure_mixin_body_in_definition_scope (r : Rec) (ctx : Ctx) (m : String) (mb : List Stmt)
    (denv : List Nat) (st : St)
    (hm : lookupMixin st.heap ctx.env m = some { params := ⟨[], none⟩, body := mb, env := denv }) :
    stmtF r ctx (.incl m ⟨[], [], none⟩ none) st =
      match r.block { dev := ctx.dev, env := st.heap.size :: denv, semi := false, content := none,
                      sel := ctx.sel, inFn := false } mb { st with heap := st.heap.push {} } with
      | .ok _ s => .ok none s
      | .err e s => .err e s
      | .oof => .oof :=
  incl_nil_eq r ctx m mb denv none st hm rfl

/-- **A content block runs in the caller's scope.**  `@include m { cb }` where `m`'s body is just
    `@content`: the block `cb` runs in a fresh child frame of the INCLUDING site's chain `ctx.env`
    (with the including site's own content block as its `@content`), not of the mixin's chain
    `denv`, which does not occur in the result. -/
theorem C03_content_in_caller_scope (n : Nat) (ctx : Ctx) (m : String) (cb : List Stmt)
    (denv : List Nat) (st : St)
    (hm : lookupMixin st.heap ctx.env m =
      some { params := ⟨[], none⟩, body := [.content ⟨[], [], none⟩], env := denv })
    (hw : st.work ≠ 0) :
    stmtF (run (n + 2)) ctx (.incl m ⟨[], [], none⟩ (some (⟨[], none⟩, cb))) st =
      match (run (n + 1)).block { dev := ctx.dev, env := (st.heap.size + 1) :: ctx.env, semi := false,
                                  content := ctx.content, sel := ctx.sel, inFn := false } cb
              { st with heap := (st.heap.push {}).push {}, work := st.work - 1 } with
      | .ok _ s => .ok none s
      | .err e s => .err e s
      | .oof => .oof := by
  rw [incl_nil_eq _ ctx m _ denv _ st hm (by simp [blockHasContent, stmtHasContent]),
    block_singleton _ _ _ { st with heap := st.heap.push {} } hw, content_nil_eq _ _ cb ctx.env ctx.content _ rfl]
  simp only [Array.size_push]
  cases (run (n + 1)).block _ cb _ <;> rfl

/-! ### numbers with units: the unit algebra of division and multiplication

`multiplyUnits` is written from value/sass_number.rs:56.  The theorems quantify over ALL unit names
(not only `knownUnits`): what they use is only that equal names cancel. -/

/-- `x u / y u` is unitless, `x u / y` keeps `u`, `x / y u` has the unit `u^-1`, `x u * y u` has
    `u*u`, and `(x u*v) / y v` is back to `u`. -/
theorem C03_div_unit_algebra (u v : String) (n d : List String) :
    divUnits [u] [] [u] [] = ([], []) ∧
    divUnits n d [] [] = (n, d) ∧
    divUnits [] [] [u] [] = ([], [u]) ∧
    mulUnits [u] [] [u] [] = ([u, u], []) ∧
    mulUnits n d [] [] = (n, d) ∧
    divUnits [u, v] [] [v] [] = ([u], []) := by
  refine ⟨?_, ?_, ?_, ?_, ?_, ?_⟩
  · simp [divUnits, multiplyUnits, anyShared, cancelLoop, removeFirst]
  · simp [divUnits]
  · simp [divUnits, multiplyUnits, anyShared]
  · simp [mulUnits, multiplyUnits, anyShared, cancelLoop, removeFirst]
  · simp [mulUnits]
  · by_cases h : u = v
    · subst h; simp [divUnits, multiplyUnits, anyShared, cancelLoop, removeFirst]
    · have h' : ¬ v = u := fun e => h e.symm
      simp [divUnits, multiplyUnits, anyShared, cancelLoop, removeFirst, h, h']

example : divUnits ["px"] [] ["px"] [] = ([], []) ∧ divUnits ["px", "em"] [] ["em"] [] = (["px"], []) ∧
    multiplyUnits ["px"] ["s"] ["s"] ["px"] = ([], []) := by decide

/-- A number whose unit is not a single unit is "not a valid CSS value" (serializer.rs:554;
    `dimCss` is the `.dim` clause of `Value.toCss`), whatever its value; one with a single unit is
    never rejected for its unit. -/
theorem C03_complex_unit_not_css (q : Rat) (u v : String) :
    dimCss q [] [u] = .error .invalidCss ∧ dimCss q [u, v] [] = .error .invalidCss ∧
    dimCss q [u] [v] = .error .invalidCss ∧ dimCss q [u] [] ≠ .error .invalidCss := by
  refine ⟨?_, ?_, ?_, ?_⟩
  · simp [dimCss, unitsComplex]
  · simp [dimCss, unitsComplex]
  · simp [dimCss, unitsComplex]
  · simp only [dimCss, unitsComplex]
    cases fmtNum q <;> simp

example : unitText [] ["px"] = "px^-1" ∧ unitText ["px", "em"] [] = "px*em" ∧ unitText ["px"] ["s"] = "px/s" := by
  decide +kernel

/-- **Division of numbers with one unit**, on values: for exactly
    representable `x`, `y ≠ 0` with a short dyadic quotient, `x u / y u = x/y` (unitless),
    `x u / y = (x/y) u`, and `x / y u` is the number `(x/y) u^-1`. -/
theorem C03_div_simple_units (x y : Rat) (u : String) (st : St)
    (hx : exactDouble x = true) (hy : exactDouble y = true) (h0 : y ≠ 0) (hq : shortDyadic (x / y) = true) :
    numBin .div x [u] [] y [u] [] st = .ok (.num (x / y)) st ∧
    numBin .div x [u] [] y [] [] st = .ok (.dim (x / y) [u] []) st ∧
    numBin .div x [] [] y [u] [] st = .ok (.dim (x / y) [] [u]) st := by
  have hq' : exactDouble (x / y) = true := by
    unfold shortDyadic at hq; simp only [Bool.and_eq_true] at hq; exact hq.1
  have h0' : (y == 0) = false := by simpa using h0
  obtain ⟨a1, a2, a3, _, _, _⟩ := C03_div_unit_algebra u u [u] []
  have a2' : divUnits [u] [] [] [] = ([u], []) := by simp [divUnits]
  refine ⟨?_, ?_, ?_⟩
  · simp [numBin, hx, hy, h0', hq, hq', a1, mkNum, pure, M.pure]
  · simp [numBin, hx, hy, h0', hq, hq', a2', mkNum, pure, M.pure]
  · simp [numBin, hx, hy, h0', hq, hq', a3, mkNum, pure, M.pure]

example : exactDouble 6 = true ∧ exactDouble 4 = true ∧ shortDyadic ((6 : Rat) / 4) = true := by decide +kernel

/-- **Incompatible units**: `+ - % < > <= >=` on numbers with two DIFFERENT single units fail with
    "Incompatible units" (bin_op.rs:81, :226, :510; value/mod.rs:351) whatever the values are; with
    the SAME unit `+` and `-` keep the unit. -/
theorem C03_incompatible_units (op : BinOp) (x y : Rat) (u v : String) (st : St)
    (hop : op = .add ∨ op = .sub ∨ op = .mod ∨ op = .lt ∨ op = .gt ∨ op = .le ∨ op = .ge)
    (hx : exactDouble x = true) (hy : exactDouble y = true) (huv : u ≠ v) :
    numBin op x [u] [] y [v] [] st = .err .incompatibleUnits st := by
  have hc : unitsComparable [u] [] [v] [] = false := by simp [unitsComparable, huv]
  rcases hop with h | h | h | h | h | h | h <;> subst h <;> simp [numBin, hx, hy, hc, fail]

theorem C03_same_unit_add_sub (x y : Rat) (u : String) (st : St)
    (hx : exactDouble x = true) (hy : exactDouble y = true)
    (hs : exactDouble (x + y) = true) (hd : exactDouble (x - y) = true) :
    numBin .add x [u] [] y [u] [] st = .ok (.dim (x + y) [u] []) st ∧
    numBin .sub x [u] [] y [u] [] st = .ok (.dim (x - y) [u] []) st := by
  have hc : unitsComparable [u] [] [u] [] = true := by simp [unitsComparable]
  have ha : addUnits [u] [] [u] [] = ([u], []) := by simp [addUnits]
  constructor <;> simp [numBin, hx, hy, hc, ha, hs, hd, mkNum, pure, M.pure]

example : exactDouble 3 = true ∧ exactDouble (1 / 2) = true ∧ exactDouble ((3 : Rat) + 1 / 2) = true ∧
    exactDouble ((3 : Rat) - 1 / 2) = true ∧ ("px" : String) ≠ "em" := by decide +kernel

/-! ### interpolation -/

/-- **Interpolating a string gives its text, quoted or not** (`Value::unquote` before `to_css`):
    the quotes of a quoted string do not appear. -/
theorem C03_interp_string_text (t : String) (q : Bool) (ht : plainTextU t = true) :
    interpText (.str t q) = .ok t := by
  simp [interpText, ht]

/-- … inside `"s#{e}s'"`: the text is `s ++ t ++ s'` whatever the quotes of `e`'s value were. -/
theorem C03_interp_quoted_string (f : Expr → M Value) (e : Expr) (s s' t : String) (q : Bool) (st st' : St)
    (ht : plainTextU t = true) (he : f e st = .ok (.str t q) st') :
    evalInterp f [(s, some e), (s', none)] st = .ok (s ++ t ++ s') st' := by
  have h2 : evalInterp f [(s', none)] st' = .ok s' st' := by
    simp [evalInterp, bind, M.bind, pure, M.pure]
  have hl : liftPrint (interpText (.str t q)) st' = .ok t st' := by
    rw [C03_interp_string_text t q ht]; rfl
  unfold evalInterp
  rw [bind_ok _ _ _ _ _ he, bind_ok _ _ _ _ _ hl, bind_ok _ _ _ _ _ h2]
  rfl

example : plainTextU "bar baz" = true := by decide +kernel

/-! ### concrete instances (the hypotheses of the theorems above are satisfiable) -/

/-- a heap where the global frame declares `$x: 1`, the function `f() { @return $x }` and the mixin
    `m { @content }`; a caller frame 1 declares its own `$x: 2` -/
def exHeap : Array Frame :=
  #[{ vars := [("x", .num 1)],
      fns := [("f", { params := ⟨[], none⟩, body := [.ret (.var "x")], env := [0] })],
      mixins := [("m", { params := ⟨[], none⟩, body := [.content ⟨[], [], none⟩], env := [0] })] },
    { vars := [("x", .num 2)] }]

def exSt : St := { heap := exHeap, css := #[], log := #[] }
def exCtx : Ctx := { dev := Dev.spec, env := [1, 0], semi := false, content := none, sel := ["a"], inFn := false }

/-- called from a scope whose own `$x` is 2, `f()` still returns the defining scope's `$x` = 1 -/
example : ∃ s, (run 4).expr exCtx (.call "f" [] [] none) exSt = .ok (.num 1) s := by
  refine ⟨{ exSt with heap := exSt.heap.push {}, work := exSt.work - 1 }, ?_⟩
  rw [C03_closure_captures_definition_scope 0 exCtx "f" "x" [0] exSt rfl (by decide) (by decide)]
  rfl

example : lookupVar exHeap [1, 0] "x" = some (.num 2) ∧ lookupVar exHeap [0] "x" = some (.num 1) := ⟨rfl, rfl⟩

/-- hypotheses of `C03_content_in_caller_scope` / `C03_closure_mixin_body_in_definition_scope` -/
example : lookupMixin exSt.heap exCtx.env "m" =
    some { params := ⟨[], none⟩, body := [.content ⟨[], [], none⟩], env := [0] } := rfl

example : findFrame exHeap [0] "y" = none ∧ findFrame exHeap [1, 0] "x" = some 1 ∧ findFrame exHeap [0] "x" = some 0 :=
  ⟨rfl, rfl, rfl⟩

/-! ### as-found witnesses for the repaired findings N2 and N4 (tree before e36bfd5 / e10570a) -/

/-- N2: before the repair a space-separated list spread into a rest parameter arrived
    comma-separated; now (and in the specification) it keeps its separator, and arguments passed
    one by one give a comma list. -/
theorem C03_asFound_rest_separator :
    restSep Dev.asFound .space = .comma ∧ restSep Dev.now .space = .space ∧
    (∀ s, restSep Dev.now s = restSep Dev.spec s) ∧ restSep Dev.spec .undecided = .comma := by
  refine ⟨by decide, by decide, ?_, by decide⟩
  intro s; cases s <;> decide

/-- N4: before the repair `@debug "foo"` / `@warn "foo"` delivered the quotes; now (and in the
    specification) the string's text. -/
theorem C03_asFound_message_quotes :
    messageText Dev.asFound true (.str "foo" true) = (Value.str "foo" true).inspect ∧
    messageText Dev.asFound false (.str "foo" true) = (Value.str "foo" true).toCss ∧
    messageText Dev.now true (.str "foo" true) = .ok "foo" ∧
    messageText Dev.now false (.str "foo" true) = .ok "foo" := by
  refine ⟨rfl, rfl, ?_, ?_⟩ <;> simp [messageText, Dev.now, printable, plainText]

/-! ### N5 (repaired in /repo by 8433dfd): `null + "quoted"` -/

/-- The Sass rule gives the quoted string `foo`, and so does grass as it stands (`Dev.now`, after the
    repair); grass as found (`Dev.asFound`) gave the unquoted string whose text contains the quote
    characters. -/
theorem C03_asFound_null_plus_quoted (st : St) :
    binOp Dev.spec .add .null (.str "foo" true) st = .ok (.str "foo" true) st ∧
    binOp Dev.now .add .null (.str "foo" true) st = .ok (.str "foo" true) st ∧
    binOp Dev.asFound .add .null (.str "foo" true) st = .ok (.str "\"foo\"" false) st := by
  refine ⟨?_, ?_, ?_⟩ <;> rfl

end Grass.Eval
