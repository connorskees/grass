import Grass.Proto
/-
  C01 / C18 core — the lexer and the character-level scanners.

  Mirrors
    crates/compiler/src/lexer.rs        `TokenLexer::next` (l.128-146), `Lexer::span_at_index` (l.38-53)
    crates/compiler/src/common.rs       `Identifier::from_str` (l.131-137)
    crates/compiler/src/parse/base.rs   `BaseParser` scanners (whitespace, comments, identifier, escape,
                                        string, declaration_value, try_parse_url)
    crates/compiler/src/parse/sass.rs   `SassParser::whitespace_without_comments` (l.30), `skip_loud_comment` (l.40)
    crates/compiler/src/parse/stylesheet.rs  `parse_interpolated_string` (l.1010), `try_url_contents` (l.797),
                                        `parse_interpolated_identifier` (l.1960),
                                        `parse_interpolated_declaration_value` (l.2070), `almost_any_value` (l.2740)
    crates/compiler/src/parse/value.rs  `parse_number` (l.980), `try_decimal`, `try_exponent`, `consume_natural_number`

  A scanner works on the token buffer `s : Array Char` (the `kind`s produced by the lexer) and a
  cursor `i`.  Every loop of the Rust code is a recursive function here, written WITHOUT fuel:
  Lean accepts the definitions only because it can show `s.size - i` decreases, i.e. because every
  path through the loop body that continues the loop has advanced the cursor.  Where a loop calls
  another scanner, the callee's progress lemma (`…_adv`) is proved first and used in `decreasing_by`.

  Interpolation (`#{`) calls the expression parser, which is above the scanner layer: the
  interpolating variants answer `unsupported` there (never a guess).
-/
namespace Grass.Lexer

/-! ## 1. `TokenLexer` (lexer.rs:128) -/

structure Tok where
  kind : Char
  pos  : Nat          -- byte offset in the source
  deriving DecidableEq, Repr, Inhabited

def FF : Char := Char.ofNat 12
def CR : Char := '\r'
def LF : Char := '\n'

/-- `TokenLexer::next` iterated to the end; `cur` is `self.cursor`.
    FF → LF (1 byte); CR LF → one LF whose `pos` is the LF byte (`cursor += 1` happens before
    `pos` is read); lone CR → LF; anything else is itself, `len_utf8` bytes wide. -/
def lexFrom (cur : Nat) : List Char → List Tok
  | [] => []
  | c :: rest =>
    if c = FF then ⟨LF, cur⟩ :: lexFrom (cur + 1) rest
    else if c = CR then
      match rest with
      | [] => [⟨LF, cur⟩]
      | d :: rest' =>
        if d = LF then ⟨LF, cur + 1⟩ :: lexFrom (cur + 2) rest'
        else ⟨LF, cur⟩ :: lexFrom (cur + 1) (d :: rest')
    else ⟨c, cur⟩ :: lexFrom (cur + c.utf8Size) rest

def lex (s : List Char) : List Tok := lexFrom 0 s

def kinds (ts : List Tok) : List Char := ts.map (·.kind)

/-- Specification of the token kinds: the text with every FF, CRLF, CR written as LF. -/
def normNL : List Char → List Char
  | [] => []
  | c :: rest =>
    if c = FF then LF :: normNL rest
    else if c = CR then
      match rest with
      | [] => [LF]
      | d :: rest' => if d = LF then LF :: normNL rest' else LF :: normNL (d :: rest')
    else c :: normNL rest

/-- Byte length of a text (UTF-8). -/
def byteLen : List Char → Nat
  | [] => 0
  | c :: rest => c.utf8Size + byteLen rest

/-- Byte offsets that are character boundaries of the text, starting at offset `n`
    (includes both ends). -/
def boundaries (n : Nat) : List Char → List Nat
  | [] => [n]
  | c :: rest => n :: boundaries (n + c.utf8Size) rest

/-- The four ways of writing a newline. -/
inductive NL where
  | lf | crlf | cr | ff
  deriving DecidableEq, Repr, Inhabited

def NL.chars : NL → List Char
  | .lf => [LF] | .crlf => [CR, LF] | .cr => [CR] | .ff => [FF]

/-- Write every LF of `s` as `k`. -/
def substNewlines (k : NL) : List Char → List Char
  | [] => []
  | c :: rest => if c = LF then k.chars ++ substNewlines k rest else c :: substNewlines k rest

/-- Positions after LF → CRLF: every token moves right by the number of newlines before it, a
    newline token itself by one more (its `pos` is the LF byte of the pair). -/
def shiftFrom (d : Nat) : List Tok → List Tok
  | [] => []
  | t :: ts =>
    if t.kind = LF then ⟨LF, t.pos + d + 1⟩ :: shiftFrom (d + 1) ts
    else ⟨t.kind, t.pos + d⟩ :: shiftFrom d ts

/-- `Lexer::span_at_index` (lexer.rs:38) for a non-expanded lexer: (start byte, length). -/
def spanAtIndex (ts : Array Tok) (idx : Nat) : Nat × Nat :=
  match ts[idx]? with
  | some t => (t.pos, t.kind.utf8Size)
  | none =>
    match ts.back? with
    | some t => (t.pos, t.kind.utf8Size)
    | none => (0, 0)

/-! ## 2. `Identifier::from_str` (common.rs:131): `_` → `-` -/

def normChar (c : Char) : Char := if c = '_' then '-' else c

def identNorm (s : List Char) : List Char := s.map normChar

/-- Exchange `_` and `-`. -/
def swapChar (c : Char) : Char := if c = '_' then '-' else if c = '-' then '_' else c

def identSwap (s : List Char) : List Char := s.map swapChar

/-- Two characters are the same up to `_`/`-`. -/
def sameUpTo (a b : Char) : Prop := a = b ∨ ((a = '_' ∨ a = '-') ∧ (b = '_' ∨ b = '-'))

instance (a b : Char) : Decidable (sameUpTo a b) := by unfold sameUpTo; infer_instance

/-- Two names are equal up to `_`/`-` (same length, position-wise). -/
def eqUpTo : List Char → List Char → Prop
  | [], [] => True
  | a :: as, b :: bs => sameUpTo a b ∧ eqUpTo as bs
  | _, _ => False

instance eqUpToDec : (a b : List Char) → Decidable (eqUpTo a b)
  | [], [] => isTrue trivial
  | [], _ :: _ => isFalse (by simp [eqUpTo])
  | _ :: _, [] => isFalse (by simp [eqUpTo])
  | a :: as, b :: bs =>
    match (inferInstance : Decidable (sameUpTo a b)), eqUpToDec as bs with
    | isTrue h1, isTrue h2 => isTrue ⟨h1, h2⟩
    | isFalse h1, _ => isFalse (fun h => h1 h.1)
    | _, isFalse h2 => isFalse (fun h => h2 h.2)

/-! ## 2b. The column of a loud comment (serializer.rs:997 `write_comment`) -/

/-- number of characters after the last character satisfying `isBreak` -/
def lastLineLen (isBreak : Char → Bool) : List Char → Nat → Nat
  | [], n => n
  | c :: r, n => if isBreak c then lastLineLen isBreak r 0 else lastLineLen isBreak r (n + 1)

/-- the characters after the last character satisfying `isBreak` (`acc`: the current line, reversed) -/
def lastLine (isBreak : Char → Bool) : List Char → List Char → List Char
  | [], acc => acc.reverse
  | c :: r, acc => if isBreak c then lastLine isBreak r [] else lastLine isBreak r (c :: acc)

/-- LF, CR or FF: the three characters the lexer turns into a newline token -/
def isLineBreak (c : Char) : Bool := c == LF || c == CR || c == FF

def BOMc : Char := Char.ofNat 0xFEFF

/-- The column `Serializer::write_comment` subtracts from the indentation of the continuation lines
    of a loud comment (serializer.rs:997-1011), for a comment that starts right after the text `pre`.
    `asFound = false`: the code as it is NOW (fix e81c3e6) — characters of the comment's own line,
    the line starting after the last LF, CR or FF, byte order marks at the start of that line not
    counted.  `asFound = true`: the variant found on the pinned tree — codemap's column, i.e.
    characters since the last LF only, a BOM counted (kept for the witness in GrassProofs/C18.lean). -/
def commentColumn (asFound : Bool) (pre : List Char) : Nat :=
  if asFound then lastLineLen (· == LF) pre 0
  else ((lastLine isLineBreak pre []).dropWhile (· == BOMc)).length

/-! ## 3. Scanner results -/

inductive ErrClass where
  | expectedMoreInput          -- "expected more input."
  | expectedCommentEnd         -- "expected */."
  | expectedDigit              -- "Expected digit."
  | expectedIdentifier         -- "Expected identifier."
  | expectedEscape             -- "Expected escape sequence."
  | expectedExpression         -- "Expected expression."
  | invalidCodePoint           -- "Invalid Unicode code point."
  | expectedQuote (q : Char)   -- "Expected <q>."
  | expectedChar (c : Char)    -- "expected \"<c>\"."
  | expectedToken              -- "Expected token."
  | expectedString             -- "Expected string."
  | silentCommentInCss         -- "Silent comments aren't allowed in plain CSS."
  deriving DecidableEq, Repr, Inhabited

/-- Which lexer span an error carries (`current_span`, `prev_span`, `span_from(start)`), as token
    indexes; `spanBytes` turns it into bytes through `spanAtIndex`. -/
inductive SpanRef where
  | cur (i : Nat)
  | prev (i : Nat)
  | range (start i : Nat)
  deriving DecidableEq, Repr, Inhabited

/-- (low byte, high byte) of a span reference — `span_at_index`, `prev_span`, `span_from` + `merge`. -/
def spanBytes (ts : Array Tok) : SpanRef → Nat × Nat
  | .cur i => let (p, l) := spanAtIndex ts i; (p, p + l)
  | .prev i => let (p, l) := spanAtIndex ts (i - 1); (p, p + l)
  | .range st i =>
    let (p, l) := spanAtIndex ts st
    let (q, m) := spanAtIndex ts (i - 1)
    (min p q, max (p + l) (q + m))

inductive Res where
  | ok (j : Nat)
  | err (e : ErrClass) (sp : SpanRef)
  | unsupported
  deriving DecidableEq, Repr, Inhabited

/-- Result carrying the text the scanner produced. -/
inductive ResT where
  | ok (j : Nat) (text : List Char)
  | err (e : ErrClass) (sp : SpanRef)
  | unsupported
  deriving DecidableEq, Repr, Inhabited

def ResT.toRes : ResT → Res
  | .ok j _ => .ok j
  | .err e sp => .err e sp
  | .unsupported => .unsupported

/-! ## 4. Character classes (utils/chars.rs) -/

def isDigit (c : Char) : Bool := c.isDigit
def isHex (c : Char) : Bool :=
  c.isDigit || ('a'.toNat ≤ c.toNat && c.toNat ≤ 'f'.toNat) || ('A'.toNat ≤ c.toNat && c.toNat ≤ 'F'.toNat)
/-- `is_name_start`: `_`, alphabetic, or ≥ U+0080 (for ASCII, alphabetic = letter). -/
def isNameStart (c : Char) : Bool := c == '_' || c.isAlpha || c.toNat ≥ 0x80
def isName (c : Char) : Bool := isNameStart c || c.isDigit || c == '-'
/-- `char::is_ascii_whitespace`: space, tab, LF, FF, CR. -/
def isAsciiWs (c : Char) : Bool := c == ' ' || c == '\t' || c == '\n' || c == FF || c == '\r'
def hexVal (c : Char) : Nat :=
  if c.isDigit then c.toNat - 48 else if 'a'.toNat ≤ c.toNat then c.toNat - 87 else c.toNat - 55
/-- `char::from_u32`. -/
def validScalar (v : Nat) : Bool := v < 0xD800 || (0xE000 ≤ v && v ≤ 0x10FFFF)
def hexCharFor (n : Nat) : Char := if n < 10 then Char.ofNat (48 + n) else Char.ofNat (87 + n)

/-! ## 5. Simple loops -/

/-- `whitespace_without_comments`: base.rs:12 (space, tab, newline) and the indented override
    sass.rs:30 (space, tab only). -/
def wsNoComments (ind : Bool) (s : Array Char) (i : Nat) : Nat :=
  if h : i < s.size then
    if s[i] == ' ' || s[i] == '\t' || (s[i] == '\n' && !ind) then wsNoComments ind s (i + 1) else i
  else i
termination_by s.size - i

/-- body of `skip_silent_comment` (base.rs:58): up to, not including, the newline. -/
def untilNewline (s : Array Char) (i : Nat) : Nat :=
  if h : i < s.size then
    if s[i] == '\n' then i else untilNewline s (i + 1)
  else i
termination_by s.size - i

/-- `while self.scan_char('*') {}` -/
def skipStars (s : Array Char) (i : Nat) : Nat :=
  if h : i < s.size then
    if s[i] == '*' then skipStars s (i + 1) else i
  else i
termination_by s.size - i

/-- a run of ASCII digits -/
def skipDigits (s : Array Char) (i : Nat) : Nat :=
  if h : i < s.size then
    if isDigit s[i] then skipDigits s (i + 1) else i
  else i
termination_by s.size - i

theorem wsNoComments_ge (ind : Bool) (s : Array Char) (i : Nat) : i ≤ wsNoComments ind s i := by
  fun_induction wsNoComments ind s i <;> omega

theorem wsNoComments_le (ind : Bool) (s : Array Char) (i : Nat) (hi : i ≤ s.size) :
    wsNoComments ind s i ≤ s.size := by
  fun_induction wsNoComments ind s i <;> omega

theorem untilNewline_ge (s : Array Char) (i : Nat) : i ≤ untilNewline s i := by
  fun_induction untilNewline s i <;> omega

theorem untilNewline_le (s : Array Char) (i : Nat) (hi : i ≤ s.size) : untilNewline s i ≤ s.size := by
  fun_induction untilNewline s i <;> omega

theorem skipStars_ge (s : Array Char) (i : Nat) : i ≤ skipStars s i := by
  fun_induction skipStars s i <;> omega

theorem skipStars_le (s : Array Char) (i : Nat) (hi : i ≤ s.size) : skipStars s i ≤ s.size := by
  fun_induction skipStars s i <;> omega

theorem skipDigits_ge (s : Array Char) (i : Nat) : i ≤ skipDigits s i := by
  fun_induction skipDigits s i <;> omega

theorem skipDigits_le (s : Array Char) (i : Nat) (hi : i ≤ s.size) : skipDigits s i ≤ s.size := by
  fun_induction skipDigits s i <;> omega

/-! ## 6. Loud comments -/

/-- `skip_loud_comment`, SCSS/CSS (base.rs:75), after the opening `/*` has been consumed.
    `while let Some(next) = next() { if next != '*' continue; while scan_char('*') {};
     if scan_char('/') return Ok }  Err("expected more input.")` -/
def loudBody (s : Array Char) (i : Nat) : Res :=
  if h : i < s.size then
    if s[i] == '*' then
      let k := skipStars s (i + 1)
      if h2 : k < s.size then
        if s[k] == '/' then .ok (k + 1) else loudBody s k
      else .err .expectedMoreInput (.cur k)
    else loudBody s (i + 1)
  else .err .expectedMoreInput (.cur i)
termination_by s.size - i
decreasing_by
  · have := skipStars_ge s (i + 1); omega
  · omega

/-- `SassParser::skip_loud_comment` (sass.rs:40) as it is now, after the opening `/*`:
    a newline inside the comment is "expected */." at `prev_span`; end of input is
    "expected more input."; after a run of `*` the next token is consumed whatever it is. -/
def sassLoudBody (s : Array Char) (i : Nat) : Res :=
  if h : i < s.size then
    if s[i] == '\n' then .err .expectedCommentEnd (.prev (i + 1))
    else if s[i] == '*' then
      let k := skipStars s (i + 1)
      if h2 : k < s.size then
        if s[k] == '/' then .ok (k + 1) else sassLoudBody s (k + 1)
      else .err .expectedMoreInput (.cur k)
    else sassLoudBody s (i + 1)
  else .err .expectedMoreInput (.cur i)
termination_by s.size - i
decreasing_by
  · have := skipStars_ge s (i + 1); omega
  · omega

/-- Outcome of a fuel-indexed run. -/
inductive Fueled where
  | outOfFuel
  | done (r : Res)
  deriving DecidableEq, Repr, Inhabited

/-- The same loop AS FOUND on the pinned tree (sass.rs:51 before the fix): `None` fell into
    `_ => continue`, which does not advance.  No measure exists, so this one takes fuel; one unit
    per iteration of the outer `loop`. -/
def sassLoudAsFound : Nat → Array Char → Nat → Fueled
  | 0, _, _ => .outOfFuel
  | fuel + 1, s, i =>
    if h : i < s.size then
      if s[i] == '\n' then .done (.err .expectedCommentEnd (.prev (i + 1)))
      else if s[i] == '*' then
        let k := skipStars s (i + 1)
        if h2 : k < s.size then
          if s[k] == '/' then .done (.ok (k + 1)) else sassLoudAsFound fuel s (k + 1)
        else sassLoudAsFound fuel s k
      else sassLoudAsFound fuel s (i + 1)
    else sassLoudAsFound fuel s i          -- `None => continue`: cursor unchanged

/-! Progress lemmas go by induction along the loop; the named cases are those where the loop goes
    on: from `k` after a sub-scanner consumed `[i', k)` (`adv_then_ge`, `adv_then_adv`), or one
    token further.  What is left answers an error or the cursor itself. -/

theorem adv_then_ge {s : Array Char} {i i' k j : Nat} (a : i' < k ∧ k ≤ s.size)
    (b : k ≤ j ∧ (k ≤ s.size → j ≤ s.size)) (hi : i ≤ i' := by omega) :
    i ≤ j ∧ (i ≤ s.size → j ≤ s.size) := by
  omega

theorem ge_of_adv {s : Array Char} {i j : Nat} (a : i < j ∧ j ≤ s.size) :
    i ≤ j ∧ (i ≤ s.size → j ≤ s.size) := by
  omega

theorem adv_then_adv {s : Array Char} {i k j : Nat} (a : i < k ∧ k ≤ s.size) (b : k < j ∧ j ≤ s.size) :
    i < j ∧ j ≤ s.size := by
  omega

theorem loudBody_adv (s : Array Char) (i j : Nat) (h : loudBody s i = .ok j) : i < j ∧ j ≤ s.size := by
  fun_induction loudBody s i
  case case1 i _ _ k _ _ =>
    have : i + 1 ≤ k := skipStars_ge s (i + 1)
    cases h
    omega
  case case2 i _ _ k _ _ ih =>
    have : i + 1 ≤ k := skipStars_ge s (i + 1)
    have := ih h
    omega
  case case4 ih =>
    have := ih h
    omega
  all_goals cases h

theorem sassLoudBody_adv (s : Array Char) (i j : Nat) (h : sassLoudBody s i = .ok j) :
    i < j ∧ j ≤ s.size := by
  fun_induction sassLoudBody s i
  case case2 i _ _ _ k _ _ =>
    have : i + 1 ≤ k := skipStars_ge s (i + 1)
    cases h
    omega
  case case3 i _ _ _ k _ _ ih =>
    have : i + 1 ≤ k := skipStars_ge s (i + 1)
    have := ih h
    omega
  case case5 ih =>
    have := ih h
    omega
  all_goals cases h

/-! ## 7. `whitespace` with comments (base.rs:24, `scan_comment` base.rs:36) -/

/-- The three stylesheet parsers. -/
inductive Syn where
  | scss | sass | css
  deriving DecidableEq, Repr, Inhabited

def Syn.ind (y : Syn) : Bool := y == .sass

def loudFor (ind : Bool) (s : Array Char) (i : Nat) : Res :=
  if ind then sassLoudBody s i else loudBody s i

theorem loudFor_adv (ind : Bool) (s : Array Char) (i j : Nat) (h : loudFor ind s i = .ok j) :
    i < j ∧ j ≤ s.size := by
  unfold loudFor at h
  split at h
  · exact sassLoudBody_adv s i j h
  · exact loudBody_adv s i j h

/-- `loop { whitespace_without_comments(); if !scan_comment()? { break } }`.
    In plain CSS `skip_silent_comment` is an error (css.rs:28). -/
def whitespace (y : Syn) (s : Array Char) (i : Nat) : Res :=
  let j := wsNoComments y.ind s i
  if h : j + 1 < s.size then
    if s[j] == '/' then
      if s[j + 1] == '/' then
        if y == .css then .err .silentCommentInCss (.cur j)
        else whitespace y s (untilNewline s (j + 2))
      else if s[j + 1] == '*' then
        match hm : loudFor y.ind s (j + 2) with
        | .ok k => whitespace y s k
        | .err e sp => .err e sp
        | .unsupported => .unsupported
      else .ok j
    else .ok j
  else .ok j
termination_by s.size - i
decreasing_by
  · have := wsNoComments_ge y.ind s i
    have := untilNewline_ge s (wsNoComments y.ind s i + 2)
    omega
  · have := wsNoComments_ge y.ind s i
    have := loudFor_adv y.ind s _ _ hm
    omega

theorem whitespace_ge (y : Syn) (s : Array Char) (i j : Nat) (h : whitespace y s i = .ok j) :
    i ≤ j ∧ (i ≤ s.size → j ≤ s.size) := by
  fun_induction whitespace y s i
  case case2 i w _ _ _ _ ih =>
    have : i ≤ w := wsNoComments_ge y.ind s i
    have := untilNewline_ge s (w + 2)
    have := untilNewline_le s (w + 2) (by omega)
    have := ih h
    omega
  case case3 i w _ _ _ _ k hm ih =>
    have : i ≤ w := wsNoComments_ge y.ind s i
    have := loudFor_adv _ _ _ _ hm
    have := ih h
    omega
  case case1 | case4 | case5 => cases h
  case case6 i w _ _ _ _ | case7 i w _ _ | case8 i w _ =>
    have : i ≤ w := wsNoComments_ge y.ind s i
    have : i ≤ s.size → w ≤ s.size := wsNoComments_le y.ind s i
    injection h
    omega

/-! ## 8. Escapes (base.rs:212 `parse_escape`, base.rs:340 `consume_escaped_char`) -/

/-- `for _ in 0..6 { peek hex? … next }`: at most `n` hex digits; returns (cursor, value). -/
def hexRun (s : Array Char) : Nat → Nat → Nat → Nat × Nat
  | 0, i, acc => (i, acc)
  | n + 1, i, acc =>
    if h : i < s.size then
      if isHex s[i] then hexRun s n (i + 1) (acc * 16 + hexVal s[i]) else (i, acc)
    else (i, acc)

theorem hexRun_bounds (s : Array Char) (n i acc : Nat) :
    i ≤ (hexRun s n i acc).1 ∧ (i ≤ s.size → (hexRun s n i acc).1 ≤ s.size) := by
  fun_induction hexRun s n i acc <;> omega

/-- optional single whitespace after a hex escape -/
def skipOne (p : Char → Bool) (s : Array Char) (j : Nat) : Nat :=
  if h : j < s.size then (if p s[j] then j + 1 else j) else j

theorem skipOne_bounds (p : Char → Bool) (s : Array Char) (j : Nat) :
    j ≤ skipOne p s j ∧ (j ≤ s.size → skipOne p s j ≤ s.size) := by
  fun_cases skipOne p s j <;> omega

/-- Text `parse_escape` returns for code point `v` (base.rs:248-265). -/
def escText (idStart : Bool) (v : Nat) : List Char :=
  let c := Char.ofNat v
  if (idStart && isNameStart c && !c.isDigit) || (!idStart && isName c) then [c]
  else if v ≤ 0x1F || v == 0x7F || (idStart && c.isDigit) then
    '\\' :: ((if v > 0xF then [hexCharFor (v / 16)] else []) ++ [hexCharFor (v % 16), ' '])
  else ['\\', c]

/-- `parse_escape(identifier_start)`, cursor on the backslash. -/
def parseEscape (idStart : Bool) (s : Array Char) (i : Nat) : ResT :=
  if h : i < s.size then
    if s[i] != '\\' then .err (.expectedChar '\\') (.cur i)
    else if h1 : i + 1 < s.size then
      if s[i + 1] == '\n' then .err .expectedEscape (.cur (i + 1))
      else if isHex s[i + 1] then
        let r := hexRun s 6 (i + 1) 0
        let j := skipOne (fun c => c == ' ' || c == '\n' || c == '\t') s r.1
        if validScalar r.2 then .ok j (escText idStart r.2) else .err .invalidCodePoint (.range i j)
      else .ok (i + 2) (escText idStart s[i + 1].toNat)
    else .err .expectedExpression (.cur (i + 1))
  else .err (.expectedChar '\\') (.cur i)

theorem hexEscape_adv (p : Char → Bool) (s : Array Char) (i : Nat) (h : i + 1 < s.size)
    (hx : isHex s[i + 1] = true) :
    i < skipOne p s (hexRun s 6 (i + 1) 0).1 ∧ skipOne p s (hexRun s 6 (i + 1) 0).1 ≤ s.size := by
  have a : i + 2 ≤ (hexRun s 6 (i + 1) 0).1 := by
    rw [hexRun, dif_pos h, if_pos hx]
    exact (hexRun_bounds s 5 (i + 2) _).1
  have b := hexRun_bounds s 6 (i + 1) 0
  have c := skipOne_bounds p s (hexRun s 6 (i + 1) 0).1
  omega

theorem parseEscape_adv (b : Bool) (s : Array Char) (i j : Nat) (t : List Char)
    (h : parseEscape b s i = .ok j t) : i < j ∧ j ≤ s.size := by
  revert h
  fun_cases parseEscape b s i
  case case3 hi1 _ hx _ _ _ =>
    intro h
    injection h with hj
    subst hj
    exact hexEscape_adv _ s i hi1 hx
  case case5 =>
    rintro ⟨⟩
    omega
  all_goals nofun

/-- The code point `consume_escaped_char` hands to `char::from_u32(..).unwrap()` for the hex value
    `v` (base.rs:368): 0, the surrogates U+D800..=U+DFFF (closed range) and everything from
    U+10FFFF up become U+FFFD first. -/
def escapedScalar (v : Nat) : Nat :=
  if v == 0 || (0xD800 ≤ v && v ≤ 0xDFFF) || v ≥ 0x10FFFF then 0xFFFD else v

/-- `consume_escaped_char`, cursor on the backslash; the text is the one character it yields. -/
def consumeEscapedChar (s : Array Char) (i : Nat) : ResT :=
  if h : i < s.size then
    if s[i] != '\\' then .err (.expectedChar '\\') (.cur i)
    else if h1 : i + 1 < s.size then
      if s[i + 1] == '\n' || s[i + 1] == '\r' then .err .expectedEscape (.cur (i + 1))
      else if isHex s[i + 1] then
        let r := hexRun s 6 (i + 1) 0
        let j := skipOne isAsciiWs s r.1
        let v := r.2
        .ok j [Char.ofNat (escapedScalar v)]
      else .ok (i + 2) [s[i + 1]]
    else .ok (i + 1) [Char.ofNat 0xFFFD]
  else .err (.expectedChar '\\') (.cur i)

theorem consumeEscapedChar_adv (s : Array Char) (i j : Nat) (t : List Char)
    (h : consumeEscapedChar s i = .ok j t) : i < j ∧ j ≤ s.size := by
  revert h
  fun_cases consumeEscapedChar s i
  case case3 hi1 _ hx _ _ _ =>
    intro h
    injection h with hj
    subst hj
    exact hexEscape_adv _ s i hi1 hx
  case case4 | case5 =>
    rintro ⟨⟩
    omega
  all_goals nofun

/-! ## 9. Identifiers (base.rs:135 `parse_identifier`, base.rs:176 `parse_identifier_body`) -/

def peekIs (s : Array Char) (i : Nat) (c : Char) : Bool :=
  if h : i < s.size then s[i] == c else false

def peekSat (s : Array Char) (i : Nat) (p : Char → Bool) : Bool :=
  if h : i < s.size then p s[i] else false

theorem peekIs_lt {s : Array Char} {i : Nat} {c : Char} (h : peekIs s i c = true) : i < s.size := by
  unfold peekIs at h; split at h <;> simp_all

theorem peekSat_lt {s : Array Char} {i : Nat} {p : Char → Bool} (h : peekSat s i p = true) : i < s.size := by
  unfold peekSat at h; split at h <;> simp_all

/-- `parse_identifier_body`; `acc` is the text so far, reversed. -/
def identBody (norm unit : Bool) (s : Array Char) (i : Nat) (acc : List Char) : ResT :=
  if h : i < s.size then
    if unit && s[i] == '-' then
      if h2 : i + 1 < s.size then
        if s[i + 1] == '.' || isDigit s[i + 1] then .ok i acc.reverse
        else identBody norm unit s (i + 1) ('-' :: acc)
      else .ok i acc.reverse
    else if norm && s[i] == '_' then identBody norm unit s (i + 1) ('-' :: acc)
    else if isName s[i] then identBody norm unit s (i + 1) (s[i] :: acc)
    else if s[i] == '\\' then
      match hm : parseEscape false s i with
      | .ok j t => identBody norm unit s j (t.reverse ++ acc)
      | .err e sp => .err e sp
      | .unsupported => .unsupported
    else .ok i acc.reverse
  else .ok i acc.reverse
termination_by s.size - i
decreasing_by
  all_goals (try omega)
  have := parseEscape_adv false s i _ _ hm; omega

theorem identBody_ge (n u : Bool) (s : Array Char) (i : Nat) (acc : List Char) (j : Nat) (t : List Char)
    (h : identBody n u s i acc = .ok j t) : i ≤ j ∧ (i ≤ s.size → j ≤ s.size) := by
  fun_induction identBody n u s i acc
  case case6 hm ih => exact adv_then_ge (parseEscape_adv _ _ _ _ _ hm) (ih h)
  case case2 ih | case4 ih | case5 ih =>
    have := ih h
    omega
  all_goals cases h <;> omega

/-- `parse_identifier(normalize, unit)`. -/
def parseIdentifier (norm unit : Bool) (s : Array Char) (i : Nat) : ResT :=
  let (a, pre) : Nat × List Char := if peekIs s i '-' then (i + 1, ['-']) else (i, [])
  if a ≠ i ∧ peekIs s a '-' then identBody norm unit s (a + 1) ('-' :: pre)
  else if h : a < s.size then
    if norm && s[a] == '_' then identBody norm unit s (a + 1) ('-' :: pre)
    else if isNameStart s[a] then identBody norm unit s (a + 1) (s[a] :: pre)
    else if s[a] == '\\' then
      match parseEscape true s a with
      | .ok j t => identBody norm unit s j (t.reverse ++ pre)
      | .err e sp => .err e sp
      | .unsupported => .unsupported
    else .err .expectedIdentifier (.cur a)
  else .err .expectedIdentifier (.cur a)

theorem le_optional_step (c : Prop) [Decidable c] (i : Nat) : i ≤ if c then i + 1 else i := by
  split <;> omega

theorem parseIdentifier_adv (n u : Bool) (s : Array Char) (i j : Nat) (t : List Char)
    (h : parseIdentifier n u s i = .ok j t) : i < j ∧ j ≤ s.size := by
  revert h
  fun_cases parseIdentifier n u s i
  case case5 | case6 | case7 | case8 => nofun
  all_goals
    intro h
    have ha := congrArg Prod.fst ‹_ = (_, _)›
    rw [apply_ite Prod.fst] at ha
    have hia := ha ▸ le_optional_step (peekIs s i '-' = true) i
    have hj := identBody_ge _ _ _ _ _ _ _ h
  case case1 hd =>
    have := peekIs_lt hd.2
    omega
  case case2 | case3 => omega
  case case4 hm =>
    have := parseEscape_adv _ _ _ _ _ hm
    omega

/-- `looking_at_identifier` (base.rs:507). -/
def lookingAtIdentifier (s : Array Char) (i : Nat) : Bool :=
  if h : i < s.size then
    if isNameStart s[i] || s[i] == '\\' then true
    else if s[i] == '-' then peekSat s (i + 1) (fun c => isNameStart c || c == '-' || c == '\\')
    else false
  else false


/-! ## 10. Quoted strings (base.rs:290 `parse_string`; stylesheet.rs:1010 `parse_interpolated_string`) -/

def isNewlineTok (c : Char) : Bool := c == '\n' || c == '\r'

/-- body of `parse_string` after the opening quote `q`. -/
def stringBody (q : Char) (s : Array Char) (i : Nat) : Res :=
  if h : i < s.size then
    if s[i] == q then .ok (i + 1)
    else if isNewlineTok s[i] then .err (.expectedQuote q) (.cur i)
    else if s[i] == '\\' then
      if hn : peekSat s (i + 1) isNewlineTok then stringBody q s (i + 2)
      else
        match hm : consumeEscapedChar s i with
        | .ok j _ => stringBody q s j
        | .err e sp => .err e sp
        | .unsupported => .unsupported
    else stringBody q s (i + 1)
  else .err (.expectedQuote q) (.cur i)
termination_by s.size - i
decreasing_by
  · have := peekSat_lt hn; omega
  · have := consumeEscapedChar_adv s i _ _ hm; omega
  · omega

theorem stringBody_adv (q : Char) (s : Array Char) (i j : Nat) (h : stringBody q s i = .ok j) :
    i < j ∧ j ≤ s.size := by
  fun_induction stringBody q s i
  case case4 hm ih => exact adv_then_adv (consumeEscapedChar_adv _ _ _ _ hm) (ih h)
  case case3 ih | case7 ih =>
    have := ih h
    omega
  all_goals cases h <;> omega

/-- `parse_string`: cursor on the opening quote. -/
def parseString (s : Array Char) (i : Nat) : Res :=
  if h : i < s.size then
    if s[i] == '"' || s[i] == '\'' then stringBody s[i] s (i + 1) else .err .expectedString (.cur (i + 1))
  else .err .expectedString (.cur i)

theorem parseString_adv (s : Array Char) (i j : Nat) (h : parseString s i = .ok j) : i < j ∧ j ≤ s.size := by
  revert h
  fun_cases parseString s i
  case case1 =>
    intro h
    have := stringBody_adv _ _ _ _ h
    omega
  all_goals nofun

/-- body of `parse_interpolated_string` after the opening quote; `#{` is above the scanner layer. -/
def istringBody (q : Char) (s : Array Char) (i : Nat) : Res :=
  if h : i < s.size then
    if s[i] == q then .ok (i + 1)
    else if s[i] == '\n' then .err (.expectedQuote q) (.cur i)
    else if s[i] == '\\' then
      if hn : peekIs s (i + 1) '\n' then istringBody q s (i + 2)
      else
        match hm : consumeEscapedChar s i with
        | .ok j _ => istringBody q s j
        | .err e sp => .err e sp
        | .unsupported => .unsupported
    else if s[i] == '#' && peekIs s (i + 1) '{' then .unsupported
    else istringBody q s (i + 1)
  else .err (.expectedQuote q) (.cur i)
termination_by s.size - i
decreasing_by
  · have := peekIs_lt hn; omega
  · have := consumeEscapedChar_adv s i _ _ hm; omega
  · omega

theorem istringBody_adv (q : Char) (s : Array Char) (i j : Nat) (h : istringBody q s i = .ok j) :
    i < j ∧ j ≤ s.size := by
  fun_induction istringBody q s i
  case case4 hm ih => exact adv_then_adv (consumeEscapedChar_adv _ _ _ _ hm) (ih h)
  case case3 ih | case8 ih =>
    have := ih h
    omega
  all_goals cases h <;> omega

def parseIString (s : Array Char) (i : Nat) : Res :=
  if h : i < s.size then
    if s[i] == '"' || s[i] == '\'' then istringBody s[i] s (i + 1) else .err .expectedString (.cur (i + 1))
  else .err .expectedString (.cur i)

theorem parseIString_adv (s : Array Char) (i j : Nat) (h : parseIString s i = .ok j) : i < j ∧ j ≤ s.size := by
  revert h
  fun_cases parseIString s i
  case case1 =>
    intro h
    have := istringBody_adv _ _ _ _ h
    omega
  all_goals nofun

/-! ## 11. Number literal (value.rs:980 `parse_number`, 956 `consume_natural_number`,
       1016 `try_decimal`, 1049 `try_exponent`) -/

def tryDecimal (allowTrailing : Bool) (s : Array Char) (i : Nat) : Res :=
  if h : i < s.size then
    if s[i] != '.' then .ok i
    else if h1 : i + 1 < s.size then
      if !isDigit s[i + 1] then (if allowTrailing then .ok i else .err .expectedDigit (.cur i))
      else .ok (skipDigits s (i + 1))
    else .err .expectedDigit (.cur i)
  else .ok i

def tryExponent (s : Array Char) (i : Nat) : Res :=
  if h : i < s.size then
    if s[i] == 'e' || s[i] == 'E' then
      if h1 : i + 1 < s.size then
        if isDigit s[i + 1] then .ok (skipDigits s (i + 1))
        else if s[i + 1] == '+' || s[i + 1] == '-' then
          if peekSat s (i + 2) isDigit then .ok (skipDigits s (i + 2))
          else .err .expectedDigit (.cur (i + 2))
        else .ok i
      else .ok i
    else .ok i
  else .ok i

/-- cursor after an optional sign -/
def afterSign (s : Array Char) (i : Nat) : Nat :=
  if h : i < s.size then (if s[i] == '+' || s[i] == '-' then i + 1 else i) else i

/-- integer part: nothing if the next token is `.`, else `consume_natural_number`
    (whose `next()` consumes the offending token before reporting it at `prev_span`). -/
def naturalPart (s : Array Char) (a : Nat) : Res :=
  if h : a < s.size then
    if s[a] == '.' then .ok a
    else if isDigit s[a] then .ok (skipDigits s (a + 1))
    else .err .expectedDigit (.prev (a + 1))
  else .err .expectedDigit (.prev a)

/-- the literal without its unit: `[+-]? digits? (. digits)? (e [+-]? digits)?` -/
def numberLit (s : Array Char) (i : Nat) : Res :=
  let a := afterSign s i
  match naturalPart s a with
  | .ok b =>
    match tryDecimal (b != a) s b with
    | .ok c => tryExponent s c
    | r => r
  | r => r

/-- the unit: `%`, or an identifier (`unit = true`) unless it starts with `--`. -/
def numberUnit (s : Array Char) (j : Nat) : Res :=
  if peekIs s j '%' then .ok (j + 1)
  else if lookingAtIdentifier s j && !(peekIs s j '-' && peekIs s (j + 1) '-') then
    (parseIdentifier false true s j).toRes
  else .ok j

def parseNumber (s : Array Char) (i : Nat) : Res :=
  match numberLit s i with
  | .ok j => numberUnit s j
  | r => r

/-! ## 12. `url(` contents -/

inductive UrlRes where
  | url (j : Nat)                    -- `Some(..)`: a plain url, cursor after `)`
  | notUrl                           -- `None`: cursor reset by the caller
  | err (e : ErrClass) (sp : SpanRef)
  | unsupported
  deriving DecidableEq, Repr, Inhabited

def isUrlChar (c : Char) : Bool :=
  c == '!' || c == '%' || c == '&' || ('*'.toNat ≤ c.toNat && c.toNat ≤ '~'.toNat) || c.toNat ≥ 0x80

def isUrlWs (c : Char) : Bool := c == ' ' || c == '\t' || c == '\n' || c == '\r'

/-- loop of `try_url_contents` (stylesheet.rs:810); `hashPlain = true` is the `BaseParser::try_parse_url`
    variant (base.rs:538) where `#` is an ordinary url character. -/
def urlBody (ind hashPlain : Bool) (s : Array Char) (i : Nat) : UrlRes :=
  if h : i < s.size then
    if s[i] == '\\' then
      match hm : parseEscape false s i with
      | .ok j _ => urlBody ind hashPlain s j
      | .err e sp => .err e sp
      | .unsupported => .unsupported
    else if s[i] == '#' then
      if !hashPlain && peekIs s (i + 1) '{' then .unsupported else urlBody ind hashPlain s (i + 1)
    else if isUrlChar s[i] then urlBody ind hashPlain s (i + 1)
    else if s[i] == ')' then .url (i + 1)
    else if isUrlWs s[i] then
      let j := wsNoComments ind s i
      if peekIs s j ')' then .url (j + 1) else .notUrl
    else .notUrl
  else .notUrl
termination_by s.size - i
decreasing_by
  all_goals (try omega)
  have := parseEscape_adv false s i _ _ hm; omega

theorem urlBody_adv (ind hp : Bool) (s : Array Char) (i j : Nat) (h : urlBody ind hp s i = .url j) :
    i < j ∧ j ≤ s.size := by
  fun_induction urlBody ind hp s i
  case case1 hm ih => exact adv_then_adv (parseEscape_adv _ _ _ _ _ hm) (ih h)
  case case8 i _ _ _ _ _ _ w hk =>
    have : i ≤ w := wsNoComments_ge ind s i
    have := peekIs_lt hk
    cases h
    omega
  case case5 ih | case6 ih =>
    have := ih h
    omega
  all_goals cases h <;> omega

/-- `scan_ident_char(c, case_sensitive = false)` for a lower-case ASCII `c` (base.rs:615):
    `some j` matched, `none` no match (cursor unchanged). -/
def scanIdentChar (c : Char) (s : Array Char) (i : Nat) : Except (ErrClass × SpanRef) (Option Nat) :=
  if h : i < s.size then
    if s[i].toLower == c then .ok (some (i + 1))
    else if s[i] == '\\' then
      match consumeEscapedChar s i with
      | .ok j [d] => if d.toLower == c then .ok (some j) else .ok none
      | .ok _ _ => .ok none
      | .err e sp => .error (e, sp)
      | .unsupported => .ok none
    else .ok none
  else .ok none

/-- `scan_identifier("url", false)` (base.rs:585): cursor after `url`, or `none`. -/
def scanUrlIdent (s : Array Char) (i : Nat) : Except (ErrClass × SpanRef) (Option Nat) :=
  if !lookingAtIdentifier s i then .ok none else
  match scanIdentChar 'u' s i with
  | .error e => .error e
  | .ok none => .ok none
  | .ok (some a) =>
    match scanIdentChar 'r' s a with
    | .error e => .error e
    | .ok none => .ok none
    | .ok (some b) =>
      match scanIdentChar 'l' s b with
      | .error e => .error e
      | .ok none => .ok none
      | .ok (some c) =>
        if peekSat s c (fun x => isName x || x == '\\') then .ok none else .ok (some c)

theorem scanIdentChar_adv (c : Char) (s : Array Char) (i j : Nat)
    (h : scanIdentChar c s i = .ok (some j)) : i < j ∧ j ≤ s.size := by
  revert h
  fun_cases scanIdentChar c s i
  case case1 =>
    rintro ⟨⟩
    omega
  case case2 k _ hm _ =>
    rintro ⟨⟩
    exact consumeEscapedChar_adv s i _ _ hm
  all_goals nofun

theorem scanUrlIdent_adv (s : Array Char) (i j : Nat) (h : scanUrlIdent s i = .ok (some j)) :
    i < j ∧ j ≤ s.size := by
  revert h
  fun_cases scanUrlIdent s i
  case case9 _ a ha b hb c hc _ =>
    rintro ⟨⟩
    have := scanIdentChar_adv _ _ _ _ ha
    have := scanIdentChar_adv _ _ _ _ hb
    have := scanIdentChar_adv _ _ _ _ hc
    omega
  all_goals nofun

/-- `BaseParser::try_parse_url` (base.rs:520) at a `u`/`U` token: `url`, `(`, `whitespace()` with
    comments, then the contents with `#` an ordinary character.  Only the selector and media-query
    parsers reach it (through `declaration_value`), so comments are the SCSS ones. -/
def tryUrlBase (s : Array Char) (i : Nat) : UrlRes :=
  match scanUrlIdent s i with
  | .error (e, sp) => .err e sp
  | .ok none => .notUrl
  | .ok (some a) =>
    if peekIs s a '(' then
      match whitespace .scss s (a + 1) with
      | .ok b => urlBody false true s b
      | .err e sp => .err e sp
      | .unsupported => .unsupported
    else .notUrl

/-- The stylesheet parsers' `scan_identifier("url")` + `try_url_contents` (stylesheet.rs:797):
    `whitespace_without_comments` after the paren, `#{` is interpolation. -/
def tryUrlSheet (ind : Bool) (s : Array Char) (i : Nat) : UrlRes :=
  match scanUrlIdent s i with
  | .error (e, sp) => .err e sp
  | .ok none => .notUrl
  | .ok (some a) =>
    if peekIs s a '(' then urlBody ind false s (wsNoComments ind s (a + 1))
    else .notUrl

theorem tryUrlBase_adv (s : Array Char) (i j : Nat) (h : tryUrlBase s i = .url j) : i < j ∧ j ≤ s.size := by
  revert h
  fun_cases tryUrlBase s i
  case case3 a ha _ b hb =>
    intro h
    have := scanUrlIdent_adv _ _ _ ha
    have := whitespace_ge _ _ _ _ hb
    have := urlBody_adv _ _ _ _ _ h
    omega
  all_goals nofun

theorem tryUrlSheet_adv (ind : Bool) (s : Array Char) (i j : Nat) (h : tryUrlSheet ind s i = .url j) :
    i < j ∧ j ≤ s.size := by
  revert h
  fun_cases tryUrlSheet ind s i
  case case3 a ha _ =>
    intro h
    have := scanUrlIdent_adv _ _ _ ha
    have := wsNoComments_ge ind s (a + 1)
    have := urlBody_adv _ _ _ _ _ h
    omega
  all_goals nofun

/-! ## 13. `declaration_value` (base.rs:381): the bracket stack -/

def opens (c : Char) : Bool := c == '[' || c == '(' || c == '{'
def closes (c : Char) : Bool := c == ']' || c == ')' || c == '}'
/-- `opposite_bracket` on an opening bracket -/
def opposite (c : Char) : Char := if c == '(' then ')' else if c == '[' then ']' else '}'

/-- loop of `BaseParser::declaration_value`; `br` is the stack of expected closers. -/
def declValue (s : Array Char) (i : Nat) (br : List Char) : Res :=
  if h : i < s.size then
    if s[i] == '\\' then
      match hm : parseEscape true s i with
      | .ok j _ => declValue s j br
      | .err e sp => .err e sp
      | .unsupported => .unsupported
    else if s[i] == '"' || s[i] == '\'' then
      match hm : parseString s i with
      | .ok j => declValue s j br
      | .err e sp => .err e sp
      | .unsupported => .unsupported
    else if s[i] == '/' then
      if peekIs s (i + 1) '*' then
        match hm : loudBody s (i + 2) with
        | .ok j => declValue s j br
        | .err e sp => .err e sp
        | .unsupported => .unsupported
      else declValue s (i + 1) br
    else if s[i] == '#' then
      if peekIs s (i + 1) '{' then
        -- `parse_identifier` on `#`: always "Expected identifier." (kept as the call the code makes)
        match hm : parseIdentifier false false s i with
        | .ok j _ => declValue s j br
        | .err e sp => .err e sp
        | .unsupported => .unsupported
      else declValue s (i + 1) br
    else if s[i] == ' ' || s[i] == '\t' || s[i] == '\n' || s[i] == '\r' then declValue s (i + 1) br
    else if opens s[i] then declValue s (i + 1) (opposite s[i] :: br)
    else if closes s[i] then
      match br with
      | [] => .ok i
      | e :: br' => if s[i] == e then declValue s (i + 1) br' else .err (.expectedChar e) (.cur i)
    else if s[i] == ';' then
      if br.isEmpty then .ok i else declValue s (i + 1) br
    else if s[i] == 'u' || s[i] == 'U' then
      match hm : tryUrlBase s i with
      | .url j => declValue s j br
      | .notUrl => declValue s (i + 1) br
      | .err e sp => .err e sp
      | .unsupported => .unsupported
    else if lookingAtIdentifier s i then
      match hm : parseIdentifier false false s i with
      | .ok j _ => declValue s j br
      | .err e sp => .err e sp
      | .unsupported => .unsupported
    else declValue s (i + 1) br
  else
    match br with
    | [] => .ok i
    | e :: _ => .err (.expectedChar e) (.cur i)
termination_by s.size - i
decreasing_by
  all_goals (try omega)
  · have := parseEscape_adv true s i _ _ hm; omega
  · have := parseString_adv s i _ hm; omega
  · have := loudBody_adv s (i + 2) _ hm; omega
  · have := parseIdentifier_adv false false s i _ _ hm; omega
  · have := tryUrlBase_adv s i _ hm; omega
  · have := parseIdentifier_adv false false s i _ _ hm; omega

/-- `declaration_value(allow_empty)`. -/
def declarationValue (allowEmpty : Bool) (s : Array Char) (i : Nat) : Res :=
  match declValue s i [] with
  | .ok j => if !allowEmpty && j == i then .err .expectedToken (.cur j) else .ok j
  | r => r

/-! ## 14. The stylesheet parsers' interpolating variants (without `#{`) -/

/-- `parse_interpolated_identifier_body` (stylesheet.rs:1940). -/
def iidentBody (s : Array Char) (i : Nat) : Res :=
  if h : i < s.size then
    if isName s[i] then iidentBody s (i + 1)
    else if s[i] == '\\' then
      match hm : parseEscape false s i with
      | .ok j _ => iidentBody s j
      | .err e sp => .err e sp
      | .unsupported => .unsupported
    else if s[i] == '#' && peekIs s (i + 1) '{' then .unsupported
    else .ok i
  else .ok i
termination_by s.size - i
decreasing_by
  · omega
  · have := parseEscape_adv false s i _ _ hm; omega

theorem iidentBody_ge (s : Array Char) (i j : Nat) (h : iidentBody s i = .ok j) :
    i ≤ j ∧ (i ≤ s.size → j ≤ s.size) := by
  fun_induction iidentBody s i
  case case2 hm ih => exact adv_then_ge (parseEscape_adv _ _ _ _ _ hm) (ih h)
  case case1 ih =>
    have := ih h
    omega
  all_goals cases h <;> omega

/-- `parse_interpolated_identifier` (stylesheet.rs:1960). -/
def parseIIdent (s : Array Char) (i : Nat) : Res :=
  let a := if peekIs s i '-' then i + 1 else i
  if a ≠ i ∧ peekIs s a '-' then iidentBody s (a + 1)
  else if h : a < s.size then
    if isNameStart s[a] then iidentBody s (a + 1)
    else if s[a] == '\\' then
      match parseEscape true s a with
      | .ok j _ => iidentBody s j
      | .err e sp => .err e sp
      | .unsupported => .unsupported
    else if s[a] == '#' && peekIs s (a + 1) '{' then .unsupported
    else .err .expectedIdentifier (.cur a)
  else .err .expectedIdentifier (.cur a)

/-- loop of `parse_interpolated_declaration_value` (stylesheet.rs:2070). -/
def ideclValue (ind allowSemi allowColon : Bool) (s : Array Char) (i : Nat) (br : List Char) : Res :=
  if h : i < s.size then
    if s[i] == '\\' then
      match hm : parseEscape true s i with
      | .ok j _ => ideclValue ind allowSemi allowColon s j br
      | .err e sp => .err e sp
      | .unsupported => .unsupported
    else if s[i] == '"' || s[i] == '\'' then
      match hm : parseIString s i with
      | .ok j => ideclValue ind allowSemi allowColon s j br
      | .err e sp => .err e sp
      | .unsupported => .unsupported
    else if s[i] == '/' then
      if peekIs s (i + 1) '*' then
        match hm : loudFor ind s (i + 2) with
        | .ok j => ideclValue ind allowSemi allowColon s j br
        | .err e sp => .err e sp
        | .unsupported => .unsupported
      else ideclValue ind allowSemi allowColon s (i + 1) br
    else if s[i] == '#' then
      if peekIs s (i + 1) '{' then .unsupported else ideclValue ind allowSemi allowColon s (i + 1) br
    else if s[i] == ' ' || s[i] == '\t' then ideclValue ind allowSemi allowColon s (i + 1) br
    else if s[i] == '\n' || s[i] == '\r' then
      if ind then
        match br with
        | [] => .ok i
        | e :: _ => .err (.expectedChar e) (.cur i)
      else ideclValue ind allowSemi allowColon s (i + 1) br
    else if opens s[i] then ideclValue ind allowSemi allowColon s (i + 1) (opposite s[i] :: br)
    else if closes s[i] then
      match br with
      | [] => .ok i
      | e :: br' =>
        if s[i] == e then ideclValue ind allowSemi allowColon s (i + 1) br' else .err (.expectedChar e) (.cur i)
    else if s[i] == ';' then
      if !allowSemi && br.isEmpty then .ok i else ideclValue ind allowSemi allowColon s (i + 1) br
    else if s[i] == ':' then
      if !allowColon && br.isEmpty then .ok i else ideclValue ind allowSemi allowColon s (i + 1) br
    else if s[i] == 'u' || s[i] == 'U' then
      match hm : tryUrlSheet ind s i with
      | .url j => ideclValue ind allowSemi allowColon s j br
      | .notUrl => ideclValue ind allowSemi allowColon s (i + 1) br
      | .err e sp => .err e sp
      | .unsupported => .unsupported
    else if lookingAtIdentifier s i then
      match hm : parseIdentifier false false s i with
      | .ok j _ => ideclValue ind allowSemi allowColon s j br
      | .err e sp => .err e sp
      | .unsupported => .unsupported
    else ideclValue ind allowSemi allowColon s (i + 1) br
  else
    match br with
    | [] => .ok i
    | e :: _ => .err (.expectedChar e) (.cur i)
termination_by s.size - i
decreasing_by
  all_goals (try omega)
  · have := parseEscape_adv true s i _ _ hm; omega
  · have := parseIString_adv s i _ hm; omega
  · have := loudFor_adv ind s (i + 2) _ hm; omega
  · have := tryUrlSheet_adv ind s i _ hm; omega
  · have := parseIdentifier_adv false false s i _ _ hm; omega

/-- `buffer.contents.is_empty()` after the loop consumed `[i, j)`: nothing consumed, or — indented
    syntax only — nothing but spaces/tabs up to the line break (a space is only written when the next
    token is not whitespace, stylesheet.rs:2121-2135, and the newline is not consumed). -/
def idvBufferEmpty (ind : Bool) (s : Array Char) (i j : Nat) : Bool :=
  j == i || (ind && (s.extract i j).all (fun c => c == ' ' || c == '\t') && peekIs s j '\n')

def interpolatedDeclarationValue (ind allowSemi allowEmpty allowColon : Bool) (s : Array Char) (i : Nat) : Res :=
  match ideclValue ind allowSemi allowColon s i [] with
  | .ok j => if !allowEmpty && idvBufferEmpty ind s i j then .err .expectedToken (.cur j) else .ok j
  | r => r

/-- `almost_any_value` (stylesheet.rs:2740). -/
def almostAny (y : Syn) (s : Array Char) (i : Nat) : Res :=
  if h : i < s.size then
    if s[i] == '\\' then
      if i + 1 < s.size then almostAny y s (i + 2) else .err .expectedMoreInput (.cur (i + 1))
    else if s[i] == '"' || s[i] == '\'' then
      match hm : parseIString s i with
      | .ok j => almostAny y s j
      | .err e sp => .err e sp
      | .unsupported => .unsupported
    else if s[i] == '/' then
      if peekIs s (i + 1) '/' then
        if y == .css then .err .silentCommentInCss (.cur i) else almostAny y s (untilNewline s (i + 2))
      else if peekIs s (i + 1) '*' then
        match hm : loudFor y.ind s (i + 2) with
        | .ok j => almostAny y s j
        | .err e sp => .err e sp
        | .unsupported => .unsupported
      else almostAny y s (i + 1)
    else if s[i] == '#' then
      if peekIs s (i + 1) '{' then .unsupported else almostAny y s (i + 1)
    else if s[i] == '\r' || s[i] == '\n' then
      if y.ind then .ok i else almostAny y s (i + 1)
    else if s[i] == '!' || s[i] == ';' || s[i] == '{' || s[i] == '}' then .ok i
    else if s[i] == 'u' || s[i] == 'U' then
      match hm : tryUrlSheet y.ind s i with
      | .url j => almostAny y s j
      | .notUrl => almostAny y s (i + 1)
      | .err e sp => .err e sp
      | .unsupported => .unsupported
    else if lookingAtIdentifier s i then
      match hm : parseIdentifier false false s i with
      | .ok j _ => almostAny y s j
      | .err e sp => .err e sp
      | .unsupported => .unsupported
    else almostAny y s (i + 1)
  else .ok i
termination_by s.size - i
decreasing_by
  all_goals (try omega)
  · have := parseIString_adv s i _ hm; omega
  · have := untilNewline_ge s (i + 2); omega
  · have := loudFor_adv y.ind s (i + 2) _ hm; omega
  · have := tryUrlSheet_adv y.ind s i _ hm; omega
  · have := parseIdentifier_adv false false s i _ _ hm; omega

/-! ## 15. Conversion guard (value/number.rs:157 `Number::convert`, value/calculation.rs:185 `clamp`)

  Self-contained abstraction (the unit table itself is C08's): a unit is unitless, a member of a
  convertible family (`kind`), or an opaque unit.  `UNIT_CONVERSION_TABLE[to][from]` has an entry
  exactly for two members of one family; indexing a missing key panics (`none` here). -/

inductive U where
  | none
  | conv (kind idx : Nat)
  | other (id : Nat)
  deriving DecidableEq, Repr, Inhabited

/-- `Unit::comparable` (unit/mod.rs:166). -/
def comparable (u v : U) : Bool :=
  match v with
  | .none => true
  | _ =>
    match u with
    | .none => true
    | .conv k _ => (match v with | .conv k' _ => k == k' | _ => false)
    | .other _ => u == v

/-- `SassNumber::has_compatible_units` (value/sass_number.rs:47). -/
def compatible (u v : U) : Bool :=
  if (u == .none || v == .none) && u != v then false else comparable u v

/-- `Number::convert`: `some` = returns, `none` = the table index panics. -/
def convert? (frm to : U) : Option Unit :=
  if frm == .none || to == .none || frm == to then some ()
  else
    match frm, to with
    | .conv k _, .conv k' _ => if k == k' then some () else none
    | _, _ => none

/-- The two conversions `clamp(min, value, max)` performs once its guard passed
    (calculation.rs:195-203); `asFound = true` is the guard of the pinned tree (`is_comparable_to`),
    `false` the present one (`has_compatible_units`).  `none` = panic. -/
def clampConversions (asFound : Bool) (mn v mx : U) : Option Unit :=
  let g := if asFound then comparable mn v && comparable mn mx else compatible mn v && compatible mn mx
  if g then (convert? mn v).bind (fun _ => convert? mx v) else some ()

/-! ## 15b. All modelled scanners under one name -/

inductive Scanner where
  | wsNoComments
  | whitespace
  | loudComment                       -- cursor after the opening `/*`
  | escape (idStart : Bool)
  | escapedChar
  | identifier (norm unit : Bool)
  | interpIdent
  | string
  | interpString
  | number
  | urlBase
  | urlSheet
  | declValue (allowEmpty : Bool)
  | interpDeclValue (allowSemi allowEmpty allowColon : Bool)
  | almostAny
  deriving DecidableEq, Repr, Inhabited

/-- `None` of the url attempts leaves the cursor where it was. -/
def UrlRes.toRes (i : Nat) : UrlRes → Res
  | .url j => .ok j
  | .notUrl => .ok i
  | .err e sp => .err e sp
  | .unsupported => .unsupported

def runScanner (sc : Scanner) (y : Syn) (s : Array Char) (i : Nat) : Res :=
  match sc with
  | .wsNoComments => .ok (wsNoComments y.ind s i)
  | .whitespace => whitespace y s i
  | .loudComment => loudFor y.ind s i
  | .escape b => (parseEscape b s i).toRes
  | .escapedChar => (consumeEscapedChar s i).toRes
  | .identifier n u => (parseIdentifier n u s i).toRes
  | .interpIdent => parseIIdent s i
  | .string => parseString s i
  | .interpString => parseIString s i
  | .number => parseNumber s i
  | .urlBase => (tryUrlBase s i).toRes i
  | .urlSheet => (tryUrlSheet y.ind s i).toRes i
  | .declValue ae => declarationValue ae s i
  | .interpDeclValue a b c => interpolatedDeclarationValue y.ind a b c s i
  | .almostAny => almostAny y s i

/-! ## 16. Per-input predicates used by the theorems and, through the driver, on grass's output -/

/-- P̂ of the lexer part of C18 on one text: with its newlines written in style `k`, the text
    lexes to the same kinds; positions are equal (one-byte styles) or shifted (CRLF). -/
def nlInvariantAt (k : NL) (s : List Char) : Bool :=
  let n := normNL s
  let a := lex (substNewlines k n)
  let b := lex n
  kinds a == kinds b && (if k == .crlf then a == shiftFrom 0 b else a == b)

/-- P̂ for error values (C01, shared with C19): the span `[lo, hi)` lies inside the file and both
    ends are character boundaries of the source. -/
def spanInFile (src : List Char) (lo hi : Nat) : Bool :=
  lo ≤ hi && hi ≤ byteLen src && (boundaries 0 src).contains lo && (boundaries 0 src).contains hi

/-! ## 17. Driver entry points -/
open Grass.Proto

def errName : ErrClass → String
  | .expectedMoreInput => "more-input"
  | .expectedCommentEnd => "comment-end"
  | .expectedDigit => "digit"
  | .expectedIdentifier => "identifier"
  | .expectedEscape => "escape"
  | .expectedExpression => "expression"
  | .invalidCodePoint => "code-point"
  | .expectedQuote q => s!"quote-{q.toNat}"
  | .expectedChar c => s!"char-{c.toNat}"
  | .expectedToken => "token"
  | .expectedString => "string"
  | .silentCommentInCss => "silent-css"

def synOfStr (t : String) : Option Syn :=
  if t == "scss" then some .scss else if t == "sass" then some .sass else if t == "css" then some .css else none

def nlOfStr (t : String) : Option NL :=
  if t == "lf" then some .lf else if t == "crlf" then some .crlf else if t == "cr" then some .cr
  else if t == "ff" then some .ff else none

def resStr (ts : Array Tok) (start nsub : Nat) : Res → String
  | .ok j => s!"ok {j - start} {nsub}"
  | .err e sp => let (lo, hi) := spanBytes ts sp; s!"err {errName e} {lo} {hi} {nsub}"
  | .unsupported => "unsupported"

def urlResStr (ts : Array Tok) (start nsub : Nat) : UrlRes → String
  | .url j => s!"ok {j - start} {nsub}"
  | .notUrl => s!"noturl {nsub}"
  | .err e sp => let (lo, hi) := spanBytes ts sp; s!"err {errName e} {lo} {hi} {nsub}"
  | .unsupported => "unsupported"

def resTStr (ts : Array Tok) (start nsub : Nat) : ResT → String
  | .ok j t => s!"ok {j - start} {nsub} {hexEncode (String.ofList t)}"
  | .err e sp => let (lo, hi) := spanBytes ts sp; s!"err {errName e} {lo} {hi} {nsub}"
  | .unsupported => "unsupported"

/-- `scan <scanner> <syntax> <prefix> <subject> <suffix>` (hex texts): lex the whole text, run the
    scanner at the first token of the subject. -/
def scanOp (name : String) (y : Syn) (pre sub suf : List Char) : String :=
  let ts := (lex (pre ++ sub ++ suf)).toArray
  let s := ts.map (·.kind)
  let start := (lex pre).length
  let nsub := (lex (pre ++ sub)).length - start
  if name == "ws" then resStr ts start nsub (whitespace y s start)
  else if name == "ws+string" then
    (match whitespace y s start with
     | .ok j => resStr ts start nsub (parseString s j)
     | r => resStr ts start nsub r)
  else if name == "wsnc" then resStr ts start nsub (.ok (wsNoComments y.ind s start))
  else if name == "loud" then
    (if peekIs s start '/' && peekIs s (start + 1) '*' then resStr ts start nsub (loudFor y.ind s (start + 2)) else "unsupported")
  else if name == "string" then resStr ts start nsub (parseString s start)
  else if name == "istring" then resStr ts start nsub (parseIString s start)
  else if name == "ident" then resTStr ts start nsub (parseIdentifier false false s start)
  else if name == "identn" then resTStr ts start nsub (parseIdentifier true false s start)
  else if name == "identu" then resTStr ts start nsub (parseIdentifier false true s start)
  else if name == "iident" then resStr ts start nsub (parseIIdent s start)
  else if name == "escape1" then resTStr ts start nsub (parseEscape true s start)
  else if name == "escape0" then resTStr ts start nsub (parseEscape false s start)
  else if name == "number" then resStr ts start nsub (parseNumber s start)
  else if name == "declvalue" then resStr ts start nsub (declarationValue true s start)
  else if name == "declvalue0" then resStr ts start nsub (declarationValue false s start)
  else if name == "cpv" then resStr ts start nsub (interpolatedDeclarationValue y.ind false false true s start)
  else if name == "almostany" then resStr ts start nsub (almostAny y s start)
  else if name == "urlsheet" then urlResStr ts start nsub (tryUrlSheet y.ind s start)
  else if name == "urlbase" then urlResStr ts start nsub (tryUrlBase s start)
  else "bad-op"

def unitOfStr (t : String) : Option U :=
  if t == "n" then some .none
  else if t.startsWith "c" then
    match ((t.drop 1).toString.splitOn ".").mapM (·.toNat?) with
    | some [k, i] => some (.conv k i)
    | _ => none
  else if t.startsWith "o" then (t.drop 1).toString.toNat?.map .other
  else none

def decodeChars (h : String) : Option (List Char) := (hexDecode h).map (·.toList)

def handle : List String → String
  | ["tokens", h] =>
    match decodeChars h with
    | some s => "ok " ++ " ".intercalate ((lex s).map fun t => s!"{t.kind.toNat}:{t.pos}")
    | none => "bad-op"
  | ["kinds", h] =>
    match decodeChars h with
    | some s => "ok " ++ hexEncode (String.ofList (normNL s))
    | none => "bad-op"
  | ["nlcheck", h] =>
    match decodeChars h with
    | some s =>
      match [NL.lf, .crlf, .cr, .ff].find? (fun k => !nlInvariantAt k s) with
      | none => "ok holds"
      | some k => "ok fails " ++ (match k with | .lf => "lf" | .crlf => "crlf" | .cr => "cr" | .ff => "ff")
    | none => "bad-op"
  | ["subst", k, h] =>
    match nlOfStr k, decodeChars h with
    | some k, some s => "ok " ++ hexEncode (String.ofList (substNewlines k (normNL s)))
    | _, _ => "bad-op"
  | ["span", h, lo, hi] =>
    match decodeChars h, lo.toNat?, hi.toNat? with
    | some s, some lo, some hi => "ok " ++ boolStr (spanInFile s lo hi)
    | _, _, _ => "bad-op"
  | ["column", af, h] =>
    match parseBool? af, decodeChars h with
    | some af, some s => s!"ok {commentColumn af s}"
    | _, _ => "bad-op"
  | ["norm", h] =>
    match decodeChars h with
    | some s => "ok " ++ hexEncode (String.ofList (identNorm s))
    | none => "bad-op"
  | ["normeq", a, b] =>
    match decodeChars a, decodeChars b with
    | some a, some b => "ok " ++ boolStr (identNorm a == identNorm b) ++ " " ++ boolStr (decide (eqUpTo a b))
    | _, _ => "bad-op"
  | ["scan", name, y, pre, sub, suf] =>
    match synOfStr y, decodeChars pre, decodeChars sub, decodeChars suf with
    | some y, some pre, some sub, some suf => scanOp name y pre sub suf
    | _, _, _, _ => "bad-op"
  | ["asfound", fuel, h, start] =>
    match fuel.toNat?, decodeChars h, start.toNat? with
    | some fuel, some s, some start =>
      let ts := (lex s).toArray
      match sassLoudAsFound fuel (ts.map (·.kind)) start with
      | .outOfFuel => "ok out-of-fuel"
      | .done r => "ok done " ++ resStr ts start 0 r
    | _, _, _ => "bad-op"
  | ["clamp", af, a, b, c] =>
    match parseBool? af, unitOfStr a, unitOfStr b, unitOfStr c with
    | some af, some a, some b, some c =>
      (match clampConversions af a b c with | some _ => "ok returns" | none => "ok panics")
    | _, _, _, _ => "bad-op"
  | _ => "bad-op"

end Grass.Lexer
